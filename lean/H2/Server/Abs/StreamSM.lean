/-!
# C08 — abstract model of the server's per-stream decision logic

What `serverConn.go` decides about ONE frame that carries a stream id, as a function over small finite
types: the place of the frame's stream in the server's tables (`Pos`), the frame reduced to what the
decisions read (`Fr`), and the connection context (`Ctx`). The result is the class of the reaction and the
stream's next place. One Go function ↔ one Lean definition:

* `readLoop` sequencing rules + `checkFrameWithStream`  → `rl`
* the unknown-stream branch of `handleStreams`           → `unknown`
* `verifyState`, `handleFrame`, `handleHeaderFrame` (the checks before/after the field loop; the field
  loop's own verdict arrives as the block class `Blk`, computed by the C20 model `Msg`) → same names
* `handleState`, the dispatch condition, `closeStream`   → `handleState`, `afterLookup`

All types are finite enumerations (the `forall` combinators at the end range over them), so the theorems of
`H2.Props.C08` rest on evaluation over the table (`H2.Proofs.StreamSM`).
-/
namespace H2.Server.StreamSM

/-- `Stream.state` (the value `reserved` is never assigned by the server) -/
inductive TSt where
  | idle | open | halfClosed | closed
deriving Repr, DecidableEq, Inhabited

/-- the frame's stream id against `sc.lastID` (newest stream opened) and `lastRefused` (highest id refused):
`above` both; `gap`: above `lastID` but not above `lastRefused`; `equal` to / `below` `lastID` -/
inductive Cmp where
  | above | gap | equal | below
deriving Repr, DecidableEq, Inhabited

/-- where the server's tables have the frame's stream -/
inductive Pos where
  /-- in `strms`: state, `headersFinished`, `responded`, `handlerRunning` -/
  | tab (st : TSt) (hf responded running : Bool)
  /-- not in `strms`: in `resetByUs`? in `closedStrms` (the ring)? id against `lastID` -/
  | out (byUs inRing : Bool) (cmp : Cmp)
  /-- an even id: never in any table -/
  | even
deriving Repr, DecidableEq, Inhabited

/-- WINDOW_UPDATE increment against the stream's send window -/
inductive Inc where
  | zero | fits | exact | over          -- 0; window+inc < 2^31-1; = 2^31-1; > 2^31-1
deriving Repr, DecidableEq, Inhabited

/-- verdict of the field loop (+ `validateRequestPseudoHeaders` at END_HEADERS) on the fragment, for the
position of the block in the message — the C20 model `Msg` computes it -/
inductive Blk where
  | wf            -- every field accepted (request block in request position, trailer block in trailer position)
  | malformed     -- RST_STREAM(PROTOCOL_ERROR) from the field loop or the pseudo-header check
  | tooLarge      -- content-length above MaxRequestBodySize: RST_STREAM(ENHANCE_YOUR_CALM)
  | undecodable   -- HPACK error, or a field cut short at END_HEADERS: GOAWAY(COMPRESSION_ERROR)
  | listTooLong   -- header list above MaxHeaderListSize, or an unfinished field already longer than any field within
                  -- it can be (only without END_HEADERS; F68): GOAWAY(ENHANCE_YOUR_CALM)
deriving Repr, DecidableEq, Inhabited

inductive Fr where
  | data (es overBody : Bool)                       -- overBody: recvBody would exceed MaxRequestBodySize
  | headers (es eh selfDep : Bool) (blk : Blk)
  | priority (selfDep : Bool)
  | rst
  | wu (inc : Inc)
  | cont (eh flag1 : Bool) (blk : Blk)              -- flag1: the undefined flag bit 0x1
  | ping | pushPromise                              -- with a stream id
  | other                                           -- SETTINGS / GOAWAY with a stream id
  | ext                                             -- unknown frame type
deriving Repr, DecidableEq, Inhabited

/-- is a header block open (HEADERS without END_HEADERS seen by the read loop)? -/
inductive BlockOn where
  | none | this | other
deriving Repr, DecidableEq, Inhabited

structure Ctx where
  block : BlockOn
  /-- `openStreams >= maxStreams || wasClosing`: a new stream is refused -/
  refuse : Bool
  /-- `getPrevious(FrameHeaders)` exists and has `!headersFinished` -/
  prevUnfinished : Bool
  /-- the stream is the newest one opened (`id == lastID`) -/
  isLast : Bool
  /-- `hasContentLength && recvBody != contentLength` once this frame is in (C20's last clause) -/
  clMismatch : Bool
deriving Repr, DecidableEq, Inhabited

inductive Code where
  | protocol | flowControl | streamClosed | refused | compression | calm
deriving Repr, DecidableEq, Inhabited

def Code.num : Code → Nat
  | .protocol => 1 | .flowControl => 3 | .streamClosed => 5 | .refused => 7 | .compression => 9 | .calm => 11

inductive Reaction where
  | process                 -- took effect on a stream in the table
  | ignore                  -- dropped, nothing changes
  | dispatch                -- processed, and the request goes to the handler
  | streamErr (c : Code)    -- RST_STREAM(c) on the frame's stream (REFUSED_STREAM: the stream is refused)
  | connErr (c : Code)      -- GOAWAY(c)
deriving Repr, DecidableEq, Inhabited

/-! `==` on these small types by comparing a numeric code: cheap to evaluate in the kernel, and lawful. -/

def TSt.code : TSt → Nat | .idle => 0 | .open => 1 | .halfClosed => 2 | .closed => 3
def Cmp.code : Cmp → Nat | .above => 0 | .gap => 1 | .equal => 2 | .below => 3
def Inc.code : Inc → Nat | .zero => 0 | .fits => 1 | .exact => 2 | .over => 3
def Blk.code : Blk → Nat | .wf => 0 | .malformed => 1 | .tooLarge => 2 | .undecodable => 3 | .listTooLong => 4
def BlockOn.code : BlockOn → Nat | .none => 0 | .this => 1 | .other => 2
def Reaction.code : Reaction → Nat
  | .process => 0 | .ignore => 1 | .dispatch => 2 | .streamErr c => 20 + c.num | .connErr c => 40 + c.num

instance : BEq TSt := ⟨fun a b => a.code == b.code⟩
instance : BEq Cmp := ⟨fun a b => a.code == b.code⟩
instance : BEq Inc := ⟨fun a b => a.code == b.code⟩
instance : BEq Blk := ⟨fun a b => a.code == b.code⟩
instance : BEq BlockOn := ⟨fun a b => a.code == b.code⟩
instance : BEq Code := ⟨fun a b => a.num == b.num⟩
instance : BEq Reaction := ⟨fun a b => a.code == b.code⟩

instance : LawfulBEq TSt where
  eq_of_beq {a b} h := by cases a <;> cases b <;> first | rfl | exact absurd h (by decide)
  rfl {a} := by cases a <;> decide
instance : LawfulBEq Cmp where
  eq_of_beq {a b} h := by cases a <;> cases b <;> first | rfl | exact absurd h (by decide)
  rfl {a} := by cases a <;> decide
instance : LawfulBEq Inc where
  eq_of_beq {a b} h := by cases a <;> cases b <;> first | rfl | exact absurd h (by decide)
  rfl {a} := by cases a <;> decide
instance : LawfulBEq Blk where
  eq_of_beq {a b} h := by cases a <;> cases b <;> first | rfl | exact absurd h (by decide)
  rfl {a} := by cases a <;> decide
instance : LawfulBEq BlockOn where
  eq_of_beq {a b} h := by cases a <;> cases b <;> first | rfl | exact absurd h (by decide)
  rfl {a} := by cases a <;> decide
instance : LawfulBEq Code where
  eq_of_beq {a b} h := by cases a <;> cases b <;> first | rfl | exact absurd h (by decide)
  rfl {a} := by cases a <;> decide

theorem Code.num_inj {a b : Code} (h : a.num = b.num) : a = b := by
  -- `num` has a left inverse
  have inv : ∀ c : Code, c = (match c.num with
      | 1 => .protocol | 3 => .flowControl | 5 => .streamClosed | 7 => .refused | 9 => .compression | _ => .calm) := by
    intro c; cases c <;> rfl
  rw [inv a, inv b, h]

theorem Reaction.code_inj {a b : Reaction} (h : a.code = b.code) : a = b := by
  have inv : ∀ r : Reaction, r = (match r.code with
      | 0 => .process | 1 => .ignore | 2 => .dispatch
      | 21 => .streamErr .protocol | 23 => .streamErr .flowControl | 25 => .streamErr .streamClosed
      | 27 => .streamErr .refused | 29 => .streamErr .compression | 31 => .streamErr .calm
      | 41 => .connErr .protocol | 43 => .connErr .flowControl | 45 => .connErr .streamClosed
      | 47 => .connErr .refused | 49 => .connErr .compression | _ => .connErr .calm) := by
    intro r; cases r <;> first | rfl | (rename_i c; cases c <;> rfl)
  rw [inv a, inv b, h]

instance : LawfulBEq Reaction where
  eq_of_beq {a b} h := Reaction.code_inj ((beq_iff_eq (a := a.code) (b := b.code)).mp h)
  rfl {a} := (beq_iff_eq (a := a.code) (b := a.code)).mpr rfl

def Reaction.isError : Reaction → Bool
  | .streamErr _ | .connErr _ => true
  | _ => false

/-! ## read loop -/

/-- `readLoop`: CONTINUATION sequencing, then `checkFrameWithStream`. `some r`: the read loop answers
itself; `none`: the frame goes on to the stream loop (for `ext`: is discarded). -/
def rl (p : Pos) (f : Fr) (c : Ctx) : Option Reaction :=
  let isCont := match f with | .cont .. => true | _ => false
  if c.block != .none then
    if !(isCont && c.block == .this) then some (.connErr .protocol)     -- "expected a CONTINUATION frame"
    else none
  else if isCont then some (.connErr .protocol)                         -- "unexpected CONTINUATION frame"
  else
    match f with
    | .ext => some .ignore
    | .ping | .pushPromise => some (.connErr .protocol)
    | _ => (match p with | .even => some (.connErr .protocol) | _ => none)

/-! ## stream loop -/

/-- an in-table stream: state, `headersFinished`, `responded`, `handlerRunning` -/
structure T where
  st : TSt
  hf : Bool
  responded : Bool
  running : Bool
deriving Repr, DecidableEq, Inhabited

inductive Err where
  | conn (c : Code)       -- GoAwayError
  | strm (c : Code)       -- ResetStreamError
deriving Repr, DecidableEq

def continuingHeaders (t : T) (f : Fr) : Bool :=
  match f with
  | .cont .. => !t.hf
  | _ => false

def isHeaders : Fr → Bool | .headers .. => true | _ => false
def isRst : Fr → Bool | .rst => true | _ => false

/-- `verifyState` -/
def verifyState (t : T) (f : Fr) : Option Err :=
  match t.st with
  | .idle =>
    match f with
    | .headers .. | .priority _ => none
    | _ => some (.conn .protocol)
  | .halfClosed =>
    if continuingHeaders t f then none
    else match f with
      | .wu _ | .priority _ | .rst => none
      | _ => some (.conn .streamClosed)
  | _ => none

def blkErr : Blk → Option Err
  | .wf => none
  | .malformed => some (.strm .protocol)
  | .tooLarge => some (.strm .calm)
  | .undecodable => some (.conn .compression)
  | .listTooLong => some (.conn .calm)

/-- `handleHeaderFrame` + the END_HEADERS part of `handleFrame`; `es`: flag bit 0x1 of the frame -/
def handleHeaderFrame (t : T) (es eh selfDep : Bool) (blk : Blk) : Except Err T :=
  -- a trailer section that does not end the stream: a stream error once its block has been decoded, which
  -- needs the whole block in this frame; a block that goes on in CONTINUATION: "stream not open"
  let notLast := t.hf && !es
  if notLast && !eh then .error (.conn .protocol)
  else
    let t := if t.hf && !eh then { t with hf := false } else t  -- a trailer block going on in CONTINUATION
    if selfDep then .error (.conn .protocol)
    else match blkErr blk with
      | some e => .error e
      | none =>
        if notLast then .error (.strm .protocol)
        else .ok (if eh then { t with hf := true } else t)

def closedRank (t : T) : Bool := t.st == .halfClosed || t.st == .closed     -- `State() >= StreamStateHalfClosed`

/-- `handleFrame` -/
def handleFrame (t : T) (f : Fr) : Except Err T :=
  match verifyState t f with
  | some e => .error e
  | none =>
    match f with
    | .headers es eh selfDep blk =>
      if closedRank t && !continuingHeaders t f then .error (.conn .protocol)
      else handleHeaderFrame t es eh selfDep blk
    | .cont eh flag1 blk =>
      if closedRank t && !continuingHeaders t f then .error (.conn .protocol)
      else handleHeaderFrame t flag1 eh false blk
    | .data _ overBody =>
      if !t.hf then .error (.conn .protocol)                    -- "stream didn't end the headers"
      else if closedRank t then .error (.conn .streamClosed)
      else if overBody then .error (.strm .calm)
      else .ok t
    | .rst => if t.st == .idle then .error (.conn .protocol) else .ok t
    | .priority selfDep =>
      if t.st != .idle && !t.hf then .error (.conn .protocol)   -- "frame priority on an open stream"
      else if selfDep then .error (.conn .protocol)
      else .ok t
    | .wu inc =>
      if t.st == .idle then .error (.conn .protocol)
      else match inc with
        | .zero => .error (.conn .protocol)
        | .over => .error (.strm .flowControl)
        | _ => .ok t
    | _ => .error (.conn .protocol)                             -- "invalid frame"

/-- END_STREAM as `handleState` reads it: only on DATA and HEADERS -/
def endStream : Fr → Bool
  | .data es _ => es
  | .headers es _ _ _ => es
  | _ => false

/-- `handleState` -/
def handleState (f : Fr) (t : T) : T :=
  let t := if isRst f then { t with st := .closed } else t
  match t.st with
  | .idle => if isHeaders f then { t with st := if endStream f then .halfClosed else .open } else t
  | .open =>
    if endStream f then { t with st := .halfClosed }
    else if isRst f then { t with st := .closed } else t
  | .halfClosed => if isRst f then { t with st := .closed } else t
  | .closed => t

/-- the place of a stream that `closeStream` took out of the table -/
def closedPos (byUs : Bool) (c : Ctx) : Pos := .out byUs true (if c.isLast then .equal else .below)

def T.pos (t : T) : Pos := .tab t.st t.hf t.responded t.running

/-- the rest of the `case fr := <-sc.reader` arm once the stream is there: the previous-block check,
`handleFrame`, the error path, `handleState`, dispatch, close -/
def afterLookup (t : T) (f : Fr) (c : Ctx) : Reaction × Pos :=
  if isHeaders f && c.prevUnfinished then (.connErr .protocol, t.pos)      -- `continue`: this stream stays as it is
  else
    match handleFrame t f with
    | .error (.conn code) => (.connErr code, (T.pos { t with st := .closed }))   -- `break loop`
    | .error (.strm code) =>
      -- writeError → RST_STREAM; state closed; handleState; closeStream
      (.streamErr code, closedPos true c)
    | .ok t =>
      let t := handleState f t
      if t.st == .halfClosed && t.hf && !t.responded then
        if c.clMismatch then (.streamErr .protocol, closedPos true c)
        else (.dispatch, T.pos { t with responded := true, running := true })
      else if t.st == .closed then (.process, closedPos false c)
      else (.process, t.pos)

/-- the unknown-stream branch of `handleStreams` -/
def unknown (byUs inRing : Bool) (cmp : Cmp) (f : Fr) (c : Ctx) : Reaction × Pos :=
  let here : Pos := .out byUs inRing cmp
  if byUs then (.ignore, here)
  else if isRst f then
    if cmp == .above || cmp == .gap then (.connErr .protocol, here) else (.ignore, here)   -- `fr.Stream() > sc.lastID`
  else if inRing then
    match f with
    | .priority _ | .wu _ => (.ignore, here)
    | _ => (.connErr .streamClosed, here)
  else if !isHeaders f then
    match f with
    | .priority selfDep => if selfDep then (.connErr .protocol, here) else (.ignore, here)
    | _ =>
      if cmp == .above || cmp == .gap then (.connErr .protocol, here)     -- "wrong frame on idle stream"
      else match f with
        | .wu _ => (.ignore, here)
        | _ => (.connErr .streamClosed, here)
  else if c.refuse then
    (.streamErr .refused, .out true inRing (if cmp == .above then .gap else cmp))   -- `lastRefused` moves up to it
  else if cmp != .above then (.connErr .protocol, here)                   -- "stream ID is lower than the latest"
  else
    -- created: idle, the newest stream
    afterLookup ⟨.idle, false, false, false⟩ f { c with isLast := true }

/-- the decision on one frame: reaction class and the stream's next place -/
def react (p : Pos) (f : Fr) (c : Ctx) : Reaction × Pos :=
  match rl p f c with
  | some r => (r, p)
  | none =>
    match p with
    | .even => (.connErr .protocol, p)
    | .out byUs inRing cmp => unknown byUs inRing cmp f c
    | .tab st hf responded running => afterLookup ⟨st, hf, responded, running⟩ f c

/-! ## the other things that move a stream -/

/-- events on one stream id: a frame of the peer, or what the server and the rest of the connection do -/
inductive Ev where
  | frame (f : Fr) (c : Ctx)
  /-- the handler reported back; `fin`: the response went out completely (END_STREAM sent); `rstByUs`: a body
  read error ended it with RST_STREAM(INTERNAL_ERROR) -/
  | handlerDone (fin rstByUs isLast : Bool)
  /-- buffered response data finished after a WINDOW_UPDATE / SETTINGS (`rstByUs`: ended by a body read error) -/
  | respEnd (rstByUs isLast : Bool)
  /-- a newer stream was opened: `lastID` moved past this id -/
  | newer
  /-- a stream with a higher id was refused: `lastRefused` moved past this id -/
  | higherRefused
  /-- the id left the `closedStrms` ring / the `resetByUs` set (both bounded) -/
  | evictRing
  | forgetReset
deriving Repr, DecidableEq

/-- can the event happen to a stream at `p`? (a handler reports back only while it runs, …) -/
def Ev.enabled (p : Pos) : Ev → Bool
  | .frame .. => true
  | .handlerDone .. => (match p with | .tab _ _ _ true => true | _ => false)
  | .respEnd .. => (match p with | .tab _ _ true false => true | _ => false)
  | .newer => (match p with | .out .. => true | _ => false)
  | .higherRefused => (match p with | .out _ _ .above => true | _ => false)
  | .evictRing => (match p with | .out _ true _ => true | _ => false)
  | .forgetReset => (match p with | .out true _ _ => true | _ => false)

def stepEv (p : Pos) : Ev → Option Reaction × Pos
  | .frame f c => let (r, p') := react p f c; (some r, p')
  | .handlerDone fin rstByUs isLast =>
    match p with
    | .tab st hf responded true =>
      if fin then (none, .out rstByUs true (if isLast then .equal else .below))
      else (none, .tab st hf responded false)
    | _ => (none, p)
  | .respEnd rstByUs isLast =>
    match p with
    | .tab _ _ true false => (none, .out rstByUs true (if isLast then .equal else .below))
    | _ => (none, p)
  | .newer =>
    match p with
    | .out a b _ => (none, .out a b .below)
    | _ => (none, p)
  | .higherRefused =>
    match p with
    | .out a b .above => (none, .out a b .gap)
    | _ => (none, p)
  | .evictRing =>
    match p with
    | .out a _ cmp => (none, .out a false cmp)
    | _ => (none, p)
  | .forgetReset =>
    match p with
    | .out _ b cmp => (none, .out false b cmp)
    | _ => (none, p)

/-- the reactions to a sequence of events on one stream id, from a given place -/
def run (p : Pos) : List Ev → List Reaction × Pos
  | [] => ([], p)
  | e :: es =>
    let (r, p') := stepEv p e
    let (rs, p'') := run p' es
    ((match r with | some r => [r] | none => []) ++ rs, p'')

/-- a stream id nobody has used yet -/
def Pos.fresh : Pos := .out false false .above

/-! ## bounded quantifiers over the finite types (for proofs by evaluation) -/

@[inline] def allB (q : Bool → Bool) : Bool := q false && q true
def TSt.forall (q : TSt → Bool) : Bool := q .idle && q .open && q .halfClosed && q .closed
def Cmp.forall (q : Cmp → Bool) : Bool := q .above && q .gap && q .equal && q .below
def Inc.forall (q : Inc → Bool) : Bool := q .zero && q .fits && q .exact && q .over
def Blk.forall (q : Blk → Bool) : Bool := q .wf && q .malformed && q .tooLarge && q .undecodable && q .listTooLong
def BlockOn.forall (q : BlockOn → Bool) : Bool := q .none && q .this && q .other

def Pos.forall (q : Pos → Bool) : Bool :=
  (TSt.forall fun st => allB fun a => allB fun b => allB fun c => q (.tab st a b c)) &&
  (allB fun a => allB fun b => Cmp.forall fun c => q (.out a b c)) && q .even

def Fr.forall (q : Fr → Bool) : Bool :=
  (allB fun a => allB fun b => q (.data a b)) &&
  (allB fun a => allB fun b => allB fun c => Blk.forall fun d => q (.headers a b c d)) &&
  (allB fun a => q (.priority a)) && q .rst && (Inc.forall fun i => q (.wu i)) &&
  (allB fun a => allB fun b => Blk.forall fun d => q (.cont a b d)) &&
  q .ping && q .pushPromise && q .other && q .ext

def Ctx.forall (q : Ctx → Bool) : Bool :=
  BlockOn.forall fun bl => allB fun a => allB fun b => allB fun c => allB fun d => q ⟨bl, a, b, c, d⟩

end H2.Server.StreamSM
