import H2.Server.Abs.StreamSM
/-!
# C08 — the RFC side: stream states of RFC 7540 §5.1 and the reactions §5.1 / §6 allow

DESIGN.md Appendix D1 (Python rendering: `checklib/c08spec.py`). The state of a stream id is a function of
the HISTORY (frames received on it, what the server answered), not of the server's tables. `allowed` lists,
per state and frame, the reactions the RFC permits; answering a stream error with the connection error of
the same code is accepted, as the property says. The abstract frame / context / reaction vocabulary is
shared with `StreamSM` (it is just the alphabet); nothing here refers to the server's tables (`Pos`).
-/
namespace H2.Server.StreamSpec
open H2.Server.StreamSM (Fr Ctx Reaction Code Blk Inc BlockOn Pos Ev allB)

inductive SpecSt where
  /-- never used, above every id the peer has opened -/
  | idle
  /-- never used, below an id the peer has opened: implicitly closed (§5.1.1) -/
  | idleClosed
  /-- request HEADERS received, no END_STREAM yet. `blk`: its header block is still open -/
  | open (blk : Bool)
  /-- half-closed (remote): END_STREAM received. `blk`: the block that carried it is still open -/
  | hcr (blk : Bool)
  /-- closed by the peer's RST_STREAM; `recent`: within the "short period" of §5.1 -/
  | closedPeer (recent : Bool)
  /-- closed by the server's RST_STREAM (any code, refusal included) -/
  | closedOur (recent : Bool)
  /-- both directions ended with END_STREAM -/
  | closedDone (recent : Bool)
  /-- an even id: not the peer's to use -/
  | evenId
deriving Repr, DecidableEq, Inhabited

def b2n (b : Bool) : Nat := if b then 1 else 0
def SpecSt.code : SpecSt → Nat
  | .idle => 0 | .idleClosed => 1 | .open b => 2 + b2n b | .hcr b => 4 + b2n b | .closedPeer b => 6 + b2n b
  | .closedOur b => 8 + b2n b | .closedDone b => 10 + b2n b | .evenId => 12

/-- `==` by comparing a numeric code: cheap to evaluate in the kernel, and lawful -/
instance : BEq SpecSt := ⟨fun a b => a.code == b.code⟩

theorem SpecSt.code_inj {a b : SpecSt} (h : a.code = b.code) : a = b := by
  -- `code` has a left inverse
  have inv : ∀ s : SpecSt, s = (match s.code with
      | 0 => .idle | 1 => .idleClosed | 2 => .open false | 3 => .open true | 4 => .hcr false | 5 => .hcr true
      | 6 => .closedPeer false | 7 => .closedPeer true | 8 => .closedOur false | 9 => .closedOur true
      | 10 => .closedDone false | 11 => .closedDone true | _ => .evenId) := by
    intro s; cases s <;> first | rfl | (rename_i b; cases b <;> rfl)
  rw [inv a, inv b, h]

instance : LawfulBEq SpecSt where
  eq_of_beq {a b} h := SpecSt.code_inj ((beq_iff_eq (a := a.code) (b := b.code)).mp h)
  rfl {a} := (beq_iff_eq (a := a.code) (b := a.code)).mpr rfl

def SpecSt.forall (q : SpecSt → Bool) : Bool :=
  q .idle && q .idleClosed && (allB fun b => q (.open b)) && (allB fun b => q (.hcr b)) && (allB fun b => q (.closedPeer b)) &&
  (allB fun b => q (.closedOur b)) && (allB fun b => q (.closedDone b)) && q .evenId

def isOk : Reaction → Bool
  | .process | .ignore => true
  | _ => false

/-- `r` is the stream error `c`, or the connection error of the same code -/
def errOf (c : Code) (r : Reaction) : Bool := r == .streamErr c || r == .connErr c

def isCont : Fr → Bool | .cont .. => true | _ => false

/-- what a header fragment of class `blk` calls for, given what it would be if it were fine -/
def onBlock (blk : Blk) (fine : Reaction → Bool) (r : Reaction) : Bool :=
  match blk with
  | .wf => fine r
  | .malformed => errOf .protocol r            -- §8.1.2.6: malformed message, stream error PROTOCOL_ERROR
  | .tooLarge => errOf .calm r                 -- over a limit of the server: ENHANCE_YOUR_CALM (by design)
  | .undecodable => r == .connErr .compression -- §4.3
  | .listTooLong => r == .connErr .calm || r == .streamErr .calm

/-- a request that is complete with this frame is dispatched — unless its content-length disagrees with the
DATA received (§8.1.2.6) -/
def onComplete (c : Ctx) (r : Reaction) : Bool :=
  if c.clMismatch then errOf .protocol r else r == .dispatch

/-- §5.1.2: a HEADERS frame over the concurrency limit (or after GOAWAY) may be refused -/
def overLimit (c : Ctx) (r : Reaction) : Bool :=
  c.refuse && (r == .streamErr .refused || r == .streamErr .protocol)

/-- The reactions RFC 7540 allows for frame `f` on a stream in state `σ` in context `c`. -/
def allowed (σ : SpecSt) (f : Fr) (c : Ctx) (r : Reaction) : Bool :=
  -- §6.2 / §6.10: while a header block is open only CONTINUATION on that stream may follow
  if c.block != .none && !(isCont f && c.block == .this) then r == .connErr .protocol
  else if c.block == .none && isCont f then r == .connErr .protocol
  else match f with
  | .ext => r == .ignore                                         -- §4.1
  | .ping | .pushPromise => r == .connErr .protocol              -- §6.6, §6.7, §8.2
  | _ =>
  if σ == .evenId then r == .connErr .protocol                   -- §5.1.1
  else match f with
  | .cont eh _ blk =>
    match σ with
    | .open true => onBlock blk isOk r
    | .hcr true => onBlock blk (fun r => if eh then onComplete c r else isOk r) r
    | .closedOur _ => isOk r || r == .streamErr .streamClosed     -- the block of a stream we reset: ignored
    | _ => false                                                  -- no block can be open on such a stream (`consistent`)
  | .headers es eh selfDep blk =>
    match σ with
    | .idle =>
      -- §5.1.2: over the limit (or going away) the stream may be refused instead, whatever it carries
      overLimit c r ||
      (if selfDep then errOf .protocol r                          -- §5.3.1
       else onBlock blk (fun r => if es && eh then onComplete c r else isOk r) r)
    | .idleClosed =>                                              -- §5.1.1 (and §5.1.2 when over the limit)
      r == .connErr .protocol || r == .connErr .streamClosed || overLimit c r
    | .open _ =>
      -- §8.1: a second block must end the stream (§8.1.2.6: a malformed request); its block may be refused
      -- for what it is just as well (§4.3: a block that cannot be decoded is always a connection error)
      if !es then errOf .protocol r || (blk != .wf && onBlock blk isOk r)
      else if selfDep then errOf .protocol r
      else onBlock blk (fun r => if eh then onComplete c r else isOk r) r
    | .hcr _ => errOf .streamClosed r                             -- §5.1 half-closed (remote)
    | .closedPeer recent => errOf .streamClosed r || r == .connErr .protocol || (!recent && overLimit c r)
    | .closedOur recent =>
      -- §5.1: frames in flight when we reset the stream are ignored — never a connection error;
      -- after "a short period" they may be treated as errors
      isOk r || r == .streamErr .streamClosed ||
      (!recent && (r == .connErr .streamClosed || r == .connErr .protocol || overLimit c r))
    | .closedDone recent => errOf .streamClosed r || r == .connErr .protocol || (!recent && overLimit c r)
    | .evenId => false
  | .data es overBody =>
    match σ with
    | .idle => r == .connErr .protocol
    | .idleClosed => errOf .streamClosed r || r == .connErr .protocol
    | .open _ =>
      if overBody then errOf .calm r
      else if es then onComplete c r else isOk r
    | .hcr _ => errOf .streamClosed r
    | .closedPeer _ => errOf .streamClosed r
    | .closedOur recent =>
      isOk r || r == .streamErr .streamClosed || (!recent && (r == .connErr .streamClosed || r == .connErr .protocol))
    | .closedDone _ => errOf .streamClosed r
    | .evenId => false
  | .priority selfDep =>
    -- §5.3, §6.3: PRIORITY is fine in every state, however long ago the stream closed
    if !selfDep then isOk r
    else match σ with
      | .idle | .open _ | .hcr _ => errOf .protocol r
      | _ => isOk r || errOf .protocol r
  | .rst =>
    match σ with
    | .idle => r == .connErr .protocol                            -- §6.4
    | .idleClosed => isOk r || r == .connErr .protocol
    | .closedOur false => isOk r || r == .connErr .protocol      -- long after the server's own reset (§5.1)
    | _ => isOk r
  | .wu inc =>
    match σ with
    | .idle => r == .connErr .protocol                            -- §5.1
    | .idleClosed => isOk r || errOf .streamClosed r || errOf .protocol r
    | .open _ | .hcr _ =>
      match inc with
      | .zero => errOf .protocol r                                -- §6.9
      | .over => errOf .flowControl r                             -- §6.9.1
      | _ => isOk r
    | .closedPeer recent | .closedDone recent => isOk r || (!recent && errOf .streamClosed r)
    | .closedOur recent => isOk r || (!recent && (errOf .streamClosed r || errOf .protocol r))
    | .evenId => false
  | .other =>
    -- SETTINGS / GOAWAY with a stream id: §6.5, §6.8 connection error PROTOCOL_ERROR; the §5.1 rule of the
    -- stream's state for "any other frame" is accepted as well
    r == .connErr .protocol ||
    (match σ with
     | .hcr _ | .closedPeer _ | .closedDone _ | .idleClosed => errOf .streamClosed r
     | .closedOur recent => isOk r || errOf .streamClosed r && !recent || r == .streamErr .streamClosed
     | _ => false)
  | _ => false

/-- the state after the frame, given how the server reacted (a connection error ends everything) -/
def next (σ : SpecSt) (f : Fr) (r : Reaction) : SpecSt :=
  match r with
  | .connErr _ => σ
  | .streamErr _ => .closedOur true
  | _ =>
    match σ with
    | .idle => (match f with | .headers es eh _ _ => if es then .hcr (!eh) else .open (!eh) | _ => σ)
    | .open false =>
      (match f with
       | .headers _ eh _ _ => .hcr (!eh)
       | .data es _ => if es then .hcr false else .open false
       | .rst => .closedPeer true
       | _ => σ)
    | .open true => (match f with | .cont eh _ _ => .open (!eh) | .rst => .closedPeer true | _ => σ)
    | .hcr true => (match f with | .cont eh _ _ => .hcr (!eh) | .rst => .closedPeer true | _ => σ)
    | .hcr false => (match f with | .rst => .closedPeer true | _ => σ)
    | σ => σ

/-- what the other events mean for the RFC state: the response ends (END_STREAM, or RST_STREAM after a body
read error), a higher id is used (§5.1.1: lower idle ids are closed implicitly), time passes (the "short
period" of §5.1 is over when the server forgets the id) -/
def envNext (σ : SpecSt) : Ev → SpecSt
  | .frame .. => σ
  | .handlerDone fin rstByUs _ =>
    if !fin then σ else
    (match σ with
     | .hcr false => if rstByUs then .closedOur true else .closedDone true
     | σ => σ)
  | .respEnd rstByUs _ =>
    (match σ with
     | .hcr false => if rstByUs then .closedOur true else .closedDone true
     | σ => σ)
  | .newer | .higherRefused => (match σ with | .idle => .idleClosed | σ => σ)
  | .evictRing => (match σ with | .closedPeer _ => .closedPeer false | .closedDone _ => .closedDone false | σ => σ)
  | .forgetReset => (match σ with | .closedOur _ => .closedOur false | σ => σ)

/-- what the read loop's CONTINUATION bookkeeping implies: the context and the history agree on whether a
header block is open on this stream -/
def consistent (σ : SpecSt) (c : Ctx) : Bool :=
  (match σ with
   | .open true | .hcr true => c.block == .this
   | .closedOur true => true
   | _ => c.block != .this) &&
  (!c.prevUnfinished || c.block != .none)

/-- The simulation relation: the places the server's tables can have a stream whose RFC state is `σ`.
(`tab idle …` / `tab closed …` occur only inside a step or after a connection error; they relate to nothing.) -/
def sim (p : Pos) (σ : SpecSt) : Bool :=
  match p with
  | .tab st hf responded running =>
    (match st with
     | .open => !responded && !running && σ == .open (!hf)
     | .halfClosed =>
       if hf then responded && σ == .hcr false            -- dispatched: the handler runs, or the response is going out
       else !responded && !running && σ == .hcr true       -- END_STREAM seen, the block that carried it still open
     | _ => false)
  | .out byUs inRing cmp =>
    if byUs then
      -- reset by the server and still remembered: in the ring if it had been opened, else (refused) in the gap
      σ == .closedOur true && (match cmp with | .above => false | .gap => !inRing | _ => true)
    else if inRing then
      -- recently closed
      (match cmp with
       | .equal | .below => σ == .closedPeer true || σ == .closedDone true || σ == .closedOur false
       | _ => false)
    else
      -- forgotten, or never used
      (match cmp with
       | .below => σ == .idleClosed || σ == .closedPeer false || σ == .closedDone false || σ == .closedOur false
       | .equal => σ == .closedPeer false || σ == .closedDone false || σ == .closedOur false
       | .gap => σ == .idleClosed || σ == .closedOur false
       | .above => σ == .idle)
  | .even => σ == .evenId

/-- The frame is one the RFC lets the peer send now, inside the server's limits: the server has to take it
without any error. (Per stream: `HEADERS [CONTINUATION*] DATA* [HEADERS+END_STREAM [CONTINUATION*]]`;
PRIORITY anywhere between blocks, idle and long-closed streams included; WINDOW_UPDATE up to 2^31-1 while
the stream is open or shortly after; RST_STREAM once it is not idle; frames in flight on a stream the
server has just reset.) -/
def legal (σ : SpecSt) (f : Fr) (c : Ctx) : Bool :=
  !c.clMismatch &&
  (match f with
   | .cont _ _ blk => c.block == .this && blk == .wf
   | _ => c.block == .none) &&
  (match σ with
   | .idle =>
     (match f with
      | .headers _ _ selfDep blk => !selfDep && blk == .wf && !c.refuse
      | .priority selfDep => !selfDep
      | _ => false)
   | .idleClosed => (match f with | .priority selfDep => !selfDep | _ => false)
   | .open false =>
     (match f with
      | .data _ overBody => !overBody
      | .headers es _ selfDep blk => es && !selfDep && blk == .wf
      | .priority selfDep => !selfDep
      | .wu inc => inc == .fits || inc == .exact
      | .rst => true
      | _ => false)
   | .open true => (match f with | .cont .. => true | _ => false)
   | .hcr true => (match f with | .cont .. => true | _ => false)
   | .hcr false =>
     (match f with
      | .priority selfDep => !selfDep
      | .wu inc => inc == .fits || inc == .exact
      | .rst => true
      | _ => false)
   | .closedPeer recent | .closedDone recent =>
     (match f with
      | .priority selfDep => !selfDep
      | .wu _ => recent
      | .rst => recent
      | _ => false)
   | .closedOur recent =>
     (match f with
      | .priority selfDep => !selfDep
      | .ext | .ping | .pushPromise | .other => false
      | _ => recent)          -- whatever was in flight when the server reset the stream
   | .evenId => false)

/-- with this frame the frames received on the stream form a complete request:
`HEADERS [CONTINUATION*] DATA* [HEADERS+END_STREAM [CONTINUATION*]]`, END_STREAM seen, last block ended -/
def completes (σ : SpecSt) (f : Fr) : Bool :=
  match σ with
  | .idle => (match f with | .headers es eh _ _ => es && eh | _ => false)
  | .open false =>
    (match f with
     | .data es _ => es
     | .headers es eh _ _ => es && eh
     | _ => false)
  | .hcr true => (match f with | .cont eh _ _ => eh | _ => false)
  | _ => false

end H2.Server.StreamSpec
