import H2.Proofs.ClientRunStep
/-!
# Full serial client model: which steps write a HEADERS frame, and what it carries

`step_frames_spec`: a step writes a HEADERS frame only when its event is a request that `CanOpenStream` lets
through; the frame is the first the step writes, the only HEADERS among them, carries the identifier `nextID` held
before the step, and `nextID` moves up by 2; every other step leaves `nextID` alone and writes no HEADERS.
`step_ctl`: GOAWAY is never taken back (`Kept`). Used by the run-level theorems of C11, C18c and C02.
-/
namespace H2.Client

def NoHdr (q : List OutFrame) : Prop := ∀ f ∈ q, f.isHeaders = false

theorem NoHdr.append {a b : List OutFrame} (ha : NoHdr a) (hb : NoHdr b) : NoHdr (a ++ b) := by
  intro f hf
  rcases List.mem_append.mp hf with h | h
  · exact ha f h
  · exact hb f h

theorem noHdr_nil : NoHdr [] := fun _ h => by cases h

/-! ## the frames as they go out (`wireFrames`): only queued HEADERS frames are expanded -/

theorem wireFrames_noHdr (fs : List OutFrame) : ∀ c : Conn, NoHdr fs → wireFrames c fs = fs := by
  induction fs with
  | nil => intro c _; rfl
  | cons f fs ih =>
    intro c h
    have hf := h f (List.mem_cons_self ..)
    have ht : NoHdr fs := fun x hx => h x (List.mem_cons_of_mem _ hx)
    cases f with
    | headers sid es fl => cases hf
    | hfrag sid es len => cases hf
    | cont sid eh len fl => cases hf
    | _ => simp only [wireFrames]; rw [ih c ht]

theorem wireFrames_headers (c : Conn) (sid : Nat) (es : Bool) (fl : List (Bytes × Bytes)) (rest : List OutFrame)
    (h : NoHdr rest) :
    wireFrames c (.headers sid es fl :: rest) =
      headerFrames sid es fl (blockLens (frameStep c) (encodeHeaders c fl).2) ++ rest := by
  simp only [wireFrames]
  rw [wireFrames_noHdr rest _ h]

/-- the frames of one header block: the first opens the stream (HEADERS, whole or cut), the others are its CONTINUATIONs -/
def BlockOf (sid : Nat) (es : Bool) (fl : List (Bytes × Bytes)) (hs : List OutFrame) : Prop :=
  ∃ l ls, hs = headerFrames sid es fl (l :: ls)

/-! ## what the write loop writes -/

theorem drain_out (c : Conn) (hq : NoHdr c.outQ) : NoHdr (drain c).2 := by
  obtain ⟨_, _, _, ds, rs, -, e, hd, hr⟩ := drain_shape c
  rw [e]
  refine (hq.append ?_).append (fun f hf => OutFrame.isCtl_notHeaders (hr f hf))
  intro f hf
  obtain ⟨s, k, b, e⟩ := hd f hf
  rw [e]; rfl

/-! ## control fields -/

/-- the fields the GOAWAY and SETTINGS handling owns are untouched, no HEADERS gets queued -/
structure Ctl (c c' : Conn) : Prop where
  goAway : c'.goAway = c.goAway
  stateClosed : c'.stateClosed = c.stateClosed
  closeRef : c'.closeRef = c.closeRef
  maxStreams : c'.maxStreams = c.maxStreams
  maxFrameSize : c'.maxFrameSize = c.maxFrameSize
  outQ : NoHdr c.outQ → NoHdr c'.outQ

theorem Ctl.refl (c : Conn) : Ctl c c := ⟨rfl, rfl, rfl, rfl, rfl, id⟩

theorem Ctl.trans {a b c : Conn} (h1 : Ctl a b) (h2 : Ctl b c) : Ctl a c :=
  ⟨h2.goAway.trans h1.goAway, h2.stateClosed.trans h1.stateClosed, h2.closeRef.trans h1.closeRef,
   h2.maxStreams.trans h1.maxStreams, h2.maxFrameSize.trans h1.maxFrameSize, fun h => h2.outQ (h1.outQ h)⟩

theorem Quiet.ctl {c c' : Conn} (h : Quiet c c') : Ctl c c' :=
  ⟨h.goAway, h.stateClosed, h.closeRef, h.maxStreams, h.maxFrameSize,
    fun hq f hf => (h.outQ f hf).elim (hq f) OutFrame.isCtl_notHeaders⟩

theorem ctl_drain (c : Conn) : Ctl c (drain c).1 := by
  obtain ⟨p, w, a, _, _, hs, -⟩ := drain_shape c
  rw [hs]; exact ⟨rfl, rfl, rfl, rfl, rfl, fun _ => noHdr_nil⟩

theorem ctl_dieWith (c : Conn) (e : Err) : Ctl c (dieWith c e) := by
  obtain ⟨l, hs⟩ := dieWith_shape c e
  rw [hs]; exact ⟨rfl, rfl, rfl, rfl, rfl, fun _ => noHdr_nil⟩

theorem ctl_afterWrites (c : Conn) (fs : List OutFrame) : Ctl c (afterWrites c fs).1 := by
  rcases afterWrites_cases c fs with ⟨e, s, b, hh⟩ | ⟨e, s, hh⟩
  · rw [hh]; exact ⟨rfl, rfl, rfl, rfl, rfl, id⟩
  · rw [hh]; exact (Ctl.mk (c := c) (c' := { c with enc := e, encTableSet := s }) rfl rfl rfl rfl rfl id).trans (ctl_dieWith _ _)

theorem ctl_writeRequest (c : Conn) (r : ReqSpec) : Ctl c (writeRequest c r).1 := by
  rcases writeRequest_shape c r with ⟨_, h⟩ | ⟨_, p, w, q, ds, h, hq, _⟩ <;> rw [h]
  · exact ⟨rfl, rfl, rfl, rfl, rfl, id⟩
  · exact ⟨rfl, rfl, rfl, rfl, rfl, fun hn => hn.append fun f hf => OutFrame.isCtl_notHeaders (hq f hf)⟩

/-! ## `nextID` -/

theorem drain_nextID (c : Conn) : (drain c).1.nextID = c.nextID := by
  obtain ⟨p, w, a, _, _, hs, -⟩ := drain_shape c; rw [hs]

theorem dieWith_nextID (c : Conn) (e : Err) : (dieWith c e).nextID = c.nextID := by
  obtain ⟨l, hs⟩ := dieWith_shape c e; rw [hs]

theorem afterWrites_nextID (c : Conn) (fs : List OutFrame) : (afterWrites c fs).1.nextID = c.nextID := by
  rcases afterWrites_cases c fs with ⟨e, s, b, hh⟩ | ⟨e, s, hh⟩
  · rw [hh]
  · rw [hh, dieWith_nextID]

/-! ## one step -/

theorem afterWrites_frames (c : Conn) (fs fs' : List OutFrame) (h : (afterWrites c fs).2 = .frames fs') :
    fs' = wireFrames c fs := by
  rcases afterWrites_cases c fs with ⟨e, s, b, hh⟩ | ⟨e, s, hh⟩
  · rw [hh] at h; cases h; rfl
  · rw [hh] at h; cases h

/-- END_STREAM on a request's HEADERS: it has no body -/
def wrEndStream (r : ReqSpec) : Bool := !(match r.body with | .none => false | _ => true)

theorem wrHeaders_eq (c : Conn) (r : ReqSpec) : wrHeaders c r = .headers c.nextID (wrEndStream r) (requestFields r) := rfl

/-- what every step keeps: no frame of a header block is queued for the write loop, GOAWAY is not taken back, and
`stateClosed` goes on implying it -/
structure Kept (c c' : Conn) : Prop where
  outQ : NoHdr c.outQ → NoHdr c'.outQ
  goAway : c.goAway = true → c'.goAway = true
  closed : (c.stateClosed = true → c.goAway = true) → c'.stateClosed = true → c'.goAway = true

theorem Kept.ctl {a b c : Conn} (h : Kept a b) (k : Ctl b c) : Kept a c :=
  ⟨fun hq => k.outQ (h.outQ hq), fun g => k.goAway.trans (h.goAway g), fun i s => k.goAway.trans (h.closed i (k.stateClosed ▸ s))⟩

theorem Ctl.kept {c c' : Conn} (k : Ctl c c') : Kept c c' := Kept.ctl ⟨id, id, id⟩ k

theorem RdRel.kept {c c' : Conn} (r : RdRel c c') : Kept c c' := by
  refine ⟨fun hq f hf => ?_, r.goAway, fun i s => ?_⟩
  · rcases r.outQ f hf with x | x
    · exact hq f x
    · exact OutFrame.isCtl_notHeaders x
  · rcases r.closed s with x | x
    · exact r.goAway (i x)
    · exact x

theorem step_ctl (c : Conn) (h : Inv c) (ev : Event) : Kept c (step c ev).1 := by
  refine step_cases c ev (step c ev) rfl (fun _ _ => (Ctl.refl c).kept) (fun _ _ _ _ => (Ctl.refl c).kept)
    (fun _ _ _ _ _ _ _ => Ctl.kept ⟨rfl, rfl, rfl, rfl, rfl, id⟩) (fun _ _ _ _ => Ctl.kept ⟨rfl, rfl, rfl, rfl, rfl, id⟩) ?_ ?_ ?_
    (fun _ _ => (ctl_dieWith _ _).kept) (fun _ _ _ => Ctl.kept ⟨rfl, rfl, rfl, rfl, rfl, id⟩)
  · intro r _ _ _
    exact (((Ctl.mk (c := c) (c' := withReq c r.tag) rfl rfl rfl rfl rfl id).trans (ctl_writeRequest _ r)).trans
      ((ctl_drain _).trans (ctl_afterWrites _ _))).kept
  · intro b _ _ _
    have base : Kept c (bytesRead c b).1 := (rdRel_bytesRead h.keys b).kept
    exact ⟨base, base.ctl ((ctl_dieWith _ .eof).trans ⟨rfl, rfl, rfl, rfl, rfl, id⟩), base.ctl (ctl_dieWith _ .eof),
      base.ctl ((ctl_drain _).trans (ctl_afterWrites _ _))⟩
  · intro tag r _ _ _
    have k1 : Ctl c (gaveUp c tag r.sid) := (quiet_gaveUp c tag r.sid).ctl
    exact ⟨Ctl.kept ⟨rfl, rfl, rfl, rfl, rfl, id⟩, fun _ _ => ⟨k1.kept, (k1.trans (ctl_afterWrites _ _)).kept⟩⟩

theorem afterWrites_noHdr (c : Conn) (fs : List OutFrame) (hn : NoHdr fs) :
    (afterWrites c fs).1.nextID = c.nextID ∧ ∀ fs', (afterWrites c fs).2 = .frames fs' → NoHdr fs' :=
  ⟨afterWrites_nextID c fs, fun fs' hf => by rw [afterWrites_frames c fs fs' hf, wireFrames_noHdr fs c hn]; exact hn⟩

theorem step_frames_spec (c : Conn) (h : Inv c) (hq : NoHdr c.outQ) (ev : Event) :
    ((step c ev).1.nextID = c.nextID ∧ ∀ fs, (step c ev).2 = .frames fs → NoHdr fs) ∨
    (∃ r, ev = .req r ∧ canOpenStream c = true ∧ c.dead = false ∧ (step c ev).1.nextID = c.nextID + 2 ∧
      ∀ fs, (step c ev).2 = .frames fs →
        ∃ blk rest, fs = blk ++ rest ∧ BlockOf c.nextID (wrEndStream r) (requestFields r) blk ∧ NoHdr rest) := by
  refine step_cases c ev (step c ev) rfl
    (fun _ _ => .inl ⟨rfl, fun _ hf => nomatch hf⟩) ?_ (fun _ _ _ _ _ _ _ => .inl ⟨rfl, fun _ hf => nomatch hf⟩)
    (fun _ _ _ _ => .inl ⟨rfl, fun _ hf => nomatch hf⟩) ?_ ?_ ?_ (fun _ _ => .inl ⟨dieWith_nextID _ _, fun _ hf => nomatch hf⟩)
    (fun _ _ _ => .inl ⟨rfl, fun _ hf => by cases hf; exact noHdr_nil⟩)
  · intro o ho _ _
    refine .inl ⟨rfl, fun fs hf => ?_⟩
    subst hf
    rw [show fs = [] from ho]; exact noHdr_nil
  · intro r he _ hd
    have hqw : NoHdr (drain (writeRequest (withReq c r.tag) r).1).2 :=
      drain_out _ ((ctl_writeRequest (withReq c r.tag) r).outQ hq)
    rcases writeRequest_shape (withReq c r.tag) r with ⟨hc, e⟩ | ⟨hc, p, w, q, rest, e, _, hr⟩
    · left
      have hn : (writeRequest (withReq c r.tag) r).1.nextID = c.nextID := congrArg (·.1.nextID) e
      rw [show (writeRequest (withReq c r.tag) r).2 = [] from congrArg Prod.snd e]
      exact ⟨(afterWrites_noHdr _ _ hqw).1.trans ((drain_nextID _).trans hn), (afterWrites_noHdr _ _ hqw).2⟩
    · right
      have hn : (writeRequest (withReq c r.tag) r).1.nextID = c.nextID + 2 := congrArg (·.1.nextID) e
      refine ⟨r, he, hc, hd, by rw [afterWrites_nextID, drain_nextID, hn], ?_⟩
      intro fs hf
      have hrest : NoHdr (rest ++ (drain (writeRequest (withReq c r.tag) r).1).2) := by
        refine NoHdr.append ?_ hqw
        intro f hf'; obtain ⟨k, b, e⟩ := hr f hf'; rw [e]; rfl
      rw [afterWrites_frames _ _ _ hf, show (writeRequest (withReq c r.tag) r).2 = _ from congrArg Prod.snd e,
        List.cons_append, wrHeaders_eq, wireFrames_headers _ _ _ _ _ hrest]
      exact ⟨_, _, rfl, ⟨_, _, rfl⟩, hrest⟩
  · intro b _ _ _
    have rr := rdRel_bytesRead h.keys b
    have hn : (bytesRead c b).1.nextID = c.nextID := rr.nextID
    have hq1 : NoHdr (bytesRead c b).1.outQ := rr.kept.outQ hq
    have out := afterWrites_noHdr (drain (bytesRead c b).1).1 _ (drain_out _ hq1)
    have hd : (die (bytesRead c b).1).nextID = c.nextID := (dieWith_nextID _ _).trans hn
    exact ⟨.inl ⟨hn, fun _ hf => nomatch hf⟩, .inl ⟨hd, fun _ hf => nomatch hf⟩, .inl ⟨hd, fun _ hf => nomatch hf⟩,
      .inl ⟨out.1.trans ((drain_nextID _).trans hn), out.2⟩⟩
  · intro tag r _ _ _
    have hn : (gaveUp c tag r.sid).nextID = c.nextID := (quiet_gaveUp c tag r.sid).nextID
    refine ⟨.inl ⟨rfl, fun fs hf => ?_⟩, fun _ _ => ⟨.inl ⟨hn, fun _ hf => nomatch hf⟩, .inl ?_⟩⟩
    · split at hf
      · cases hf
      · cases hf; exact noHdr_nil
    · have hn1 : NoHdr [OutFrame.rst r.sid Gen.c_StreamCanceled] := by
        intro f hf'
        rw [List.mem_singleton.mp hf']; rfl
      exact ⟨(afterWrites_noHdr _ _ hn1).1.trans hn, (afterWrites_noHdr _ _ hn1).2⟩

/-! ## CONTINUATION frames are contiguous -/

/-- every CONTINUATION frame of the list directly follows a HEADERS frame without END_HEADERS or a CONTINUATION frame of
the same stream (`prev`: the stream of the frame before, if that was one of these) -/
def contAfter : Option Nat → List OutFrame → Bool
  | _, [] => true
  | prev, .cont sid _ _ _ :: fs => prev == some sid && contAfter (some sid) fs
  | _, .hfrag sid _ _ :: fs => contAfter (some sid) fs
  | _, _ :: fs => contAfter none fs

theorem contAfter_noHdr (rest : List OutFrame) (h : NoHdr rest) : ∀ p, contAfter p rest = true := by
  induction rest with
  | nil => intro p; rfl
  | cons f fs ih =>
    intro p
    have hf := h f (List.mem_cons_self ..)
    have := ih (fun x hx => h x (List.mem_cons_of_mem _ hx)) none
    cases f <;> first | (cases hf; done) | simpa [contAfter] using this

theorem contAfter_conts (sid : Nat) (fl : List (Bytes × Bytes)) (rest : List OutFrame) (h : NoHdr rest) (ls : List Nat) :
    contAfter (some sid) (contFrames sid fl ls ++ rest) = true := by
  induction ls with
  | nil => exact contAfter_noHdr rest h _
  | cons l ls ih => simp only [contFrames, List.cons_append, contAfter, beq_self_eq_true, Bool.true_and]; exact ih

theorem contAfter_block {sid : Nat} {es : Bool} {fl : List (Bytes × Bytes)} {blk rest : List OutFrame}
    (hb : BlockOf sid es fl blk) (h : NoHdr rest) (p : Option Nat) : contAfter p (blk ++ rest) = true := by
  obtain ⟨l, ls, rfl⟩ := hb
  simp only [headerFrames]
  split
  · rename_i he
    have : ls = [] := by simpa using he
    subst this
    simp only [contFrames, List.cons_append, List.nil_append, contAfter]
    exact contAfter_noHdr rest h _
  · simp only [List.cons_append, contAfter]
    exact contAfter_conts sid fl rest h ls

/-- in the output of any step, CONTINUATION frames only continue the header block just begun -/
theorem step_contiguous (c : Conn) (h : Inv c) (hq : NoHdr c.outQ) (ev : Event) (fs : List OutFrame)
    (ho : (step c ev).2 = .frames fs) : contAfter none fs = true := by
  rcases step_frames_spec c h hq ev with ⟨_, hf⟩ | ⟨r, _, _, _, _, hf⟩
  · exact contAfter_noHdr fs (hf fs ho) _
  · obtain ⟨blk, rest, e, hb, hr⟩ := hf fs ho
    rw [e]; exact contAfter_block hb hr _

end H2.Client
