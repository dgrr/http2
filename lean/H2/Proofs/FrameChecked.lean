import H2.Frame.Checked
/-! Helper lemmas for C16 `no_panic`: the checked read path (Frame/Checked.lean) never takes a panic branch and equals `readFrame`. -/
namespace H2.Frame.Chk
open H2 H2.Frame

theorem at?_some (p : Bytes) (i : Nat) (h : i < p.length) : at? p i = some (p.getD i 0) := by
  simp [at?, List.getD, List.getElem?_eq_getElem h]

theorem slice?_some (p : Bytes) (lo hi : Nat) (h1 : lo ≤ hi) (h2 : hi ≤ p.length) :
    slice? p lo hi = some ((p.take hi).drop lo) := by
  simp [slice?, h1, h2]

theorem u32?_some (p : Bytes) (h : 4 ≤ p.length) : u32? p = some (be32 p) := by simp [u32?, h]

theorem cutPadding?_eq (p : Bytes) : cutPadding? p p.length = some (cutPadding p) := by
  cases p with
  | nil => simp [cutPadding?, cutPadding]
  | cons n rest =>
    by_cases h : rest.length < n
    · have c2 : n + 1 > rest.length + 1 := by omega
      simp [cutPadding?, cutPadding, at?, c2, pure]
      intro _ h2; omega
    · have c2 : ¬ (n + 1 > rest.length + 1) := by omega
      have c5 : 1 ≤ rest.length + 1 - n := by omega
      have e : rest.length + 1 - n = (rest.length + 1 - n - 1) + 1 := by omega
      simp [cutPadding?, cutPadding, at?, slice?, c2, c5, pure]
      have c6 : ¬ (rest.length + 1 + n < rest.length ∨ rest.length < n) := by omega
      simp only [c6, if_false]
      rw [e, List.take_succ_cons]
      simp

theorem settingsRead?_eq (fuel : Nat) (d : Bytes) (last : Nat) (s : SettingsVal) (hl : last ≤ d.length)
    (hf : d.length - last < fuel) : settingsRead? fuel d last (last + 6) s = some (settingsRead (d.drop last) s) := by
  induction fuel generalizing last s with
  | zero => omega
  | succ fuel ih =>
    unfold settingsRead?
    by_cases hi : last + 6 ≤ d.length
    · have hlen : (d.drop last).length = d.length - last := List.length_drop
      have hrest : d.drop (last + 6) = (d.drop last).drop 6 := by rw [List.drop_drop]
      have hsl : slice? d last (last + 6) = some ((d.drop last).take 6) := by
        rw [slice?_some d last (last + 6) (by omega) hi, List.drop_take]
        congr 2; omega
      have ih' : ∀ s', settingsRead? fuel d (last + 6) (last + 6 + 6) s' = some (settingsRead (d.drop (last + 6)) s') :=
        fun s' => ih (last + 6) s' hi (by omega)
      rcases hd : d.drop last with _ | ⟨k0, _ | ⟨k1, _ | ⟨v0, _ | ⟨v1, _ | ⟨v2, _ | ⟨v3, rest⟩⟩⟩⟩⟩⟩
      all_goals rw [hd] at hlen hrest hsl
      all_goals try (simp at hlen; omega)
      simp only [List.drop_succ_cons, List.drop_zero] at hrest
      rw [settingsRead]
      simp only [hi, if_true, hsl, List.take_succ_cons, List.take_zero, Option.bind_eq_bind, Option.bind_some, at?,
        List.getElem?_cons_zero, List.getElem?_cons_succ, ih', hrest, be32, List.getD_cons_zero, List.getD_cons_succ, pure]
      simp only [apply_ite some]
    · have hshort : (d.drop last).length < 6 := by rw [List.length_drop]; omega
      simp only [hi, if_false, pure]
      rw [settingsRead]
      · intro k0 k1 v0 v1 v2 v3 rest h
        rw [h] at hshort
        simp at hshort
        omega

theorem slice?_tail (q : Bytes) (k : Nat) (h : k ≤ q.length) : slice? q k q.length = some (q.drop k) := by
  rw [slice?_some q k q.length h (Nat.le_refl _), List.take_length]

theorem padded?_eq (c : Bool) (p : Bytes) : padded? c p = some (if c = true then cutPadding p else some p) := by
  cases c <;> simp [padded?, cutPadding?_eq]

theorem deserialize?_eq (typ flags : Nat) (p : Bytes) : deserialize? typ flags p = some (deserialize typ flags p) := by
  unfold deserialize? deserialize
  by_cases h0 : typ = Gen.c_FrameData
  · simp only [h0, if_true]
    by_cases hp : hasFlag flags Gen.c_FlagPadded = true
    · simp only [hp, if_true, cutPadding?_eq, Option.bind_some, bind]
      cases cutPadding p <;> rfl
    · simp only [hp, if_false, pure, Bool.false_eq_true]
  simp only [h0, if_false]
  by_cases h1 : typ = Gen.c_FrameHeaders
  · simp only [h1, if_true, padded?_eq, Option.bind_some, bind]
    cases (if hasFlag flags Gen.c_FlagPadded = true then cutPadding p else some p) with
    | none => rfl
    | some q =>
      simp only
      by_cases hpr : hasFlag flags Gen.c_FlagPriority = true
      · simp only [hpr, if_true]
        by_cases h5 : q.length < 5
        · simp only [h5, if_true, pure]
        · simp only [h5, if_false, u32?_some q (by omega), at?_some q 4 (by omega), slice?_tail q 5 (by omega),
            Option.bind_some, pure]
      · simp only [hpr, if_false, pure, Bool.false_eq_true]
  simp only [h1, if_false]
  by_cases h2 : typ = Gen.c_FramePriority
  · simp only [h2, if_true]
    by_cases h5 : p.length = 5
    · simp [h5, u32?_some p (by omega), at?_some p 4 (by omega), pure]
    · simp [h5, pure]
  simp only [h2, if_false]
  by_cases h3 : typ = Gen.c_FrameResetStream
  · simp only [h3, if_true]
    by_cases h4 : p.length = 4
    · simp [h4, u32?_some p (by omega), pure]
    · simp [h4, pure]
  simp only [h3, if_false]
  by_cases h4 : typ = Gen.c_FrameSettings
  · simp only [h4, if_true]
    by_cases h6 : p.length % 6 = 0
    case neg => simp [h6, pure]
    · simp only [h6, ne_eq, not_true_eq_false, if_false]
      by_cases ha : (hasFlag flags Gen.c_FlagAck && decide (p.length > 0)) = true
      · simp only [ha, if_true, pure]
      · have := settingsRead?_eq (p.length + 1) p 0 { ack := hasFlag flags Gen.c_FlagAck } (by omega) (by omega)
        simp only [Nat.zero_add, List.drop_zero] at this
        simp only [ha, if_false, this, Option.bind_some, bind, Bool.false_eq_true]
        cases settingsRead p { ack := hasFlag flags Gen.c_FlagAck } with
        | inl o => cases o <;> rfl
        | inr c => rfl
  simp only [h4, if_false]
  by_cases h5 : typ = Gen.c_FramePushPromise
  · simp only [h5, if_true, padded?_eq, Option.bind_some, bind]
    cases (if hasFlag flags Gen.c_FlagPadded = true then cutPadding p else some p) with
    | none => rfl
    | some q =>
      simp only
      by_cases h4 : q.length < 4
      · simp only [h4, if_true, pure]
      · simp only [h4, if_false, u32?_some q (by omega), slice?_tail q 4 (by omega), Option.bind_some, pure]
  simp only [h5, if_false]
  by_cases h6 : typ = Gen.c_FramePing
  · simp only [h6, if_true]
    by_cases h8 : p.length = 8 <;> simp [h8, pure]
  simp only [h6, if_false]
  by_cases h7 : typ = Gen.c_FrameGoAway
  · simp only [h7, if_true]
    by_cases h8 : p.length < 8
    · simp only [h8, if_true, pure]
    · simp only [h8, if_false, u32?_some p (by omega), slice?_tail p 4 (by omega), slice?_tail p 8 (by omega),
        u32?_some (p.drop 4) (by simp; omega), Option.bind_some, bind, pure]
  simp only [h7, if_false]
  by_cases h8 : typ = Gen.c_FrameWindowUpdate
  · simp only [h8, if_true]
    by_cases h4 : p.length = 4
    · simp [h4, u32?_some p (by omega), pure]
    · simp [h4, pure]
  simp only [h8, if_false, pure]

theorem kind_small (t : Nat) (h : ¬ t > Gen.c_FrameContinuation) :
    kindOf t = (t : Int) ∧ ¬ ((t : Int) < 0 ∨ (t : Int) > (Gen.c_FrameContinuation : Nat)) ∧ poolIdx? (t : Int) = some t := by
  have hc : Gen.c_FrameContinuation = 9 := rfl
  have h1 : t % 256 < 128 := by omega
  have h2 : (0 : Int) ≤ (t : Int) ∧ (t : Int) ≤ (Gen.c_FrameContinuation : Nat) := by omega
  rw [kindOf, if_pos h1, poolIdx?, if_pos h2]
  exact ⟨by omega, by omega, rfl⟩

/-- a type octet above the range is, as `int8`, negative or still above it -/
theorem kind_big (t : Nat) (h : t > Gen.c_FrameContinuation) (h2 : t < 256) :
    kindOf t < 0 ∨ kindOf t > (Gen.c_FrameContinuation : Nat) := by
  have hc : Gen.c_FrameContinuation = 9 := rfl
  simp only [kindOf]
  split <;> omega

theorem header?_eq (b : Bytes) (h : 9 ≤ b.length) :
    header? b = some (be24 b, b.getD 3 0, b.getD 4 0, be32 (b.drop 5)) := by
  rcases b with _ | ⟨l0, _ | ⟨l1, _ | ⟨l2, _ | ⟨t, _ | ⟨f, _ | ⟨s0, _ | ⟨s1, _ | ⟨s2, _ | ⟨s3, rest⟩⟩⟩⟩⟩⟩⟩⟩⟩
  all_goals try (simp at h; done)
  all_goals try (simp at h; omega)
  simp [header?, slice?, at?, u32?, be24, be32, pure]

/-- **no_panic**: on every input none of the run-time checks of the read path fires, and the checked
model returns exactly what `readFrame` returns -/
theorem readFrame?_eq (max : Nat) (b : Bytes) (ht : b.getD 3 0 < 256) : readFrame? max b = some (readFrame max b) := by
  unfold readFrame? readFrame
  by_cases h9 : b.length < 9
  · rw [if_pos h9, if_pos h9]; rfl
  rw [if_neg h9, if_neg h9, header?_eq b (by omega)]
  simp only [Option.bind_some, bind, pure]
  by_cases hm : (decide (max ≠ 0) && decide (be24 b > max)) = true
  · rw [if_pos hm, if_pos hm]
  rw [if_neg hm, if_neg hm]
  by_cases h10 : b.getD 3 0 > Gen.c_FrameContinuation
  · rw [if_pos (kind_big _ h10 ht), if_pos h10]
  obtain ⟨e, hk, hp⟩ := kind_small _ h10
  rw [e, if_neg hk, if_neg h10, hp, Option.bind_some, Int.toNat_natCast]
  by_cases hl : (b.drop 9).length < be24 b
  · rw [if_pos hl, if_pos hl]
  rw [if_neg hl, if_neg hl, slice?_some (b.drop 9) 0 (be24 b) (Nat.zero_le _) (by omega), List.drop_zero]
  simp only [Option.bind_some, deserialize?_eq]
  cases deserialize (b.getD 3 0) (b.getD 4 0) (List.take (be24 b) (List.drop 9 b)) <;> rfl
end H2.Frame.Chk
