import H2.Proofs.HpackStr
/-! The decoder model `Dec.next` (mirror of `nextField`) is the RFC step `Spec.step`; `Spec.parse` inverts `Spec.ser`;
what `Spec.step` does on a serialised representation and what it leaves of its input. -/
namespace H2.Hpack
open H2

theorem evict_eq : ∀ (t : List (Bytes × Bytes)) (max : Nat), evict t max = Spec.evict t max := by
  intro t max
  induction h : t.length using Nat.strongRecOn generalizing t with
  | _ n ih =>
    cases t with
    | nil => simp [evict, Spec.evict]
    | cons e t' =>
      unfold evict Spec.evict
      split
      · rfl
      · exact ih _ (by subst h; simp [List.length_dropLast]) _ rfl

theorem insert_eq (t : List (Bytes × Bytes)) (e : Bytes × Bytes) (max : Nat) :
    insert t e max = Spec.insert t e max := by
  unfold insert Spec.insert; exact evict_eq _ _

theorem static_len : Gen.staticTable.length + 1 = Gen.maxIndex := by decide

/-- T1: the static table in `hpack.go` is the one of RFC 7541 Appendix A -/
theorem static_rfc : Gen.staticTable = Rfc.staticTable := by decide

theorem lookup_eq (t : List (Bytes × Bytes)) (i : Nat) : lookup t i = Spec.lookup t i := by
  unfold lookup Spec.lookup
  rw [← static_rfc]
  have := static_len
  by_cases h0 : i = 0
  · simp [h0]
  · simp only [h0, if_false]
    by_cases h1 : i < Gen.maxIndex
    · have : i ≤ Gen.staticTable.length := by omega
      simp [h1, this]
    · have h2 : ¬ i ≤ Gen.staticTable.length := by omega
      simp only [h1, h2, if_false]
      rw [show i - Gen.maxIndex = i - Gen.staticTable.length - 1 by omega]

theorem prefixBits_pos (m : Spec.Mode) : 0 < m.prefixBits := by cases m <;> decide

theorem readString_nil : readString [] = .needMore := rfl

/-- `parseLiteral` without its looks at whether input is left: `readString []` says `needMore` anyway, and the H bit
of a string is the top bit of its first octet -/
theorem parseLiteral_eq (valid : Nat → Bool) (m : Spec.Mode) (b : Bytes) :
    Spec.parseLiteral valid m b =
      match readInt m.prefixBits b with
      | .needMore => .incomplete
      | .overflow => .invalid
      | .ok i r =>
        if i = 0 then
          match readString r with
          | .needMore => .incomplete
          | .err => .invalid
          | .ok n r' =>
            match readString r' with
            | .needMore => .incomplete
            | .err => .invalid
            | .ok v r'' => .ok (.literal m (.lit n (r.headD 0 ≥ 128)) v (r'.headD 0 ≥ 128)) r''
        else if !valid i then .invalid
        else
          match readString r with
          | .needMore => .incomplete
          | .err => .invalid
          | .ok v r'' => .ok (.literal m (.idx i) v (r.headD 0 ≥ 128)) r'' := by
  unfold Spec.parseLiteral
  cases readInt m.prefixBits b with
  | ok i r =>
    simp only
    split
    · rcases r with _ | ⟨h, t⟩
      · rfl
      · simp only [List.headD_cons]
        cases readString (h :: t) with
        | ok n r' =>
          rcases r' with _ | ⟨h', t'⟩
          · rfl
          · simp only [List.headD_cons]
            cases readString (h' :: t') <;> rfl
        | _ => rfl
    · split
      · rfl
      · rcases r with _ | ⟨h, t⟩
        · rfl
        · simp only [List.headD_cons]
          cases readString (h :: t) <;> rfl
  | _ => rfl

/-- the literal part of `nextField` against the specification's parser -/
theorem readLiteral_eq (st : DecState) (m : Spec.Mode) (b : Bytes) :
    readLiteral st m.prefixBits b =
      match Spec.parseLiteral (Spec.validIn st) m b with
      | .incomplete => .inr true
      | .invalid => .inr false
      | .ok (.literal _ (.idx i) v _) r =>
        (match Spec.lookup st.dyn i with
          | some e => .inl (some (e.1, v, r))
          | none => .inr false)
      | .ok (.literal _ (.lit n _) v _) r => .inl (some (n, v, r))
      | .ok _ _ => .inr false := by
  rw [parseLiteral_eq]
  cases b with
  | nil => rfl
  | cons b0 rest =>
    by_cases hz : b0 % 2 ^ m.prefixBits = 0
    · simp only [readLiteral, readName, hz, if_true, readInt_zero m.prefixBits b0 rest (prefixBits_pos m) hz]
      cases readString rest with
      | ok n r' => simp only; cases readString r' <;> rfl
      | _ => rfl
    · simp only [readLiteral, readName, hz, if_false]
      cases hi : readInt m.prefixBits (b0 :: rest) with
      | ok i r =>
        have hnz := readInt_nonzero m.prefixBits b0 rest (prefixBits_pos m) hz i r hi
        cases hl : Spec.lookup st.dyn i with
        | none => simp [hnz, Spec.validIn, lookup_eq, hl]
        | some e =>
          simp only [hnz, if_false, Spec.validIn, lookup_eq, hl, Option.isSome_some, Bool.not_true, Bool.false_eq_true]
          cases readString r <;> simp [hl]
      | _ => rfl

/-- the octets that start a literal of mode `m`: its pattern bits, then any index prefix -/
def Spec.Mode.starts (m : Spec.Mode) (c : Nat) : Prop := m.flags ≤ c ∧ c < m.flags + 2 ^ m.prefixBits

/-- RFC 7541 §6: the first octet tells the kind of representation -/
theorem first_octet (c : Nat) : 128 ≤ c ∨ (32 ≤ c ∧ c < 64) ∨ ∃ m : Spec.Mode, m.starts c := by
  by_cases h1 : 128 ≤ c
  · exact .inl h1
  by_cases h2 : 64 ≤ c
  · exact .inr (.inr ⟨.incremental, h2, by show c < 64 + 2 ^ 6; omega⟩)
  by_cases h3 : 32 ≤ c
  · exact .inr (.inl ⟨h3, by omega⟩)
  by_cases h4 : 16 ≤ c
  · exact .inr (.inr ⟨.never, h4, by show c < 16 + 2 ^ 4; omega⟩)
  · exact .inr (.inr ⟨.without, Nat.zero_le _, by show c < 0 + 2 ^ 4; omega⟩)

theorem parse_indexed (valid : Nat → Bool) (c : Nat) (cs : Bytes) (hc : 128 ≤ c) :
    Spec.parse valid (c :: cs) =
      match readInt 7 (c :: cs) with
      | .ok i r => .ok (.indexed i) r
      | .needMore => .incomplete
      | .overflow => .invalid := by
  rw [Spec.parse, if_pos hc]
  cases readInt 7 (c :: cs) <;> rfl

theorem parse_update (valid : Nat → Bool) (c : Nat) (cs : Bytes) (hc : 32 ≤ c ∧ c < 64) :
    Spec.parse valid (c :: cs) =
      match readInt 5 (c :: cs) with
      | .ok n r => .ok (.sizeUpdate n) r
      | .needMore => .incomplete
      | .overflow => .invalid := by
  rw [Spec.parse, if_neg (by omega), if_neg (by omega), if_pos hc.1]
  cases readInt 5 (c :: cs) <;> rfl

theorem parse_literal (valid : Nat → Bool) (m : Spec.Mode) (c : Nat) (cs : Bytes) (hc : m.starts c) :
    Spec.parse valid (c :: cs) = Spec.parseLiteral valid m (c :: cs) := by
  obtain ⟨h1, h2⟩ := hc
  cases m <;> simp only [Spec.Mode.flags, Spec.Mode.prefixBits] at h1 h2
  · rw [Spec.parse, if_neg (by omega), if_pos h1]
  · rw [Spec.parse, if_neg (by omega), if_neg (by omega), if_neg (by omega), if_neg (by omega)]
  · rw [Spec.parse, if_neg (by omega), if_neg (by omega), if_neg (by omega), if_pos h1]

theorem parseLiteral_shape (valid : Nat → Bool) (m : Spec.Mode) (b : Bytes) (r : Spec.Repr) (rest : Bytes)
    (h : Spec.parseLiteral valid m b = .ok r rest) : ∃ nr v vh, r = .literal m nr v vh := by
  unfold Spec.parseLiteral at h
  repeat' split at h
  all_goals first
    | (cases h; exact ⟨_, _, _, rfl⟩)
    | (cases h)

/-- a literal adds to the table in incremental mode only and is marked sensitive in never-indexed mode only -/
theorem apply_literal (st : DecState) (k : Nat) (m : Spec.Mode) (nr : Spec.NameRef) (v : Bytes) (vh : Bool) :
    Spec.apply st k (.literal m nr v vh) =
      (match nr with
        | .idx i => (Spec.lookup st.dyn i).map fun e => e.1
        | .lit n _ => some n : Option Bytes).map fun n =>
        (if m = Spec.Mode.incremental then { st with dyn := Spec.insert st.dyn (n, v) st.maxSize } else st,
          some ⟨n, v, decide (m = Spec.Mode.never)⟩) := by
  cases m <;> rfl

theorem nextFuel_literal (fuel : Nat) (st : DecState) (bs : Bool) (fp : Nat) (m : Spec.Mode) (c : Nat) (rest : Bytes)
    (hc : m.starts c) :
    nextFuel (fuel + 1) st bs fp (c :: rest) =
      match readLiteral st m.prefixBits (c :: rest) with
      | .inl (some (n, v, r)) =>
        .ok (if m = .incremental then { st with dyn := insert st.dyn (n, v) st.maxSize } else st)
          (some ⟨n, v, decide (m = .never)⟩) r
      | .inl none => .err
      | .inr true => .needMore
      | .inr false => .err := by
  obtain ⟨h1, h2⟩ := hc
  cases m <;> simp only [Spec.Mode.flags, Spec.Mode.prefixBits] at h1 h2 ⊢
  · rw [nextFuel, if_neg (by omega), if_pos h1]
    rcases readLiteral st 6 (c :: rest) with ⟨_ | ⟨n, v, r⟩⟩ | ⟨_ | _⟩ <;> rfl
  · rw [nextFuel, if_neg (by omega), if_neg (by omega), if_neg (by omega)]
    have : decide (c ≥ 16) = false := by simp; omega
    rcases readLiteral st 4 (c :: rest) with ⟨_ | ⟨n, v, r⟩⟩ | ⟨_ | _⟩ <;> simp [this]
  · rw [nextFuel, if_neg (by omega), if_neg (by omega), if_neg (by omega)]
    have : decide (c ≥ 16) = true := by simp; omega
    rcases readLiteral st 4 (c :: rest) with ⟨_ | ⟨n, v, r⟩⟩ | ⟨_ | _⟩ <;> simp [this]

theorem nextFuel_eq : ∀ (fuel : Nat) (st : DecState) (bs : Bool) (fp : Nat) (b : Bytes),
    nextFuel fuel st bs fp b = Spec.stepFuel fuel st bs fp b := by
  intro fuel
  induction fuel with
  | zero => intro st bs fp b; simp [nextFuel, Spec.stepFuel]
  | succ fuel ih =>
    intro st bs fp b
    cases b with
    | nil => simp [nextFuel, Spec.stepFuel]
    | cons c rest =>
      rcases first_octet c with hc | hc | ⟨m, hc⟩
      · rw [nextFuel, if_pos hc, Spec.stepFuel, parse_indexed _ _ _ hc]
        cases readInt 7 (c :: rest) with
        | ok i r =>
          simp only [Spec.apply, lookup_eq]
          cases Spec.lookup st.dyn i <;> rfl
        | _ => rfl
      · rw [nextFuel, if_neg (by omega), if_neg (by omega), if_pos hc.1, Spec.stepFuel, parse_update _ _ _ hc]
        cases readInt 5 (c :: rest) with
        | ok n r =>
          simp only [Spec.apply, ih, evict_eq]
          cases bs <;> by_cases hfp : fp = 0 <;> by_cases hn : n ≤ st.limit <;>
            simp [hfp, hn, Nat.not_lt.mpr, Nat.lt_of_not_le]
        | _ => rfl
      · rw [nextFuel_literal fuel st bs fp m c rest hc, Spec.stepFuel, parse_literal _ m c rest hc, readLiteral_eq]
        cases hp : Spec.parseLiteral (Spec.validIn st) m (c :: rest) with
        | ok r rest' =>
          obtain ⟨nr, v, vh, rfl⟩ := parseLiteral_shape _ _ _ _ _ hp
          simp only [apply_literal, insert_eq]
          cases nr with
          | idx i => cases hl : Spec.lookup st.dyn i <;> simp [hl]
          | lit n nh => simp
        | _ => rfl

/-- **refinement**: the model of `nextField` computes exactly the RFC 7541 step -/
theorem next_eq_step (st : DecState) (bs : Bool) (fp : Nat) (b : Bytes) :
    Dec.next st bs fp b = Spec.step st bs fp b := nextFuel_eq _ _ _ _ _

theorem ser_eq (r : Spec.Repr) : Spec.ser r = match r with
    | .indexed i => writeInt 7 128 i
    | .literal m (.idx i) v vh => writeInt m.prefixBits m.flags i ++ writeString v vh
    | .literal m (.lit n nh) v vh => writeInt m.prefixBits m.flags 0 ++ writeString n nh ++ writeString v vh
    | .sizeUpdate n => writeInt 5 32 n := by
  cases r with
  | indexed i => simp [Spec.ser, writeInt_eq_encInt]
  | literal m nr v vh => cases nr <;> simp [Spec.ser, writeInt_eq_encInt, writeString_eq_encStr]
  | sizeUpdate n => simp [Spec.ser, writeInt_eq_encInt]

theorem mode_flags_mod (m : Spec.Mode) : m.flags % 2 ^ m.prefixBits = 0 := by cases m <;> decide

theorem readString_writeString_head (s rest : Bytes) (huff : Bool) (hs : WF s) (hl : Spec.strLen s huff < 2 ^ 64) :
    readString (writeString s huff ++ rest) = .ok s rest ∧ decide ((writeString s huff ++ rest).headD 0 ≥ 128) = huff := by
  obtain ⟨h, tl, hh, hd⟩ := writeString_head s huff
  exact ⟨readString_writeString s rest huff hs hl, by rw [hh]; exact hd⟩

theorem parseLiteral_ser (valid : Nat → Bool) (m : Spec.Mode) (nr : Spec.NameRef) (v : Bytes) (vh : Bool) (rest : Bytes)
    (hwf : (Spec.Repr.literal m nr v vh).WF) (hv : ∀ i, nr = .idx i → valid i = true) :
    Spec.parseLiteral valid m (Spec.ser (.literal m nr v vh) ++ rest) = .ok (.literal m nr v vh) rest := by
  rw [ser_eq, parseLiteral_eq]
  cases nr with
  | idx i =>
    obtain ⟨hi0, hi, hvw, hvl⟩ := hwf
    obtain ⟨hr, hd⟩ := readString_writeString_head v rest vh hvw hvl
    simp only [List.append_assoc, readInt_writeInt _ _ _ _ (prefixBits_pos m) (mode_flags_mod m) hi,
      Nat.ne_of_gt hi0, if_false, hv i rfl, Bool.not_true, Bool.false_eq_true, hr, hd]
  | lit n nh =>
    obtain ⟨hnw, hvw, hnl, hvl⟩ := hwf
    obtain ⟨hr, hd⟩ := readString_writeString_head n (writeString v vh ++ rest) nh hnw hnl
    obtain ⟨hr', hd'⟩ := readString_writeString_head v rest vh hvw hvl
    simp only [List.append_assoc, readInt_writeInt _ _ _ _ (prefixBits_pos m) (mode_flags_mod m) (show 0 < 2 ^ 64 by decide),
      if_true, hr, hd, hr', hd']

theorem ser_literal_head (m : Spec.Mode) (nr : Spec.NameRef) (v : Bytes) (vh : Bool) (rest : Bytes) :
    ∃ c tl, Spec.ser (.literal m nr v vh) ++ rest = c :: tl ∧ m.starts c := by
  rw [ser_eq]
  cases nr with
  | idx i =>
    obtain ⟨x, tl, hx, hlt⟩ := writeInt_head m.prefixBits m.flags i
    exact ⟨_, _, by simp only [hx, List.cons_append]; rfl, Nat.le_add_right _ _, Nat.add_lt_add_left hlt _⟩
  | lit n nh =>
    obtain ⟨x, tl, hx, hlt⟩ := writeInt_head m.prefixBits m.flags 0
    exact ⟨_, _, by simp only [hx, List.cons_append]; rfl, Nat.le_add_right _ _, Nat.add_lt_add_left hlt _⟩

/-- **round trip of the wire format**: what RFC 7541 assigns to a representation parses back to it -/
theorem parse_ser (valid : Nat → Bool) (r : Spec.Repr) (rest : Bytes) (hwf : r.WF)
    (hv : ∀ m i v vh, r = .literal m (.idx i) v vh → valid i = true) :
    Spec.parse valid (Spec.ser r ++ rest) = .ok r rest := by
  cases r with
  | indexed i =>
    have hr := readInt_writeInt 7 128 i rest (by decide) (by decide) hwf
    obtain ⟨x, tl, hx, hlt⟩ := writeInt_head 7 128 i
    rw [ser_eq]; simp only
    rw [hx] at hr ⊢
    rw [List.cons_append, parse_indexed _ _ _ (Nat.le_add_right _ _), ← List.cons_append, hr]
  | sizeUpdate n =>
    have hr := readInt_writeInt 5 32 n rest (by decide) (by decide) hwf
    obtain ⟨x, tl, hx, hlt⟩ := writeInt_head 5 32 n
    rw [ser_eq]; simp only
    rw [hx] at hr ⊢
    rw [List.cons_append, parse_update _ _ _ ⟨Nat.le_add_right _ _, by omega⟩, ← List.cons_append, hr]
  | literal m nr v vh =>
    obtain ⟨c, tl, hx, hc⟩ := ser_literal_head m nr v vh rest
    rw [hx, parse_literal _ m c tl hc, ← hx]
    exact parseLiteral_ser valid m nr v vh rest hwf (fun i hi => hv m i v vh (by rw [hi]))

theorem parseLiteral_suffix (valid : Nat → Bool) (m : Spec.Mode) (b : Bytes) (r : Spec.Repr) (rest : Bytes)
    (h : Spec.parseLiteral valid m b = .ok r rest) : ∃ w, w ≠ [] ∧ b = w ++ rest := by
  rw [parseLiteral_eq] at h
  cases hi : readInt m.prefixBits b with
  | ok i r1 =>
    obtain ⟨w1, hw1, hb1, _⟩ := readInt_suffix _ _ _ _ hi
    simp only [hi] at h
    -- the integer, then one string or two
    have one : ∀ s r2, readString r1 = .ok s r2 → ∃ w, w ≠ [] ∧ b = w ++ r2 := fun s r2 hs => by
      obtain ⟨w2, _, hb2⟩ := readString_suffix _ _ _ hs
      exact ⟨w1 ++ w2, by simp [hw1], by rw [hb1, hb2, List.append_assoc]⟩
    split at h
    · cases hs : readString r1 with
      | ok n r2 =>
        obtain ⟨w, hw, hb⟩ := one n r2 hs
        simp only [hs] at h
        cases hs2 : readString r2 with
        | ok v r3 =>
          obtain ⟨w3, _, hb3⟩ := readString_suffix _ _ _ hs2
          simp only [hs2] at h
          cases h
          exact ⟨w ++ w3, by simp [hw], by rw [hb, hb3, List.append_assoc]⟩
        | _ => simp [hs2] at h
      | _ => simp [hs] at h
    · split at h
      · cases h
      · cases hs : readString r1 with
        | ok v r2 =>
          simp only [hs] at h
          cases h
          exact one v _ hs
        | _ => simp [hs] at h
  | _ => simp [hi] at h

theorem parse_suffix (valid : Nat → Bool) (b : Bytes) (r : Spec.Repr) (rest : Bytes)
    (h : Spec.parse valid b = .ok r rest) : ∃ w, w ≠ [] ∧ b = w ++ rest := by
  cases b with
  | nil => simp [Spec.parse] at h
  | cons c cs =>
    -- an indexed field or a size update is one integer
    have int : ∀ n (mk : Nat → Spec.Repr),
        (match readInt n (c :: cs) with
          | .ok i r => Spec.ParseRes.ok (mk i) r
          | .needMore => .incomplete
          | .overflow => .invalid) = .ok r rest → ∃ w, w ≠ [] ∧ c :: cs = w ++ rest := fun n mk h => by
      cases hi : readInt n (c :: cs) with
      | ok i r1 =>
        obtain ⟨w1, hw1, hb1, _⟩ := readInt_suffix _ _ _ _ hi
        simp only [hi] at h
        cases h
        exact ⟨w1, hw1, hb1⟩
      | _ => simp [hi] at h
    rcases first_octet c with hc | hc | ⟨m, hc⟩
    · rw [parse_indexed _ _ _ hc] at h; exact int 7 _ h
    · rw [parse_update _ _ _ hc] at h; exact int 5 _ h
    · rw [parse_literal _ m _ _ hc] at h; exact parseLiteral_suffix _ _ _ _ _ h

theorem parse_progress (valid : Nat → Bool) (b : Bytes) (r : Spec.Repr) (rest : Bytes)
    (h : Spec.parse valid b = .ok r rest) : rest.length < b.length := by
  obtain ⟨w, hw, hb⟩ := parse_suffix valid b r rest h
  exact length_lt_of_suffix hw hb

theorem stepFuel_fuel : ∀ (fuel : Nat) (st : DecState) (bs : Bool) (fp : Nat) (b : Bytes),
    b.length + 1 ≤ fuel → Spec.stepFuel fuel st bs fp b = Spec.stepFuel (b.length + 1) st bs fp b := by
  intro fuel
  induction fuel using Nat.strongRecOn with
  | _ fuel ih =>
    intro st bs fp b h
    cases fuel with
    | zero => omega
    | succ fuel =>
      cases b with
      | nil => simp [Spec.stepFuel]
      | cons c cs =>
        simp only [List.length_cons]
        unfold Spec.stepFuel
        cases hp : Spec.parse (Spec.validIn st) (c :: cs) with
        | incomplete => rfl
        | invalid => rfl
        | ok r rest =>
          have hlt := parse_progress _ _ _ _ hp
          simp only [List.length_cons] at hlt h
          simp only
          cases ha : Spec.apply st (if bs then fp else fp + 1) r with
          | none => rfl
          | some p =>
            obtain ⟨st', o⟩ := p
            cases o with
            | some f => rfl
            | none =>
              simp only
              rw [ih fuel (by omega) st' bs fp rest (by omega), ih (cs.length + 1) (by omega) st' bs fp rest (by omega)]

theorem step_nil (st : DecState) (bs : Bool) (fp : Nat) : Spec.step st bs fp [] = .ok st none [] := by
  simp [Spec.step, Spec.stepFuel]

theorem step_cons (st : DecState) (bs : Bool) (fp c : Nat) (cs : Bytes) :
    Spec.step st bs fp (c :: cs) =
      match Spec.parse (Spec.validIn st) (c :: cs) with
      | .incomplete => .needMore
      | .invalid => .err
      | .ok r rest =>
        match Spec.apply st (if bs then fp else fp + 1) r with
        | none => .err
        | some (st', some f) => .ok st' (some f) rest
        | some (st', none) => Spec.step st' bs fp rest := by
  show Spec.stepFuel (cs.length + 1 + 1) st bs fp (c :: cs) = _
  simp only [Spec.stepFuel]
  cases hp : Spec.parse (Spec.validIn st) (c :: cs) with
  | ok r rest =>
    have hlt := parse_progress _ _ _ _ hp
    simp only [List.length_cons] at hlt
    simp only
    rcases Spec.apply st (if bs then fp else fp + 1) r with _ | ⟨st', _ | f⟩
    · rfl
    · exact stepFuel_fuel (cs.length + 1) st' bs fp rest (by omega)
    · rfl
  | _ => rfl

theorem step_ser (st : DecState) (bs : Bool) (fp : Nat) (r : Spec.Repr) (rest : Bytes) (hwf : r.WF)
    (st' : DecState) (out : Option Field) (ha : Spec.apply st (if bs then fp else fp + 1) r = some (st', out)) :
    Spec.step st bs fp (Spec.ser r ++ rest) =
      match out with
      | some f => .ok st' (some f) rest
      | none => Spec.step st' bs fp rest := by
  have hv : ∀ m i v vh, r = .literal m (.idx i) v vh → Spec.validIn st i = true := by
    intro m i v vh hr
    subst hr
    simp only [Spec.apply] at ha
    unfold Spec.validIn
    cases hl : Spec.lookup st.dyn i with
    | none => simp [hl] at ha
    | some e => rfl
  have hp := parse_ser (Spec.validIn st) r rest hwf hv
  cases hb : Spec.ser r ++ rest with
  | nil => rw [hb] at hp; cases hp
  | cons c cs =>
    rw [hb] at hp
    rw [step_cons, hp]
    simp only [ha]
    cases out <;> rfl

theorem stepFuel_suffix : ∀ (fuel : Nat) (st : DecState) (bs : Bool) (fp : Nat) (b : Bytes) (st' : DecState)
    (o : Option Field) (rest : Bytes), Spec.stepFuel fuel st bs fp b = .ok st' o rest →
    ∃ w, b = w ++ rest ∧ (o.isSome → w ≠ []) ∧ (o = none → rest = []) := by
  intro fuel
  induction fuel with
  | zero => intro st bs fp b st' o rest h; simp [Spec.stepFuel] at h
  | succ fuel ih =>
    intro st bs fp b st' o rest h
    cases b with
    | nil =>
      simp only [Spec.stepFuel] at h
      cases h
      exact ⟨[], rfl, by simp, fun _ => rfl⟩
    | cons c cs =>
      unfold Spec.stepFuel at h
      cases hp : Spec.parse (Spec.validIn st) (c :: cs) with
      | ok r rest1 =>
        obtain ⟨w1, hw1, hb1⟩ := parse_suffix _ _ _ _ hp
        simp only [hp] at h
        rcases ha : Spec.apply st (if bs then fp else fp + 1) r with _ | ⟨st1, _ | f⟩
        · simp [ha] at h
        · simp only [ha] at h
          obtain ⟨w2, hb2, _, hn⟩ := ih _ _ _ _ _ _ _ h
          exact ⟨w1 ++ w2, by rw [hb1, hb2, List.append_assoc], fun _ => by simp [hw1], hn⟩
        · simp only [ha] at h
          cases h
          exact ⟨w1, hb1, fun _ => hw1, fun h => by cases h⟩
      | _ => simp [hp] at h

/-- a well-formed representation whose meaning is undefined on the current table (index 0 or past the
table, size update above the limit or after a field) is rejected -/
theorem step_ser_reject (st : DecState) (bs : Bool) (fp : Nat) (r : Spec.Repr) (rest : Bytes) (hwf : r.WF)
    (ha : Spec.apply st (if bs then fp else fp + 1) r = none) :
    Spec.step st bs fp (Spec.ser r ++ rest) = .err := by
  by_cases hv : ¬ ∃ m i v vh, r = .literal m (.idx i) v vh ∧ Spec.validIn st i = false
  · have hv' : ∀ m i v vh, r = .literal m (.idx i) v vh → Spec.validIn st i = true := by
      intro m i v vh hr
      cases hx : Spec.validIn st i with
      | true => rfl
      | false => exact absurd ⟨m, i, v, vh, hr, hx⟩ hv
    have hp := parse_ser (Spec.validIn st) r rest hwf hv'
    cases hb : Spec.ser r ++ rest with
    | nil => rw [hb] at hp; cases hp
    | cons c cs =>
      rw [hb] at hp
      rw [step_cons, hp]
      simp only [ha]
  · -- a literal naming a missing entry: already the parser refuses it
    have hv := Classical.not_not.mp hv
    obtain ⟨m, i, v, vh, hr, hval'⟩ := hv
    subst hr
    obtain ⟨hi0, hi, hvw, hvl⟩ := hwf
    have hpl : Spec.parseLiteral (Spec.validIn st) m (Spec.ser (.literal m (.idx i) v vh) ++ rest) = .invalid := by
      rw [ser_eq, parseLiteral_eq]
      simp only [List.append_assoc, readInt_writeInt _ _ _ _ (prefixBits_pos m) (mode_flags_mod m) hi, Nat.ne_of_gt hi0,
        hval', if_false, Bool.not_false, if_true]
    obtain ⟨c, tl, hx, hc⟩ := ser_literal_head m (.idx i) v vh rest
    rw [hx] at hpl ⊢
    rw [step_cons, parse_literal _ m c tl hc, hpl]

end H2.Hpack
