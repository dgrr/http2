import H2.Server.Lock.PerFrame
import H2.Proofs.ServerShape
import H2.Proofs.Msg
/-!
# C20 — refinement: the abstract model's field loop body IS the full server model's

`Msg.field` (the C20 model) against `H2.Server.fieldVerdict` / `fieldUpdate` (the body of `fieldLoop` in the full
server model, the one the correspondence check ties to the Go code), through the projection `Lock.msgSt`.
Proved, not only run in lockstep.
-/
namespace H2.Server.Lock
open H2.Server

def absErr : SErr → Msg.Verdict
  | .goAway code _ => .goAway code
  | .reset code => .rst code

def cfgOf (cfg : Server.Cfg) : Msg.Cfg := { maxHeaderList := cfg.maxHeaderList, maxBody := cfg.maxBody }

theorem hasUpper_eq (k : Bytes) : Msg.hasUpper k = hasUpperCase k := by
  unfold Msg.hasUpper hasUpperCase
  congr 1

theorem connSpecific_eq (k : Bytes) : Msg.isConnSpecific k = isConnectionSpecific k := by
  unfold Msg.isConnSpecific isConnectionSpecific
  rw [List.contains_eq_any_beq]
  congr 1
  funext x
  exact Bool.beq_comm ..

theorem parseAux_eq (v : Bytes) : ∀ a : Nat,
    v.foldl (fun acc c => match acc with
      | none => none
      | some n =>
        if c < 48 || c > 57 then none
        else if n * 10 + (c - 48 : Nat) > (2 ^ 63 - 1 : Int) then none
        else some (n * 10 + (c - 48 : Nat))) (some (a : Int)) = (Msg.parseUintAux v a).map Int.ofNat := by
  induction v with
  | nil => intro a; simp [Msg.parseUintAux]
  | cons c cs ih =>
    intro a
    simp only [List.foldl_cons, Msg.parseUintAux]
    have hnone : ∀ l : Bytes, l.foldl (fun (acc : Option Int) c => match acc with
      | none => none
      | some n =>
        if c < 48 || c > 57 then none
        else if n * 10 + (c - 48 : Nat) > (2 ^ 63 - 1 : Int) then none
        else some (n * 10 + (c - 48 : Nat))) none = none := by
      intro l; induction l with
      | nil => rfl
      | cons x xs ihx => simpa using ihx
    by_cases h1 : c < 48 ∨ 57 < c
    · have h1' : (decide (c < 48) || decide (c > 57)) = true := by simpa using h1
      simp only [h1', ↓reduceIte, h1, hnone, Option.map_none]
    · have h1' : (decide (c < 48) || decide (c > 57)) = false := by simpa using h1
      simp only [h1', Bool.false_eq_true, ↓reduceIte, h1]
      by_cases h2 : a * 10 + (c - 48) > Msg.maxInt
      · have : ((a : Int) * 10 + ((c - 48 : Nat) : Int) > (2 ^ 63 - 1 : Int)) := by
          unfold Msg.maxInt at h2; omega
        simp only [this, ↓reduceIte, h2, hnone, Option.map_none]
      · have : ¬ ((a : Int) * 10 + ((c - 48 : Nat) : Int) > (2 ^ 63 - 1 : Int)) := by
          unfold Msg.maxInt at h2; omega
        simp only [this, ↓reduceIte, h2]
        have := ih (a * 10 + (c - 48))
        simpa using this

theorem parseUint_eq (v : Bytes) : Server.parseUint v = (Msg.parseUint v).map Int.ofNat := by
  unfold Server.parseUint Msg.parseUint
  split
  · simp
  · exact parseAux_eq v 0

attribute [local simp] Msg.field fieldVerdict fieldUpdate msgSt cfgOf absErr hasUpper_eq connSpecific_eq Msg.eProtocol
  Msg.eListSize in
/-- **refinement**: one iteration of the C20 model's field loop is the full server model's
`fieldVerdict` / `fieldUpdate` seen through the projection `msgSt` -/
theorem field_refines (cfg : Server.Cfg) (st : Strm) (f : Hpack.Field) (hcl : 0 ≤ st.contentLength) :
    Msg.field (cfgOf cfg) (msgSt st) (f.name, f.value) =
      match fieldVerdict cfg st f with
      | none => .ok (msgSt (fieldUpdate st f))
      | some e => .error (absErr e) := by
  -- the two functions are the same chain of tests: walk it, every test decided on both sides at once
  obtain ⟨k, v, sens⟩ := f
  simp only
  by_cases h0 : 0 < cfg.maxHeaderList ∧ cfg.maxHeaderList < (st.hdrListSize : Int) + k.length + v.length + 32
  · simp [h0]
  by_cases hu : hasUpperCase k = true
  · simp [h0, hu]
  simp only [Bool.not_eq_true] at hu
  by_cases hp : k.head? = some 58
  · have hp' : Msg.isPseudo k = true := by simp [Msg.isPseudo, hp]
    by_cases hr : st.regularSeen = true
    · simp [h0, hu, hp, hp', hr]
    simp only [Bool.not_eq_true] at hr
    by_cases k1 : k = Gen.s_StringMethod
    · subst k1
      cases hm : st.pMethod <;>
        simp +decide [h0, hu, hp, hp', hr, hm]
    by_cases k2 : k = Gen.s_StringPath
    · subst k2
      cases hm : st.pPath <;>
        simp +decide [h0, hu, hp, hp', hr, hm]
    by_cases k3 : k = Gen.s_StringScheme
    · subst k3
      cases hm : st.pScheme <;>
        simp +decide [h0, hu, hp, hp', hr, hm]
    by_cases k4 : k = Gen.s_StringAuthority
    · subst k4
      cases hm : st.pAuthority <;>
        simp +decide [h0, hu, hp, hp', hr, hm]
    · simp [h0, hu, hp, hp', hr, k1, k2, k3, k4]
  · have hp' : Msg.isPseudo k = false := by simp [Msg.isPseudo, hp]
    by_cases hc : isConnectionSpecific k = true
    · simp [h0, hu, hp, hp', hc]
    simp only [Bool.not_eq_true] at hc
    by_cases ht : k = Gen.s_StringTE ∧ v ≠ Gen.s_StringTrailers
    · obtain ⟨e, hv⟩ := ht
      subst e
      simp +decide [h0, hu, hp', hc, hv]
    by_cases c3 : k = Gen.s_StringUserAgent
    · subst c3
      simp +decide [h0, hu, hp', hc]
    by_cases c4 : k = Gen.s_StringContentType
    · subst c4
      simp +decide [h0, hu, hp', hc]
    by_cases c5 : k = Gen.s_StringContentLength
    · subst c5
      rw [show fieldVerdict cfg st ⟨Gen.s_StringContentLength, v, sens⟩ = _ from rfl]
      simp +decide [h0, hu, hp', hc, parseUint_eq]
      cases hpu : Msg.parseUint v with
      | none => simp
      | some n =>
        simp only [Option.map_some]
        have e1 : (¬ n = st.contentLength.toNat) ↔ (¬ Int.ofNat n = st.contentLength) := by
          constructor
          · intro h e; apply h; rw [← e]; simp
          · intro h e; apply h; rw [e]; exact Int.toNat_of_nonneg hcl
        have e2 : (cfg.maxBody < n) ↔ ((cfg.maxBody : Int) < Int.ofNat n) := by
          constructor <;> intro h <;> (simp only [Int.ofNat_eq_natCast] at *; omega)
        simp only [e1, e2]
        split
        · rfl
        · split
          · rfl
          · simp
    · have ht' : ¬ (k = Gen.s_StringTE ∧ ¬ v = Gen.s_StringTrailers) := ht
      simp [h0, hu, hp, hp', hc, ht', c3, c4, c5]

/-- the hypothesis of `field_refines` is an invariant: `contentLength` starts at 0 and is only ever set to a parsed value -/
theorem contentLength_nonneg (st : Strm) (f : Hpack.Field) (hcl : 0 ≤ st.contentLength) :
    0 ≤ (fieldUpdate st f).contentLength := by
  refine fieldUpdate_cases (P := fun x => 0 ≤ x.contentLength) st f hcl hcl hcl hcl hcl hcl hcl (fun n hn => ?_) hcl hcl
  rw [parseUint_eq] at hn
  cases hp : Msg.parseUint f.value with
  | none => simp [hp] at hn
  | some m => simp [hp] at hn; subst hn; simp

end H2.Server.Lock
