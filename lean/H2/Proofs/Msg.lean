import H2.Server.Abs.Msg
/-!
# C20 / C01 — proofs about the request-validation model `H2.Server.Msg`

One iteration of the field loop is walked once (`field_cases`). `acc_iff`: the loop gets through a list, and the
content-length test at dispatch passes, iff the list satisfies the clauses of `WFRequest` relative to the flags the loop
starts with. With the closed form of what an accepted list leaves in the state (`fold_view`) that gives the whole message
(`dispatched_iff_wf`, the refusal theorems) and the view the handler gets (`view_intact`, for C01); `chunk_invariance` is
the loop over a list cut at HEADERS / CONTINUATION boundaries.
-/
namespace H2.Server.Msg
open H2.Server.MsgSpec

/-! ## bridges -/

theorem hasUpper_eq_false {k : Bytes} : hasUpper k = false ↔ upperFree k := by
  simp [hasUpper, upperFree]

theorem hasUpper_eq_true {k : Bytes} : hasUpper k = true ↔ ¬ upperFree k := by
  rw [← hasUpper_eq_false]; cases hasUpper k <;> simp

theorem isPseudo_eq_true {k : Bytes} : isPseudo k = true ↔ Pseudo k := by
  unfold isPseudo Pseudo; simp

theorem isPseudo_eq_false {k : Bytes} : isPseudo k = false ↔ ¬ Pseudo k := by
  rw [← isPseudo_eq_true]; cases isPseudo k <;> simp

theorem isConnSpecific_eq_true {k : Bytes} : isConnSpecific k = true ↔ ConnSpecific k := by
  unfold isConnSpecific ConnSpecific; simp

/-! ## parseUint -/

def step10 (a c : Nat) : Nat := a * 10 + (c - 48)

theorem natVal_eq (v : Bytes) : natVal v = v.foldl step10 0 := rfl

theorem foldl_step10_ge (v : Bytes) (a : Nat) : a ≤ v.foldl step10 a := by
  induction v generalizing a with
  | nil => simp
  | cons c cs ih =>
    simp only [List.foldl_cons]
    have := ih (step10 a c)
    unfold step10 at this ⊢
    omega

theorem parseUintAux_eq_some {v : Bytes} {a n : Nat} (ha : a ≤ maxInt) :
    parseUintAux v a = some n ↔ (∀ c ∈ v, 48 ≤ c ∧ c ≤ 57) ∧ v.foldl step10 a = n ∧ n ≤ maxInt := by
  induction v generalizing a with
  | nil => simp only [parseUintAux, Option.some.injEq, List.not_mem_nil, false_implies, implies_true, List.foldl_nil, true_and]
           exact ⟨fun h => ⟨h, h ▸ ha⟩, fun h => h.1⟩
  | cons c cs ih =>
    simp only [parseUintAux, List.forall_mem_cons, List.foldl_cons]
    by_cases hc : c < 48 ∨ 57 < c
    · rw [if_pos hc]; exact ⟨nofun, fun h => by omega⟩
    rw [if_neg hc]
    by_cases hm : a * 10 + (c - 48) > maxInt
    · rw [if_pos hm]
      refine ⟨nofun, fun h => ?_⟩
      have := foldl_step10_ge cs (step10 a c)
      unfold step10 at this h; omega
    · rw [if_neg hm, ih (by omega)]
      unfold step10
      exact ⟨fun h => ⟨⟨by omega, h.1⟩, h.2⟩, fun h => ⟨h.1.2, h.2⟩⟩

/-- `parseUint` is `1*DIGIT` read as an unbounded integer, if the value fits a Go `int` -/
theorem parseUint_eq_some {v : Bytes} {n : Nat} : parseUint v = some n ↔ Digits v ∧ natVal v = n ∧ n ≤ maxInt := by
  unfold parseUint Digits
  by_cases he : v = []
  · subst he; simp
  · rw [if_neg (by simpa using he), parseUintAux_eq_some (by decide), natVal_eq]
    simp [he]

theorem parseUint_iff {v : Bytes} {n : Nat} (hn : n ≤ maxInt) :
    parseUint v = some n ↔ Digits v ∧ natVal v = n := by
  rw [parseUint_eq_some]; exact ⟨fun h => ⟨h.1, h.2.1⟩, fun h => ⟨h.1, h.2, hn⟩⟩

/-! ## the field loop against the clauses of `WFRequest` -/

def fsize (f : Field) : Nat := f.1.length + f.2.length + 32
def total (fs : List Field) : Nat := (fs.map fsize).sum

/-- the header list stays within `MaxHeaderListSize` (or the limit is off) -/
def sizeWithin (cfg : Cfg) (n : Nat) : Prop := ¬ (0 < cfg.maxHeaderList ∧ cfg.maxHeaderList < (n : Int))

theorem sizeWithin_mono {cfg : Cfg} {a b : Nat} (h : sizeWithin cfg b) (hab : a ≤ b) : sizeWithin cfg a := by
  unfold sizeWithin at *; omega

theorem total_cons (f : Field) (fs : List Field) : total (f :: fs) = fsize f + total fs := by
  simp [total]

theorem total_append (a b : List Field) : total (a ++ b) = total a + total b := by
  simp [total, List.map_append, List.sum_append]

/-- the limits the verdict is stated within: header list size, body size (declared and received) -/
structure Lim (cfg : Cfg) (st : St) (fs : List Field) (d : Nat) : Prop where
  size : sizeWithin cfg (st.listSize + total fs)
  body : 0 < cfg.maxBody → d ≤ cfg.maxBody
  int : d ≤ maxInt

/-- the loop gets through `fs` from `st`, and the content-length test of the dispatch passes for `d` octets -/
def Acc (cfg : Cfg) (st : St) (fs : List Field) (d : Nat) : Prop :=
  ∃ st', loop cfg st fs = .ok st' ∧ (st'.hasCL = true → st'.cl = d)

def cnt (p : Bytes) (fs : List Field) : Nat := fs.countP fun f => f.1 = p

/-- the clauses of `WFRequest` for a list `fs` that continues a message: relative to what has been seen
before it (`rs`: a regular field; `pM … pA`: the pseudo-headers; `hc`, `c`: a content-length and its value) -/
structure Cond (rs pM pS pP pA hc : Bool) (c : Nat) (fs : List Field) (d : Nat) : Prop where
  lower : ∀ f ∈ fs, upperFree f.1
  order : fs.Pairwise fun a b => Pseudo b.1 → Pseudo a.1
  first : rs = true → ∀ f ∈ fs, ¬ Pseudo f.1
  known : ∀ f ∈ fs, Pseudo f.1 → f.1 ∈ requestPseudo
  onceM : cnt sMethod fs + pM.toNat ≤ 1
  onceS : cnt sScheme fs + pS.toNat ≤ 1
  onceP : cnt sPath fs + pP.toNat ≤ 1
  onceA : cnt sAuthority fs + pA.toNat ≤ 1
  noConn : ∀ f ∈ fs, ¬ ConnSpecific f.1
  te : ∀ f ∈ fs, TEok f
  cl : ∀ f ∈ fs, f.1 = sContentLength → Digits f.2 ∧ natVal f.2 = d
  clSt : hc = true → c = d

abbrev CondSt (st : St) (fs : List Field) (d : Nat) : Prop :=
  Cond st.regularSeen st.pMethod st.pScheme st.pPath st.pAuthority st.hasCL st.cl fs d

theorem acc_nil (cfg : Cfg) (st : St) (d : Nat) : Acc cfg st [] d ↔ (st.hasCL = true → st.cl = d) := by
  simp [Acc, loop]

theorem cond_nil {rs pM pS pP pA hc : Bool} {c d : Nat} : Cond rs pM pS pP pA hc c [] d ↔ (hc = true → c = d) := by
  constructor
  · intro h; exact h.clSt
  · intro h
    refine ⟨by simp, by simp, by simp, by simp, ?_, ?_, ?_, ?_, by simp, by simp, by simp, h⟩ <;>
      simpa [cnt] using Bool.toNat_le _

theorem cnt_cons (p : Bytes) (f : Field) (fs : List Field) :
    cnt p (f :: fs) = cnt p fs + (if f.1 = p then 1 else 0) := by
  simp [cnt, List.countP_cons]

theorem once_cons (p : Bytes) (b : Bool) (f : Field) (fs : List Field) :
    cnt p (f :: fs) + b.toNat ≤ 1 ↔ (f.1 = p → b = false) ∧ cnt p fs + (b || decide (f.1 = p)).toNat ≤ 1 := by
  rw [cnt_cons]
  by_cases h : f.1 = p <;> cases b <;> simp [h] <;> omega

/-! ### one iteration of the loop -/

/-- the size test as `field` writes it -/
def sizeOver (cfg : Cfg) (st : St) (f : Field) : Prop :=
  0 < cfg.maxHeaderList ∧ cfg.maxHeaderList < ((st.listSize + f.1.length + f.2.length + 32 : Nat) : Int)

theorem not_sizeOver {cfg : Cfg} {st : St} {f : Field} (h : sizeWithin cfg (st.listSize + fsize f)) :
    ¬ sizeOver cfg st f := by
  unfold sizeOver; unfold sizeWithin fsize at h
  rw [show st.listSize + f.1.length + f.2.length + 32 = st.listSize + (f.1.length + f.2.length + 32) by omega]
  exact h

/-- a declared length above `MaxRequestBodySize` -/
def clOver (cfg : Cfg) (f : Field) : Prop :=
  f.1 = sContentLength ∧ ∃ n, parseUint f.2 = some n ∧ 0 < cfg.maxBody ∧ cfg.maxBody < n

/-- what one iteration asks of `f` under the flags of `st`, the two limits apart: clauses (1)–(3) and (5)–(7) of
`WFRequest` for this one field, (7) as far as the loop can tell before the DATA frames are in -/
structure Admits (st : St) (f : Field) : Prop where
  lower : upperFree f.1
  pseudo : Pseudo f.1 → st.regularSeen = false ∧ f.1 ∈ requestPseudo ∧ (f.1 = sMethod → st.pMethod = false) ∧
    (f.1 = sScheme → st.pScheme = false) ∧ (f.1 = sPath → st.pPath = false) ∧ (f.1 = sAuthority → st.pAuthority = false)
  regular : ¬ Pseudo f.1 → ¬ ConnSpecific f.1 ∧ TEok f ∧
    (f.1 = sContentLength → ∃ n, parseUint f.2 = some n ∧ (st.hasCL = true → st.cl = n))

/-- the running header-list size is updated before anything else -/
def bump (st : St) (f : Field) : St := { st with listSize := st.listSize + f.1.length + f.2.length + 32 }

/-- the bookkeeping of one accepted field (what `field` returns when it accepts) -/
def upd (st : St) (f : Field) : St :=
  let st := bump st f
  if isPseudo f.1 then
    if f.1 = Gen.s_StringMethod then { st with pMethod := true, method := f.2 }
    else if f.1 = Gen.s_StringPath then { st with pPath := true, path := f.2 }
    else if f.1 = Gen.s_StringScheme then { st with pScheme := true }
    else if f.1 = Gen.s_StringAuthority then { st with pAuthority := true, authority := f.2 }
    else st
  else
    let st := { st with regularSeen := true }
    if f.1 = Gen.s_StringUserAgent then { st with userAgent := some f.2 }
    else if f.1 = Gen.s_StringContentType then { st with contentType := some f.2 }
    else if f.1 = Gen.s_StringContentLength then
      match parseUint f.2 with
      | some n => { st with hasCL := true, cl := n }
      | none => st
    else { st with fields := st.fields ++ [(f.1, f.2)] }

/-- the only place where `field` is unfolded -/
theorem field_cases {cfg : Cfg} {st : St} {f : Field} {P : Except Verdict St → Prop}
    (size : sizeOver cfg st f → P (.error eListSize))
    (proto : ¬ Admits st f → P (.error eProtocol))
    (large : clOver cfg f → P (.error eTooLarge))
    (ok : ¬ sizeOver cfg st f → Admits st f → ¬ clOver cfg f → P (.ok (upd st f))) : P (field cfg st f) := by
  simp only [field]
  by_cases hsz : sizeOver cfg st f
  · rw [if_pos (by exact hsz)]; exact size hsz
  rw [if_neg (by exact hsz)]
  by_cases hu : hasUpper f.1 = true
  · rw [if_pos hu]; exact proto fun a => hasUpper_eq_true.mp hu a.lower
  rw [if_neg hu]
  have hlow : upperFree f.1 := hasUpper_eq_false.mp (Bool.eq_false_iff.mpr hu)
  have okU : ∀ s, upd st f = s → Admits st f → ¬ clOver cfg f → P (.ok s) := fun s e a c => e ▸ ok hsz a c
  by_cases hp : isPseudo f.1 = true
  · rw [if_pos hp]
    have hps : Pseudo f.1 := isPseudo_eq_true.mp hp
    by_cases hrs : st.regularSeen = true
    · rw [if_pos hrs]; exact proto fun a => by have := (a.pseudo hps).1; rw [hrs] at this; cases this
    rw [if_neg hrs]
    -- one of the four request pseudo-headers: refused if its flag is up, else `upd` raises the flag
    have slot : ∀ (flag : Bool) (s : St), (Admits st f → flag = false) → f.1 ∈ requestPseudo →
        (flag = false → (f.1 = sMethod → st.pMethod = false) ∧ (f.1 = sScheme → st.pScheme = false) ∧
          (f.1 = sPath → st.pPath = false) ∧ (f.1 = sAuthority → st.pAuthority = false)) →
        upd st f = s → P (if flag = true then .error eProtocol else .ok s) := by
      intro flag s h1 h0 h2 e
      cases flag
      · rw [if_neg (by decide)]
        exact okU s e ⟨hlow, fun _ => ⟨Bool.eq_false_iff.mpr hrs, h0, h2 rfl⟩, fun h => absurd hps h⟩
          fun h => absurd (h.1 ▸ hps) (by decide)
      · rw [if_pos rfl]; exact proto fun a => by cases h1 a
    by_cases k1 : f.1 = Gen.s_StringMethod
    · rw [if_pos k1]
      exact slot _ _ (fun a => (a.pseudo hps).2.2.1 k1) (by simp [requestPseudo, sMethod, k1])
        (fun hf => ⟨fun _ => hf, fun e => absurd (k1 ▸ e) (by decide), fun e => absurd (k1 ▸ e) (by decide),
          fun e => absurd (k1 ▸ e) (by decide)⟩)
        (by simp only [upd, bump, hp, if_pos k1, ↓reduceIte])
    rw [if_neg k1]
    by_cases k2 : f.1 = Gen.s_StringPath
    · rw [if_pos k2]
      exact slot _ _ (fun a => (a.pseudo hps).2.2.2.2.1 k2) (by simp [requestPseudo, sPath, k2])
        (fun hf => ⟨fun e => absurd e k1, fun e => absurd (k2 ▸ e) (by decide), fun _ => hf,
          fun e => absurd (k2 ▸ e) (by decide)⟩)
        (by simp only [upd, bump, hp, if_neg k1, if_pos k2, ↓reduceIte])
    rw [if_neg k2]
    by_cases k3 : f.1 = Gen.s_StringScheme
    · rw [if_pos k3]
      exact slot _ _ (fun a => (a.pseudo hps).2.2.2.1 k3) (by simp [requestPseudo, sScheme, k3])
        (fun hf => ⟨fun e => absurd e k1, fun _ => hf, fun e => absurd e k2, fun e => absurd (k3 ▸ e) (by decide)⟩)
        (by simp only [upd, bump, hp, if_neg k1, if_neg k2, if_pos k3, ↓reduceIte])
    rw [if_neg k3]
    by_cases k4 : f.1 = Gen.s_StringAuthority
    · rw [if_pos k4]
      exact slot _ _ (fun a => (a.pseudo hps).2.2.2.2.2 k4) (by simp [requestPseudo, sAuthority, k4])
        (fun hf => ⟨fun e => absurd e k1, fun e => absurd e k3, fun e => absurd e k2, fun _ => hf⟩)
        (by simp only [upd, bump, hp, if_neg k1, if_neg k2, if_neg k3, if_pos k4, ↓reduceIte])
    rw [if_neg k4]
    exact proto fun a => by
      have := (a.pseudo hps).2.1
      simp only [requestPseudo, List.mem_cons, List.not_mem_nil, or_false] at this
      rcases this with e | e | e | e
      · exact k1 e
      · exact k3 e
      · exact k2 e
      · exact k4 e
  · rw [if_neg hp]
    have hnp : ¬ Pseudo f.1 := fun h => hp (isPseudo_eq_true.mpr h)
    by_cases c1 : isConnSpecific f.1 = true
    · rw [if_pos c1]; exact proto fun a => (a.regular hnp).1 (isConnSpecific_eq_true.mp c1)
    rw [if_neg c1]
    by_cases c2 : f.1 = Gen.s_StringTE ∧ f.2 ≠ Gen.s_StringTrailers
    · rw [if_pos c2]; exact proto fun a => c2.2 ((a.regular hnp).2.1 c2.1)
    rw [if_neg c2]
    have adm : (f.1 = sContentLength → ∃ n, parseUint f.2 = some n ∧ (st.hasCL = true → st.cl = n)) → Admits st f :=
      fun h => ⟨hlow, fun h => absurd h hnp, fun _ => ⟨fun h => c1 (isConnSpecific_eq_true.mpr h),
        fun e => Classical.byContradiction fun e2 => c2 ⟨e, e2⟩, h⟩⟩
    have hp' : isPseudo f.1 = false := Bool.eq_false_iff.mpr hp
    by_cases c3 : f.1 = Gen.s_StringUserAgent
    · rw [if_pos c3]
      exact okU _ (by simp only [upd, bump, hp', if_pos c3, Bool.false_eq_true, ↓reduceIte])
        (adm fun e => absurd (c3 ▸ e) (by decide)) fun h => absurd (c3 ▸ h.1) (by decide)
    rw [if_neg c3]
    by_cases c4 : f.1 = Gen.s_StringContentType
    · rw [if_pos c4]
      exact okU _ (by simp only [upd, bump, hp', if_neg c3, if_pos c4, Bool.false_eq_true, ↓reduceIte])
        (adm fun e => absurd (c4 ▸ e) (by decide)) fun h => absurd (c4 ▸ h.1) (by decide)
    rw [if_neg c4]
    by_cases c5 : f.1 = Gen.s_StringContentLength
    · rw [if_pos c5]
      cases hn : parseUint f.2 with
      | none => exact proto fun a => by obtain ⟨n, h, _⟩ := (a.regular hnp).2.2 c5; rw [hn] at h; cases h
      | some n =>
        simp only []
        by_cases c6 : st.hasCL = true ∧ n ≠ st.cl
        · rw [if_pos c6]
          exact proto fun a => by
            obtain ⟨m, h, e⟩ := (a.regular hnp).2.2 c5
            rw [hn] at h; cases h; exact c6.2 (e c6.1).symm
        rw [if_neg c6]
        by_cases c7 : 0 < cfg.maxBody ∧ cfg.maxBody < n
        · rw [if_pos c7]; exact large ⟨c5, n, hn, c7⟩
        rw [if_neg c7]
        exact okU _ (by simp only [upd, bump, hp', if_neg c3, if_neg c4, if_pos c5, hn, Bool.false_eq_true, ↓reduceIte])
          (adm fun _ => ⟨n, hn, fun h => Classical.byContradiction fun e => c6 ⟨h, fun e' => e e'.symm⟩⟩)
          fun ⟨_, m, hm, h⟩ => by rw [hn] at hm; cases hm; exact c7 h
    rw [if_neg c5]
    exact okU _ (by simp only [upd, bump, hp', if_neg c3, if_neg c4, if_neg c5, Bool.false_eq_true, ↓reduceIte])
      (adm fun e => absurd e c5) fun h => c5 h.1

theorem field_ok_iff {cfg : Cfg} {st st1 : St} {f : Field} :
    field cfg st f = .ok st1 ↔ ¬ sizeOver cfg st f ∧ Admits st f ∧ ¬ clOver cfg f ∧ st1 = upd st f := by
  constructor
  · exact field_cases (P := fun r => r = .ok st1 → _) (fun _ h => nomatch h) (fun _ h => nomatch h) (fun _ h => nomatch h)
      fun h1 h2 h3 h => ⟨h1, h2, h3, (Except.ok.inj h).symm⟩
  · rintro ⟨h1, h2, h3, rfl⟩
    exact field_cases (P := fun r => r = .ok _) (fun h => absurd h h1) (fun h => absurd h2 h) (fun h => absurd h h3)
      fun _ _ _ => rfl

theorem field_ok_upd {cfg : Cfg} {st st1 : St} {f : Field} (h : field cfg st f = .ok st1) : st1 = upd st f :=
  (field_ok_iff.mp h).2.2.2

theorem field_error {cfg : Cfg} {st : St} {f : Field} {e : Verdict} :
    field cfg st f = .error e →
      e = eProtocol ∨ (e = eListSize ∧ sizeOver cfg st f) ∨ (e = eTooLarge ∧ clOver cfg f) :=
  field_cases (P := fun r => r = .error e → _) (fun hs h => .inr (.inl ⟨(Except.error.inj h).symm, hs⟩))
    (fun _ h => .inl (Except.error.inj h).symm) (fun hc h => .inr (.inr ⟨(Except.error.inj h).symm, hc⟩))
    fun _ _ _ h => nomatch h

theorem upd_eq (st : St) (f : Field) : upd st f =
    { pMethod := st.pMethod || decide (f.1 = sMethod), pScheme := st.pScheme || decide (f.1 = sScheme),
      pPath := st.pPath || decide (f.1 = sPath), pAuthority := st.pAuthority || decide (f.1 = sAuthority),
      regularSeen := st.regularSeen || !isPseudo f.1,
      hasCL := st.hasCL || (decide (f.1 = sContentLength) && (parseUint f.2).isSome),
      cl := if f.1 = sContentLength then (parseUint f.2).getD st.cl else st.cl,
      listSize := st.listSize + fsize f,
      method := if f.1 = sMethod then f.2 else st.method, path := if f.1 = sPath then f.2 else st.path,
      authority := if f.1 = sAuthority then f.2 else st.authority,
      contentType := if f.1 = sContentType then some f.2 else st.contentType,
      userAgent := if f.1 = sUserAgent then some f.2 else st.userAgent,
      fields := st.fields ++ if plain f then [f] else [] } := by
  obtain ⟨k, v⟩ := f
  have hl : ∀ n : Nat, n + k.length + v.length + 32 = n + fsize (k, v) := fun n => by simp only [fsize]; omega
  by_cases k1 : k = sMethod
  · subst k1; simp +decide [upd, bump, plain, hl]
  by_cases k2 : k = sPath
  · subst k2; simp +decide [upd, bump, plain, hl]
  by_cases k3 : k = sScheme
  · subst k3; simp +decide [upd, bump, plain, hl]
  by_cases k4 : k = sAuthority
  · subst k4; simp +decide [upd, bump, plain, hl]
  by_cases k5 : k = sUserAgent
  · subst k5; simp +decide [upd, bump, plain, hl]
  by_cases k6 : k = sContentType
  · subst k6; simp +decide [upd, bump, plain, hl]
  by_cases k7 : k = sContentLength
  · subst k7; cases hn : parseUint v <;> simp +decide [upd, bump, plain, hl, hn]
  · simp only [sMethod, sPath, sScheme, sAuthority, sUserAgent, sContentType, sContentLength] at k1 k2 k3 k4 k5 k6 k7 ⊢
    cases hp : isPseudo k
    · have : (k.head? == some 58) = false := hp
      simp [upd, bump, plain, sUserAgent, sContentType, sContentLength, hl, hp, k1, k2, k3, k4, k5, k6, k7, this]
    · have : (k.head? == some 58) = true := hp
      simp [upd, bump, plain, sUserAgent, sContentType, sContentLength, hl, hp, k1, k2, k3, k4, k5, k6, k7, this]

/-! ### the loop against the clauses -/

theorem requestPseudo_plain : ∀ k ∈ requestPseudo, Pseudo k ∧ ¬ ConnSpecific k ∧ k ≠ Gen.s_StringTE ∧ k ≠ sContentLength := by
  decide

theorem condSt_cons {st : St} {f : Field} {fs : List Field} {d : Nat} (hd : d ≤ maxInt) :
    CondSt st (f :: fs) d ↔ Admits st f ∧ CondSt (upd st f) fs d := by
  have hps : isPseudo f.1 = false ↔ ¬ Pseudo f.1 := isPseudo_eq_false
  constructor
  · intro h
    have hf : f ∈ f :: fs := List.mem_cons_self
    have tl : ∀ g ∈ fs, g ∈ f :: fs := fun g hg => List.mem_cons_of_mem _ hg
    have ho := List.pairwise_cons.mp h.order
    have hcl : f.1 = sContentLength → parseUint f.2 = some d := fun e => (parseUint_iff hd).mpr (h.cl f hf e)
    refine ⟨⟨h.lower f hf, fun hp => ⟨?_, h.known f hf hp, ((once_cons ..).mp h.onceM).1, ((once_cons ..).mp h.onceS).1,
        ((once_cons ..).mp h.onceP).1, ((once_cons ..).mp h.onceA).1⟩,
      fun _ => ⟨h.noConn f hf, h.te f hf, fun e => ⟨d, hcl e, h.clSt⟩⟩⟩, ?_⟩
    · cases hrs : st.regularSeen
      · rfl
      · exact absurd hp (h.first hrs f hf)
    · rw [CondSt, upd_eq]
      refine ⟨fun g hg => h.lower g (tl g hg), ho.2, ?_, fun g hg => h.known g (tl g hg), ((once_cons ..).mp h.onceM).2,
        ((once_cons ..).mp h.onceS).2, ((once_cons ..).mp h.onceP).2, ((once_cons ..).mp h.onceA).2,
        fun g hg => h.noConn g (tl g hg), fun g hg => h.te g (tl g hg), fun g hg => h.cl g (tl g hg), ?_⟩
      · intro hr g hg hp
        simp only [Bool.or_eq_true, Bool.not_eq_true', hps] at hr
        rcases hr with hr | hr
        · exact h.first hr g (tl g hg) hp
        · exact hr (ho.1 g hg hp)
      · by_cases e : f.1 = sContentLength
        · simp [e, hcl e]
        · simpa [e] using h.clSt
  · rintro ⟨a, h⟩
    rw [CondSt, upd_eq] at h
    have hm : ∀ {q : Field → Prop}, q f → (∀ g ∈ fs, q g) → ∀ g ∈ f :: fs, q g :=
      fun h0 h1 g hg => (List.mem_cons.mp hg).elim (fun e => e ▸ h0) (h1 g)
    have hP : Pseudo f.1 → f.1 ∈ requestPseudo := fun hp => (a.pseudo hp).2.1
    have ofName : ∀ p ∈ requestPseudo, f.1 = p → Pseudo f.1 := fun p hp e => e ▸ (requestPseudo_plain p hp).1
    have hcl : f.1 = sContentLength → ∃ n, parseUint f.2 = some n ∧ (st.hasCL = true → st.cl = n) := fun e =>
      (a.regular fun hp => (requestPseudo_plain _ (hP hp)).2.2.2 e).2.2 e
    have hd' : f.1 = sContentLength → parseUint f.2 = some d := fun e => by
      obtain ⟨n, hn, _⟩ := hcl e
      have := h.clSt; simp only [e, hn, decide_true, Option.isSome_some, Bool.and_self, Bool.or_true, ↓reduceIte,
        Option.getD_some, forall_const] at this
      rw [hn, this]
    refine ⟨hm a.lower h.lower, List.pairwise_cons.mpr ⟨fun g hg hpg => Classical.byContradiction fun hp => ?_, h.order⟩,
      fun hrs => hm (fun hp => ?_) (h.first (by simp [hrs])), hm hP h.known,
      (once_cons ..).mpr ⟨fun e => (a.pseudo (ofName _ (by simp [requestPseudo]) e)).2.2.1 e, h.onceM⟩,
      (once_cons ..).mpr ⟨fun e => (a.pseudo (ofName _ (by simp [requestPseudo]) e)).2.2.2.1 e, h.onceS⟩,
      (once_cons ..).mpr ⟨fun e => (a.pseudo (ofName _ (by simp [requestPseudo]) e)).2.2.2.2.1 e, h.onceP⟩,
      (once_cons ..).mpr ⟨fun e => (a.pseudo (ofName _ (by simp [requestPseudo]) e)).2.2.2.2.2 e, h.onceA⟩,
      hm (fun hc => ?_) h.noConn, hm (fun e => ?_) h.te, hm (fun e => (parseUint_iff hd).mp (hd' e)) h.cl, fun hc => ?_⟩
    · exact h.first (by simp [hps.mpr hp]) g hg hpg
    · have := (a.pseudo hp).1; rw [hrs] at this; cases this
    · by_cases hp : Pseudo f.1
      · exact (requestPseudo_plain _ (hP hp)).2.1 hc
      · exact (a.regular hp).1 hc
    · by_cases hp : Pseudo f.1
      · exact absurd e (requestPseudo_plain _ (hP hp)).2.2.1
      · exact (a.regular hp).2.1 e
    · by_cases e : f.1 = sContentLength
      · obtain ⟨n, hn, hc'⟩ := hcl e
        have := hd' e; rw [hn] at this; cases this; exact hc' hc
      · have := h.clSt; simp only [e, decide_false, Bool.false_and, Bool.or_false, ↓reduceIte] at this; exact this hc

theorem acc_cons (cfg : Cfg) (st : St) (f : Field) (fs : List Field) (d : Nat) :
    Acc cfg st (f :: fs) d ↔ ¬ sizeOver cfg st f ∧ Admits st f ∧ ¬ clOver cfg f ∧ Acc cfg (upd st f) fs d := by
  unfold Acc
  simp only [loop]
  constructor
  · rintro ⟨st', h, hcl⟩
    cases hf : field cfg st f with
    | error e => rw [hf] at h; cases h
    | ok st1 =>
      rw [hf] at h
      obtain ⟨h1, h2, h3, rfl⟩ := field_ok_iff.mp hf
      exact ⟨h1, h2, h3, st', h, hcl⟩
  · rintro ⟨h1, h2, h3, st', h, hcl⟩
    exact ⟨st', by rw [field_ok_iff.mpr ⟨h1, h2, h3, rfl⟩]; exact h, hcl⟩

theorem lim_cons {cfg : Cfg} {st : St} {f : Field} {fs : List Field} {d : Nat} (hl : Lim cfg st (f :: fs) d) :
    Lim cfg (upd st f) fs d := by
  refine ⟨?_, hl.body, hl.int⟩
  have := hl.size
  rw [total_cons, ← Nat.add_assoc] at this
  rw [upd_eq]; exact this

theorem lim_head {cfg : Cfg} {st : St} {f : Field} {fs : List Field} {d : Nat} (hl : Lim cfg st (f :: fs) d) :
    ¬ sizeOver cfg st f :=
  not_sizeOver (sizeWithin_mono hl.size (by rw [total_cons]; omega))

/-- **the core of C20**: within the limits, the field loop gets through `fs` and the content-length test
passes for `d` DATA octets iff `fs` satisfies the clauses of a well-formed request, relative to the flags the
loop starts with. -/
theorem acc_iff (cfg : Cfg) (fs : List Field) :
    ∀ (st : St) (d : Nat), Lim cfg st fs d → (Acc cfg st fs d ↔ CondSt st fs d) := by
  induction fs with
  | nil => intro st d _; rw [acc_nil]; exact cond_nil.symm
  | cons f fs ih =>
    intro st d hl
    rw [acc_cons, ih _ d (lim_cons hl), condSt_cons hl.int]
    refine ⟨fun ⟨_, a, _, h⟩ => ⟨a, h⟩, fun ⟨a, h⟩ => ⟨lim_head hl, a, ?_, h⟩⟩
    -- a declared length the rest of the list agrees with is `d`, which is within the body limit
    rintro ⟨e, n, hn, h0, hgt⟩
    have := h.clSt
    simp only [upd_eq, e, hn, decide_true, Option.isSome_some, Bool.and_self, Bool.or_true, ↓reduceIte,
      Option.getD_some, forall_const] at this
    have := hl.body h0
    omega

/-! ## what an accepted list leaves behind -/

theorem loop_ok_fold {cfg : Cfg} {fs : List Field} : ∀ {st st' : St}, loop cfg st fs = .ok st' → st' = fs.foldl upd st := by
  induction fs with
  | nil => intro st st' h; simp [loop] at h; simp [h]
  | cons f fs ih =>
    intro st st' h
    simp only [loop] at h
    cases hf : field cfg st f with
    | error e => simp [hf] at h
    | ok st1 =>
      simp only [hf] at h
      rw [List.foldl_cons, ← field_ok_upd hf]
      exact ih h

theorem lastOf_cons (n : Bytes) (f : Field) (fs : List Field) :
    lastOf n (f :: fs) = (lastOf n fs).or (if f.1 = n then some f.2 else none) := by
  unfold lastOf
  by_cases h : f.1 = n
  · simp only [List.filter_cons, h, decide_true, ↓reduceIte, List.getLast?_cons]
    cases (List.filter (fun f => decide (f.1 = n)) fs).getLast? <;> simp
  · simp [h]

theorem lastOf_append (n : Bytes) (a b : List Field) : lastOf n (a ++ b) = (lastOf n b).or (lastOf n a) := by
  unfold lastOf
  rw [List.filter_append, List.getLast?_append]
  cases (List.filter (fun f => decide (f.1 = n)) b).getLast? <;> simp

theorem lastOf_none_of_forall {n : Bytes} {fs : List Field} (h : ∀ f ∈ fs, f.1 ≠ n) : lastOf n fs = none := by
  unfold lastOf
  have : List.filter (fun f => decide (f.1 = n)) fs = [] := by
    rw [List.filter_eq_nil_iff]; intro f hf; simpa using h f hf
  simp [this]

theorem lastOf_some_mem {n : Bytes} {fs : List Field} {v : Bytes} (h : lastOf n fs = some v) :
    ∃ f ∈ fs, f.1 = n ∧ f.2 = v := by
  unfold lastOf at h
  simp only [Option.map_eq_some_iff] at h
  obtain ⟨f, hf, hv⟩ := h
  have := List.mem_of_getLast? hf
  simp only [List.mem_filter, decide_eq_true_eq] at this
  exact ⟨f, this.1, this.2, hv⟩

theorem lastOf_none_of_cnt {n : Bytes} {fs : List Field} (h : cnt n fs = 0) : lastOf n fs = none := by
  apply lastOf_none_of_forall
  intro x hx e
  unfold cnt at h
  rw [List.countP_eq_zero] at h
  exact h x hx (by simp [e])

theorem lastOf_of_once {n : Bytes} {fs : List Field} (hc : cnt n fs ≤ 1) {f : Field} (hf : f ∈ fs) (hn : f.1 = n) :
    lastOf n fs = some f.2 := by
  induction fs with
  | nil => simp at hf
  | cons g fs ih =>
    rw [cnt_cons] at hc
    rw [lastOf_cons]
    simp only [List.mem_cons] at hf
    rcases hf with rfl | hf
    · simp only [hn, ↓reduceIte] at hc
      simp [lastOf_none_of_cnt (by omega : cnt n fs = 0), hn]
    · by_cases hg : g.1 = n
      · exfalso
        simp only [hg, ↓reduceIte] at hc
        have : 0 < cnt n fs := by
          unfold cnt; rw [List.countP_pos_iff]; exact ⟨f, hf, by simp [hn]⟩
        omega
      · simp only [hg, ↓reduceIte, Nat.add_zero] at hc
        rw [ih hc hf]; simp [hg]

theorem valueOf_eq_lastOf {n : Bytes} {fs : List Field} (hc : cnt n fs ≤ 1) :
    valueOf n fs = (lastOf n fs).getD [] := by
  induction fs with
  | nil => simp [valueOf, lastOf]
  | cons g fs ih =>
    rw [cnt_cons] at hc
    by_cases hg : g.1 = n
    · simp only [hg, ↓reduceIte] at hc
      rw [lastOf_cons, lastOf_none_of_cnt (by omega : cnt n fs = 0)]
      simp [valueOf, hg]
    · simp only [hg, ↓reduceIte, Nat.add_zero] at hc
      rw [lastOf_cons]
      have := ih hc
      simp only [valueOf, List.find?_cons, hg, decide_false] at this ⊢
      rw [this]; simp

theorem fold_view (fs : List Field) : ∀ st : St,
    (fs.foldl upd st).method = (lastOf sMethod fs).getD st.method ∧
    (fs.foldl upd st).path = (lastOf sPath fs).getD st.path ∧
    (fs.foldl upd st).authority = (lastOf sAuthority fs).getD st.authority ∧
    (fs.foldl upd st).contentType = (lastOf sContentType fs).or st.contentType ∧
    (fs.foldl upd st).userAgent = (lastOf sUserAgent fs).or st.userAgent ∧
    (fs.foldl upd st).fields = st.fields ++ fs.filter plain ∧
    (fs.foldl upd st).pMethod = (st.pMethod || fs.any fun f => decide (f.1 = sMethod)) ∧
    (fs.foldl upd st).pScheme = (st.pScheme || fs.any fun f => decide (f.1 = sScheme)) ∧
    (fs.foldl upd st).pPath = (st.pPath || fs.any fun f => decide (f.1 = sPath)) := by
  induction fs with
  | nil => intro st; simp [lastOf]
  | cons f fs ih =>
    intro st
    obtain ⟨i1, i2, i3, i4, i5, i6, i7, i8, i9⟩ := ih (upd st f)
    simp only [List.foldl_cons, lastOf_cons, List.filter_cons, List.any_cons]
    rw [i1, i2, i3, i4, i5, i6, i7, i8, i9, upd_eq]
    refine ⟨?_, ?_, ?_, ?_, ?_, ?_, ?_, ?_, ?_⟩
    · cases lastOf sMethod fs <;> by_cases h : f.1 = sMethod <;> simp [h]
    · cases lastOf sPath fs <;> by_cases h : f.1 = sPath <;> simp [h]
    · cases lastOf sAuthority fs <;> by_cases h : f.1 = sAuthority <;> simp [h]
    · cases lastOf sContentType fs <;> by_cases h : f.1 = sContentType <;> simp [h]
    · cases lastOf sUserAgent fs <;> by_cases h : f.1 = sUserAgent <;> simp [h]
    · cases plain f <;> simp
    · simp [Bool.or_assoc]
    · simp [Bool.or_assoc]
    · simp [Bool.or_assoc]

theorem fold_listSize (fs : List Field) : ∀ st : St, (fs.foldl upd st).listSize = st.listSize + total fs := by
  induction fs with
  | nil => intro st; simp [total]
  | cons f fs ih => intro st; rw [List.foldl_cons, ih, upd_eq, total_cons, Nat.add_assoc]

/-! ## errors: which, and why -/

theorem loop_error {cfg : Cfg} {fs : List Field} : ∀ {st : St} {e : Verdict}, loop cfg st fs = .error e →
    e = eProtocol ∨ (e = eListSize ∧ ¬ sizeWithin cfg (st.listSize + total fs)) ∨
      (e = eTooLarge ∧ ∃ f ∈ fs, clOver cfg f) := by
  induction fs with
  | nil => intro st e h; simp [loop] at h
  | cons f fs ih =>
    intro st e h
    simp only [loop] at h
    rw [total_cons]
    cases hf : field cfg st f with
    | error e' =>
      simp only [hf] at h; cases h
      rcases field_error hf with h1 | ⟨h1, h2⟩ | ⟨h1, h2⟩
      · exact .inl h1
      · exact .inr (.inl ⟨h1, fun hw => not_sizeOver (sizeWithin_mono hw (by omega)) h2⟩)
      · exact .inr (.inr ⟨h1, f, by simp, h2⟩)
    | ok st1 =>
      simp only [hf] at h
      rcases ih h with h1 | ⟨h1, h2⟩ | ⟨h1, g, hg, h2⟩
      · exact .inl h1
      · rw [field_ok_upd hf, upd_eq, Nat.add_assoc] at h2
        exact .inr (.inl ⟨h1, h2⟩)
      · exact .inr (.inr ⟨h1, g, by simp [hg], h2⟩)

/-! ## chunks -/

theorem loop_append (cfg : Cfg) (a b : List Field) : ∀ st : St,
    loop cfg st (a ++ b) = match loop cfg st a with
      | .error e => .error e
      | .ok st' => loop cfg st' b := by
  induction a with
  | nil => intro st; simp [loop]
  | cons f a ih =>
    intro st
    simp only [List.cons_append, loop]
    cases field cfg st f with
    | error e => rfl
    | ok st1 => exact ih st1

/-- **chunk invariance**: however a field list is cut into consecutive chunks (HEADERS / CONTINUATION
boundaries), running the loop chunk by chunk gives what running it over the whole list gives -/
theorem chunk_invariance (cfg : Cfg) (cs : List (List Field)) : ∀ st : St,
    loopChunks cfg st cs = loop cfg st cs.flatten := by
  induction cs with
  | nil => intro st; simp [loopChunks, loop]
  | cons c cs ih =>
    intro st
    simp only [loopChunks, List.flatten_cons, loop_append]
    cases loop cfg st c with
    | error e => rfl
    | ok st1 => exact ih st1

/-! ## the whole message -/

/-- the limits inside which C20 is stated (exceeding them is answered, by design, with ENHANCE_YOUR_CALM) -/
structure WithinLimits (cfg : Cfg) (hs trailers : List Field) (d : Nat) : Prop where
  /-- header list (request block and trailers together) within `MaxHeaderListSize` -/
  list : sizeWithin cfg (total (hs ++ trailers))
  /-- DATA received within `MaxRequestBodySize` -/
  body : 0 < cfg.maxBody → d ≤ cfg.maxBody
  /-- every declared length within `MaxRequestBodySize` -/
  declared : 0 < cfg.maxBody → ∀ f ∈ hs ++ trailers, f.1 = sContentLength → Digits f.2 → natVal f.2 ≤ cfg.maxBody
  /-- the octet count is a Go `int` -/
  int : d ≤ maxInt

theorem pairwise_of_no_pseudo {l : List Field} (h : ∀ f ∈ l, ¬ Pseudo f.1) :
    l.Pairwise fun a b => Pseudo b.1 → Pseudo a.1 := by
  induction l with
  | nil => simp
  | cons a l ih =>
    rw [List.pairwise_cons]
    exact ⟨fun b hb hp => absurd hp (h b (by simp [hb])), ih fun f hf => h f (by simp [hf])⟩

theorem cnt_zero_of_no_pseudo {l : List Field} {p : Bytes} (hp : Pseudo p) (h : ∀ f ∈ l, ¬ Pseudo f.1) : cnt p l = 0 := by
  unfold cnt
  rw [List.countP_eq_zero]
  intro f hf
  simp only [decide_eq_true_eq]
  intro e; exact h f hf (by rw [e]; exact hp)

/-- the clauses for a trailer block (a regular field has been seen: `startTrailers`) -/
theorem cond_trailers {pM pS pP pA hc : Bool} {c : Nat} {tr : List Field} {d : Nat} :
    Cond true pM pS pP pA hc c tr d ↔
      (∀ f ∈ tr, upperFree f.1 ∧ ¬ Pseudo f.1 ∧ ¬ ConnSpecific f.1 ∧ TEok f) ∧
      (∀ f ∈ tr, f.1 = sContentLength → Digits f.2 ∧ natVal f.2 = d) ∧ (hc = true → c = d) := by
  constructor
  · intro h
    exact ⟨fun f hf => ⟨h.lower f hf, h.first rfl f hf, h.noConn f hf, h.te f hf⟩, h.cl, h.clSt⟩
  · rintro ⟨h1, h2, h3⟩
    have np : ∀ f ∈ tr, ¬ Pseudo f.1 := fun f hf => (h1 f hf).2.1
    have once : ∀ {p : Bytes} (b : Bool), Pseudo p → cnt p tr + b.toNat ≤ 1 := fun b hp => by
      rw [cnt_zero_of_no_pseudo hp np, Nat.zero_add]; exact Bool.toNat_le b
    exact ⟨fun f hf => (h1 f hf).1, pairwise_of_no_pseudo np, fun _ => np, fun f hf hp => absurd hp (np f hf),
      once _ (by decide), once _ (by decide), once _ (by decide), once _ (by decide),
      fun f hf => (h1 f hf).2.2.1, fun f hf => (h1 f hf).2.2.2, h2, h3⟩

theorem trailers_listSize {cfg : Cfg} {hs : List Field} {st : St} (h : loop cfg St.init hs = .ok st) :
    (startTrailers st).listSize = total hs := by
  rw [loop_ok_fold h]; simp [startTrailers, fold_listSize, St.init]

theorem message_ok_iff {cfg : Cfg} {hs tr : List Field} {d : Nat} {st' : St} :
    message cfg hs tr d = .ok st' ↔
      ∃ st, loop cfg St.init hs = .ok st ∧ pseudoOK st = true ∧ ¬ (0 < cfg.maxBody ∧ cfg.maxBody < d) ∧
        loop cfg (startTrailers st) tr = .ok st' := by
  unfold message
  cases loop cfg St.init hs with
  | error e => simp
  | ok st =>
    simp only [Except.ok.injEq, exists_eq_left']
    cases pseudoOK st with
    | false => simp
    | true => by_cases hb : 0 < cfg.maxBody ∧ cfg.maxBody < d <;> simp [hb]

theorem message_error {cfg : Cfg} {hs tr : List Field} {d : Nat} {e : Verdict} (h : message cfg hs tr d = .error e) :
    e = eProtocol ∨ (e = eListSize ∧ ¬ sizeWithin cfg (total (hs ++ tr))) ∨
    (e = eTooLarge ∧ ((0 < cfg.maxBody ∧ cfg.maxBody < d) ∨ ∃ f ∈ hs ++ tr, clOver cfg f)) := by
  unfold message at h
  cases h1 : loop cfg St.init hs with
  | error e1 =>
    rw [h1] at h; cases h
    rcases loop_error h1 with h | ⟨h, h2⟩ | ⟨h, g, hg, h2⟩
    · exact .inl h
    · refine .inr (.inl ⟨h, fun hw => h2 (sizeWithin_mono hw ?_)⟩)
      rw [total_append]; simp [St.init]
    · exact .inr (.inr ⟨h, .inr ⟨g, by simp [hg], h2⟩⟩)
  | ok st =>
    rw [h1] at h
    simp only at h
    split at h
    · cases h; exact .inl rfl
    split at h
    · rename_i hb; cases h; exact .inr (.inr ⟨rfl, .inl hb⟩)
    rcases loop_error h with h | ⟨h, h3⟩ | ⟨h, g, hg, h3⟩
    · exact .inl h
    · refine .inr (.inl ⟨h, fun hw => h3 ?_⟩)
      rw [trailers_listSize h1, ← total_append]; exact hw
    · exact .inr (.inr ⟨h, .inr ⟨g, by simp [hg], h3⟩⟩)

theorem validate_cases (cfg : Cfg) (hs tr : List Field) (d : Nat) :
    validate cfg hs tr d = .dispatch ∨ validate cfg hs tr d = eProtocol ∨
    (validate cfg hs tr d = eListSize ∧ ¬ sizeWithin cfg (total (hs ++ tr))) ∨
    (validate cfg hs tr d = eTooLarge ∧ ((0 < cfg.maxBody ∧ cfg.maxBody < d) ∨ ∃ f ∈ hs ++ tr, clOver cfg f)) := by
  unfold validate
  cases hm : message cfg hs tr d with
  | error e =>
    rcases message_error hm with h | ⟨h, h2⟩ | ⟨h, h2⟩
    · exact .inr (.inl h)
    · exact .inr (.inr (.inl ⟨h, h2⟩))
    · exact .inr (.inr (.inr ⟨h, h2⟩))
  | ok st' =>
    simp only
    split
    · exact .inr (.inl rfl)
    · exact .inl rfl

theorem validate_dispatch_iff (cfg : Cfg) (hs tr : List Field) (d : Nat) :
    validate cfg hs tr d = .dispatch ↔
      ∃ st, loop cfg St.init hs = .ok st ∧ pseudoOK st = true ∧ ¬ (0 < cfg.maxBody ∧ cfg.maxBody < d) ∧
        Acc cfg (startTrailers st) tr d := by
  unfold validate Acc
  cases hm : message cfg hs tr d with
  | error e =>
    have ne : e ≠ .dispatch := by
      rcases message_error hm with h | ⟨h, _⟩ | ⟨h, _⟩ <;> subst h <;> exact Verdict.noConfusion
    refine ⟨fun h => absurd h ne, ?_⟩
    rintro ⟨st, h1, hp, hb, st', h2, _⟩
    rw [message_ok_iff.mpr ⟨st, h1, hp, hb, h2⟩] at hm; cases hm
  | ok st' =>
    obtain ⟨st, h1, hp, hb, h2⟩ := message_ok_iff.mp hm
    simp only
    constructor
    · intro h
      refine ⟨st, h1, hp, hb, st', h2, fun hc => Classical.byContradiction fun e => ?_⟩
      rw [if_pos ⟨hc, e⟩] at h; cases h
    · rintro ⟨st0, h1', _, _, st'', h2', hcl⟩
      rw [h1] at h1'; cases h1'
      rw [h2] at h2'; cases h2'
      rw [if_neg fun hc => hc.2 (hcl hc.1)]

/-- no `content-length` among the trailers (RFC 7230 §4.1.2 forbids it there; neither RFC says
what a receiver does with one) -/
def NoTrailerCL (tr : List Field) : Prop := ∀ f ∈ tr, f.1 ≠ sContentLength

theorem lim_init {cfg : Cfg} {hs tr : List Field} {d : Nat} (hl : WithinLimits cfg hs tr d) : Lim cfg St.init hs d := by
  refine ⟨?_, hl.body, hl.int⟩
  have := hl.list
  rw [total_append] at this
  exact sizeWithin_mono this (by simp [St.init])

theorem lim_trailers {cfg : Cfg} {hs tr : List Field} {d : Nat} (hl : WithinLimits cfg hs tr d) {st : St}
    (h : loop cfg St.init hs = .ok st) : Lim cfg (startTrailers st) tr d := by
  refine ⟨?_, hl.body, hl.int⟩
  have := hl.list
  rw [total_append] at this
  rw [trailers_listSize h]; exact this

/-- the clauses under the initial flags are clauses (1)–(3) and (5)–(7) of `WFRequest` -/
theorem condSt_init {hs : List Field} {d : Nat} : CondSt St.init hs d ↔
    (∀ f ∈ hs, upperFree f.1) ∧ (hs.Pairwise fun a b => Pseudo b.1 → Pseudo a.1) ∧
    (∀ f ∈ hs, Pseudo f.1 → f.1 ∈ requestPseudo) ∧ (∀ p ∈ requestPseudo, hs.countP (fun f => f.1 = p) ≤ 1) ∧
    (∀ f ∈ hs, ¬ ConnSpecific f.1) ∧ (∀ f ∈ hs, TEok f) ∧
    (∀ f ∈ hs, f.1 = sContentLength → Digits f.2 ∧ natVal f.2 = d) := by
  have once : (∀ p ∈ requestPseudo, hs.countP (fun f => f.1 = p) ≤ 1) ↔
      cnt sMethod hs + false.toNat ≤ 1 ∧ cnt sScheme hs + false.toNat ≤ 1 ∧ cnt sPath hs + false.toNat ≤ 1 ∧
        cnt sAuthority hs + false.toNat ≤ 1 := by
    simp [requestPseudo, cnt]
  rw [once]
  exact ⟨fun h => ⟨h.lower, h.order, h.known, ⟨h.onceM, h.onceS, h.onceP, h.onceA⟩, h.noConn, h.te, h.cl⟩,
    fun ⟨l, o, k, ⟨m, s, p, a⟩, n, t, c⟩ => ⟨l, o, nofun, k, m, s, p, a, n, t, c, nofun⟩⟩

/-- `validateRequestPseudoHeaders` on what the loop leaves of `hs`, when `:path` occurs at most once -/
theorem pseudoOK_fold {hs : List Field} (hc : cnt sPath hs ≤ 1) : pseudoOK (hs.foldl upd St.init) = true ↔
    (∃ f ∈ hs, f.1 = sMethod) ∧ (∃ f ∈ hs, f.1 = sScheme) ∧ ∃ f ∈ hs, f.1 = sPath ∧ f.2 ≠ [] := by
  obtain ⟨_, v2, _, _, _, _, v7, v8, v9⟩ := fold_view hs St.init
  have any : ∀ n : Bytes, (hs.any fun f => decide (f.1 = n)) = true ↔ ∃ f ∈ hs, f.1 = n := fun n => by
    simp [List.any_eq_true]
  simp only [pseudoOK, v2, v7, v8, v9]
  simp only [St.init, Bool.false_or, Bool.and_eq_true, Bool.not_eq_true', List.isEmpty_eq_false_iff, any]
  constructor
  · rintro ⟨⟨⟨m, s⟩, _⟩, p⟩
    cases hlo : lastOf sPath hs with
    | none => simp [hlo] at p
    | some v =>
      obtain ⟨f, hf, e1, e2⟩ := lastOf_some_mem hlo
      exact ⟨m, s, f, hf, e1, by rw [e2]; simpa [hlo] using p⟩
  · rintro ⟨m, s, f, hf, e1, e2⟩
    exact ⟨⟨⟨m, s⟩, f, hf, e1⟩, by rw [lastOf_of_once hc hf e1]; simpa using e2⟩

/-- **C20, server half**: within the limits, a complete request is dispatched iff it is well-formed. -/
theorem dispatched_iff_wf (cfg : Cfg) (hs tr : List Field) (d : Nat) (hl : WithinLimits cfg hs tr d)
    (hv : NoTrailerCL tr) : validate cfg hs tr d = .dispatch ↔ WFRequest hs tr d := by
  rw [validate_dispatch_iff]
  have hb : ¬ (0 < cfg.maxBody ∧ cfg.maxBody < d) := by rintro ⟨a, b⟩; have := hl.body a; omega
  have hi := acc_iff cfg hs St.init d (lim_init hl)
  constructor
  · rintro ⟨st, h1, hp, _, hacc⟩
    rw [acc_iff cfg tr _ d (lim_trailers hl h1)] at hacc
    obtain ⟨t, _, hcl⟩ := cond_trailers.mp hacc
    have hc := hi.mp ⟨st, h1, hcl⟩
    obtain ⟨l, o, k, on, n, te, c⟩ := condSt_init.mp hc
    rw [loop_ok_fold h1, pseudoOK_fold (by simpa [St.init] using hc.onceP)] at hp
    exact ⟨l, o, k, on, hp.1, hp.2.1, hp.2.2, n, te, c, t⟩
  · intro wf
    have hc : CondSt St.init hs d := condSt_init.mpr ⟨wf.lower, wf.order, wf.known, wf.once, wf.noConn, wf.te, wf.cl⟩
    obtain ⟨st, h1, hcl⟩ := hi.mpr hc
    refine ⟨st, h1, ?_, hb, ?_⟩
    · rw [loop_ok_fold h1, pseudoOK_fold (by simpa [St.init] using hc.onceP)]; exact ⟨wf.method, wf.scheme, wf.path⟩
    · rw [acc_iff cfg tr _ d (lim_trailers hl h1)]
      exact cond_trailers.mpr ⟨wf.trailers, fun f hf e => absurd e (hv f hf), hcl⟩

/-- **a malformed request is refused on its stream alone**: within the limits the only verdicts are dispatch and
RST_STREAM(PROTOCOL_ERROR) -/
theorem refused_stream_scoped (cfg : Cfg) (hs tr : List Field) (d : Nat) (hl : WithinLimits cfg hs tr d) :
    validate cfg hs tr d = .dispatch ∨ validate cfg hs tr d = .rst Gen.c_ProtocolError := by
  rcases validate_cases cfg hs tr d with h | h | ⟨_, h⟩ | ⟨_, h | ⟨f, hf, hk, n, hn, h0, hgt⟩⟩
  · exact .inl h
  · exact .inr h
  · exact absurd hl.list h
  · have := hl.body h.1; omega
  · have hp := parseUint_eq_some.mp hn
    have := hl.declared h0 f hf hk hp.1
    omega

/-- whatever the limits: never a connection error, except GOAWAY(ENHANCE_YOUR_CALM) for a header list over
`MaxHeaderListSize` -/
theorem goaway_only_for_list_size (cfg : Cfg) (hs tr : List Field) (d : Nat) (c : Nat)
    (h : validate cfg hs tr d = .goAway c) : c = Gen.c_EnhanceYourCalm ∧ ¬ sizeWithin cfg (total (hs ++ tr)) := by
  rcases validate_cases cfg hs tr d with h1 | h1 | ⟨h1, h2⟩ | ⟨h1, _⟩
  · rw [h1] at h; cases h
  · rw [h1] at h; cases h
  · rw [h1] at h; cases h; exact ⟨rfl, h2⟩
  · rw [h1] at h; cases h

/-! ## the request view (C01) -/

theorem requestView_of_dispatch {cfg : Cfg} {hs tr : List Field} {d : Nat} (h : validate cfg hs tr d = .dispatch) :
    ∃ st st', loop cfg St.init hs = .ok st ∧ loop cfg (startTrailers st) tr = .ok st' ∧
      requestView cfg hs tr d = some st'.view := by
  unfold validate at h
  unfold requestView
  cases hm : message cfg hs tr d with
  | error e => rw [hm] at h; rcases message_error hm with x | ⟨x, _⟩ | ⟨x, _⟩ <;> subst x <;> cases h
  | ok st' =>
    rw [hm] at h
    obtain ⟨st, h1, _, _, h2⟩ := message_ok_iff.mp hm
    refine ⟨st, st', h1, h2, ?_⟩
    simp only at h ⊢
    split at h
    · cases h
    · rename_i hc; rw [if_neg hc]

/-- **the handler sees exactly the fields the peer sent** (C01): for every well-formed request the view the
model hands to the handler is `specView hs trailers`: method, path, authority from the pseudo-headers, the
content-type and user-agent slots, every other regular field of the request block and then of the trailer block,
in arrival order, none invented, none lost. -/
theorem view_intact (cfg : Cfg) (hs tr : List Field) (d : Nat) (hl : WithinLimits cfg hs tr d) (hv : NoTrailerCL tr)
    (wf : WFRequest hs tr d) : requestView cfg hs tr d = some (specView hs tr) := by
  obtain ⟨st, st', h1, h2, hr⟩ := requestView_of_dispatch ((dispatched_iff_wf cfg hs tr d hl hv).mpr wf)
  rw [hr]
  have f1 := loop_ok_fold h1
  have f2 := loop_ok_fold h2
  obtain ⟨a1, a2, a3, a4, a5, a6, _, _, _⟩ := fold_view hs St.init
  obtain ⟨b1, b2, b3, b4, b5, b6, _, _, _⟩ := fold_view tr (startTrailers st)
  rw [← f1] at a1 a2 a3 a4 a5 a6
  rw [← f2] at b1 b2 b3 b4 b5 b6
  have np : ∀ n : Bytes, Pseudo n → lastOf n tr = none := by
    intro n hn; apply lastOf_none_of_forall; intro f hf e; exact (wf.trailers f hf).2.1 (by rw [e]; exact hn)
  have once : ∀ p ∈ requestPseudo, cnt p hs ≤ 1 := fun p hp => by have := wf.once p hp; simpa [cnt] using this
  simp only [startTrailers] at b1 b2 b3 b4 b5 b6
  simp only [St.view, specView, Option.some.injEq, View.mk.injEq]
  refine ⟨?_, ?_, ?_, ?_⟩
  · rw [b1, np _ (by decide), a1, valueOf_eq_lastOf (once _ (by simp [requestPseudo]))]; simp [St.init]
  · rw [b2, np _ (by decide), a2, valueOf_eq_lastOf (once _ (by simp [requestPseudo]))]; simp [St.init]
  · rw [b3, np _ (by decide), a3, valueOf_eq_lastOf (once _ (by simp [requestPseudo]))]; simp [St.init]
  · rw [b4, b5, b6, a4, a5, a6, lastOf_append, lastOf_append, List.filter_append]
    simp [St.init, sContentType, sUserAgent]

end H2.Server.Msg
