import H2.Client.Flow
/-! The `int32` and `spendN` arithmetic of the send windows (both client models use it), and the invariant of the send-window
interleaving model `H2.Client.Flow` (C07). -/
namespace H2.Client.Flow

open H2.Client

/-! ## `int32` arithmetic -/

theorem wrap32_id {x : Int} (h1 : -2 ^ 31 ≤ x) (h2 : x < 2 ^ 31) : wrap32 x = x := by
  unfold wrap32; omega

theorem wrap32_le {x : Int} (h : -2 ^ 31 ≤ x) : wrap32 x ≤ x := by
  unfold wrap32; omega

theorem wrap32_add (x y : Int) : wrap32 (wrap32 x + y) = wrap32 (x + y) := by
  unfold wrap32; omega

theorem wrap32_range (x : Int) : -2 ^ 31 ≤ wrap32 x ∧ wrap32 x < 2 ^ 31 := by
  unfold wrap32; omega

theorem spendN_le (b : Nat) (w cw : Int) :
    (spendN b w cw : Int) ≤ max w 0 ∧ (spendN b w cw : Int) ≤ max cw 0 ∧ spendN b w cw ≤ b := by
  unfold spendN; omega

theorem spendN_zero_iff (b : Nat) (w cw : Int) : spendN b w cw = 0 ↔ (b = 0 ∨ w ≤ 0 ∨ cw ≤ 0) := by
  unfold spendN; omega

/-! ## the invariant -/

def Sendable (s : S) (pb : PB) : Prop := (pb.body > 0 ∨ pb.more = true) ∧ pb.window > 0 ∧ s.connWindow > 0

structure PBInv (sw : Int) (pb : PB) : Prop where
  win : pb.window = wrap32 pb.allow
  base : sw - (2 ^ 31 - 1) ≤ pb.allow

structure Inv (s : S) : Prop where
  cwin : s.connWindow = wrap32 s.connAllow
  cnn : 0 ≤ s.connAllow
  sw : 0 ≤ s.streamWindow ∧ s.streamWindow < 2 ^ 31
  pbs : ∀ id pb, s.pending id = some pb → PBInv s.streamWindow pb
  usedP : ∀ id, (s.pending id).isSome → s.used id = true
  endedP : ∀ id, s.ended id = true → s.pending id = none ∧ s.used id = true
  /-- no lost wake-up: a body the windows would let send is either on the write loop's work list or
      the `winCh` token is there -/
  wake : ∀ id pb, s.pending id = some pb → Sendable s pb → s.winTok = true ∨ id ∈ s.todo

theorem init_inv : Inv init := by
  constructor <;> simp [init, wrap32, Gen.c_defaultWindowSize]

theorem spend_facts {s : S} {id : Nat} {pb : PB} (h : Inv s) (hpid : s.pending id = some pb) :
    let n := spend pb s.connWindow
    n ≤ pb.body ∧
    (0 < n → (n : Int) ≤ pb.allow ∧ (n : Int) ≤ s.connAllow) ∧
    pb.window - n = wrap32 (pb.allow - n) ∧ s.connWindow - n = wrap32 (s.connAllow - n) ∧
    0 ≤ s.connAllow - n ∧ s.streamWindow - (2 ^ 31 - 1) ≤ pb.allow - n ∧
    (n = 0 → pb.body = 0 ∨ pb.window ≤ 0 ∨ s.connWindow ≤ 0) := by
  obtain ⟨hc, hn, hsw, hp, _, _, _⟩ := h
  have hpb := hp id pb hpid
  have hwin := hpb.win
  have hbase := hpb.base
  obtain ⟨hw, hcw, hnle⟩ := spendN_le pb.body pb.window s.connWindow
  have hz := spendN_zero_iff pb.body pb.window s.connWindow
  simp only [spend]
  generalize spendN pb.body pb.window s.connWindow = n at *
  by_cases h0 : n = 0
  · subst h0
    refine ⟨by omega, by omega, by simpa using hwin, by simpa using hc, by simpa using hn, by simpa using hbase, ?_⟩
    intro _; exact hz.mp rfl
  · rw [hwin] at hw
    rw [hc] at hcw
    have e1 : wrap32 pb.allow ≤ pb.allow := wrap32_le (by omega)
    have e2 : wrap32 s.connAllow ≤ s.connAllow := wrap32_le (by omega)
    refine ⟨hnle, fun _ => ⟨by omega, by omega⟩, ?_, ?_, by omega, by omega, fun h => absurd h h0⟩
    · rw [hwin]; unfold wrap32 at *; omega
    · rw [hc]; unfold wrap32 at *; omega

/-- An action on the body of stream `id` (`v` is what it leaves there) that lets no window grow and keeps the token
and the other streams' places on the work list: the other streams keep what the invariant says of them, so only the
clauses for `id` are left to show. -/
theorem Inv.frame {s s' : S} (h : Inv s) (id : Nat) (v : Option PB)
    (cwin : s'.connWindow = wrap32 s'.connAllow) (cnn : 0 ≤ s'.connAllow)
    (hsw : s'.streamWindow = s.streamWindow) (hcw : s'.connWindow ≤ s.connWindow)
    (htok : s.winTok = true → s'.winTok = true)
    (hp : ∀ j, s'.pending j = if j = id then v else s.pending j)
    (hu : ∀ j, j ≠ id → s'.used j = s.used j) (he : ∀ j, j ≠ id → s'.ended j = s.ended j)
    (htodo : ∀ j, j ≠ id → j ∈ s.todo → j ∈ s'.todo)
    (pbs : ∀ pb, v = some pb → PBInv s.streamWindow pb)
    (usedP : v.isSome → s'.used id = true)
    (endedP : s'.ended id = true → v = none ∧ s'.used id = true)
    (wake : ∀ pb, v = some pb → Sendable s' pb → s'.winTok = true ∨ id ∈ s'.todo) : Inv s' := by
  refine ⟨cwin, cnn, hsw ▸ h.sw, ?_, ?_, ?_, ?_⟩
  · intro j pb hj
    rw [hp j, hsw] at *
    by_cases hji : j = id
    · exact pbs pb (by rwa [if_pos hji] at hj)
    · exact h.pbs j pb (by rwa [if_neg hji] at hj)
  · intro j hj
    rw [hp j] at hj
    by_cases hji : j = id
    · rw [hji]; exact usedP (by rwa [if_pos hji] at hj)
    · rw [hu j hji]; exact h.usedP j (by rwa [if_neg hji] at hj)
  · intro j hj
    rw [hp j]
    by_cases hji : j = id
    · rw [if_pos hji, hji]; exact endedP (hji ▸ hj)
    · rw [if_neg hji, hu j hji]; exact h.endedP j (he j hji ▸ hj)
  · intro j pb hj hs
    rw [hp j] at hj
    by_cases hji : j = id
    · rw [hji]; exact wake pb (by rwa [if_pos hji] at hj) hs
    · rw [if_neg hji] at hj
      exact (h.wake j pb hj ⟨hs.1, hs.2.1, Int.lt_of_lt_of_le hs.2.2 hcw⟩).imp htok (htodo j hji)

theorem inv_step {s a s' e} (h : Inv s) (st : Step s a s' e) : Inv s' := by
  cases st with
  | wlRegister id body more htodo hused hlive =>
    refine h.frame id _ h.cwin h.cnn rfl (Int.le_refl _) (fun t => t) (fun _ => rfl) (fun _ hj => if_neg hj) (fun _ _ => rfl)
      (fun j _ hm => by rw [htodo] at hm; cases hm) ?_ (fun _ => if_pos rfl) ?_ (fun _ _ _ => .inr (List.mem_singleton.mpr rfl))
    · rintro _ ⟨⟩
      have := h.sw
      exact ⟨by show s.streamWindow = wrap32 s.streamWindow; rw [wrap32_id] <;> omega, by show _ ≤ s.streamWindow; omega⟩
    · -- a fresh stream id has not ended
      intro hj
      have := (h.endedP id hj).2
      rw [hused] at this
      cases this
  | wlTakeTok ids htodo htok hall =>
    exact { h with wake := fun j pb hj _ => .inr (hall j (by rw [show s.pending j = some pb from hj]; rfl)) }
  | wlSpend id rest pb htodo hpid hnr =>
    obtain ⟨f1, f2, f3, f4, f5, f6, f7⟩ := spend_facts h hpid
    have hu := h.usedP id (by rw [hpid]; rfl)
    simp only [spendState]
    generalize spend pb s.connWindow = n at *
    refine h.frame id _ f4 f5 rfl (by show s.connWindow - n ≤ _; omega) (fun t => t) (fun _ => rfl) (fun _ _ => rfl)
      (fun _ hj => if_neg hj) ?_ ?_ (fun _ => hu) ?_ ?_
    · intro j hji hm
      rw [htodo] at hm
      have hr : j ∈ rest := (List.mem_cons.mp hm).resolve_left hji
      show j ∈ (if _ then rest else id :: rest)
      split
      · exact hr
      · exact List.mem_cons_of_mem _ hr
    · intro q hq
      split at hq
      · cases hq
      · cases hq; exact ⟨f3, f6⟩
    · intro hj
      have hj : (s.ended id || _) = true := (if_pos rfl).symm.trans hj
      rcases Bool.or_eq_true_iff.mp hj with hj | hj
      · have := (h.endedP id hj).1; rw [hpid] at this; cases this
      · exact ⟨if_pos hj, hu⟩
    · intro q hq hs
      split at hq
      · cases hq
      · rename_i hend
        cases hq
        right
        show id ∈ (if _ then rest else id :: rest)
        by_cases h0 : n = 0
        · -- nothing went out and the body stays: it is blocked, so not sendable
          subst h0
          obtain ⟨hs1, hs2, hs3⟩ := hs
          simp only [Int.natCast_zero, Int.sub_zero, Nat.sub_zero] at hs2 hs3 hs1
          have hbz : pb.body ≠ 0 := fun hb0 => hs1.elim (by omega) fun hm => hnr ⟨hb0, hm⟩
          have := f7 rfl
          omega
        · rw [if_neg (by simp [hend, h0])]
          exact List.mem_cons_self
  | wlSkip id rest htodo hnone =>
    refine { h with wake := fun j pb hj hs => (h.wake j pb hj hs).imp_right fun hm => ?_ }
    rw [htodo] at hm
    refine (List.mem_cons.mp hm).resolve_left fun hji => ?_
    rw [hji, hnone] at hj
    cases hj
  | wlRefill id rest pb k more' htodo hpid hb hm hk =>
    have hpb := h.pbs id pb hpid
    refine h.frame id _ h.cwin h.cnn rfl (Int.le_refl _) (fun t => t) (fun _ => rfl) (fun _ _ => rfl) (fun _ _ => rfl)
      (fun _ _ hm => hm) ?_ (fun _ => h.usedP id (by rw [hpid]; rfl)) ?_ (fun _ _ _ => .inr ?_)
    · rintro _ ⟨⟩; exact ⟨hpb.win, hpb.base⟩
    · intro hj
      have := (h.endedP id hj).1
      rw [hpid] at this
      cases this
    · show id ∈ s.todo
      rw [htodo]
      exact List.mem_cons_self
  | wlRefillFail id rest pb htodo hpid hb hm =>
    refine h.frame id none h.cwin h.cnn rfl (Int.le_refl _) (fun t => t) (fun _ => rfl) (fun _ _ => rfl) (fun _ _ => rfl)
      ?_ nofun nofun (fun hj => ⟨rfl, (h.endedP id hj).2⟩) nofun
    intro j hji hm
    rw [htodo] at hm
    exact (List.mem_cons.mp hm).resolve_left hji
  | rdWindowUpdate id inc hinc =>
    refine h.frame id ((s.pending id).map fun pb => { pb with window := addWin pb.window inc, allow := pb.allow + inc })
      h.cwin h.cnn rfl (Int.le_refl _) (fun _ => rfl) ?_ (fun _ _ => rfl) (fun _ _ => rfl) (fun _ _ hm => hm) ?_ ?_ ?_
      (fun _ _ _ => .inl rfl)
    · intro j
      show (if j = id then _ else _) = _
      by_cases hji : j = id
      · rw [if_pos hji, if_pos hji, hji]
      · rw [if_neg hji, if_neg hji]
    · intro q hq
      obtain ⟨pb, hpb, rfl⟩ := Option.map_eq_some_iff.mp hq
      have := h.pbs id pb hpb
      refine ⟨?_, ?_⟩
      · show addWin pb.window inc = wrap32 (pb.allow + ↑inc)
        rw [addWin, this.win, wrap32_add]
      · show s.streamWindow - (2 ^ 31 - 1) ≤ pb.allow + ↑inc
        have := this.base; omega
    · intro hv
      exact h.usedP id (by rwa [Option.isSome_map] at hv)
    · intro hj
      exact ⟨by rw [(h.endedP id hj).1]; rfl, (h.endedP id hj).2⟩
  | rdConnWindowUpdate inc hinc =>
    refine { h with cwin := ?_, cnn := ?_, wake := fun _ _ _ _ => .inl rfl }
    · show addWin s.connWindow inc = wrap32 (s.connAllow + ↑inc)
      rw [addWin, h.cwin, wrap32_add]
    · show 0 ≤ s.connAllow + ↑inc
      have := h.cnn; omega
  | rdSettingsWindow v hv =>
    have hsw := h.sw
    refine ⟨h.cwin, h.cnn, ⟨by show (0 : Int) ≤ v; omega, by show (v : Int) < _; omega⟩, ?_, ?_, ?_,
      fun _ _ _ _ => .inl rfl⟩
    · intro j q hj
      obtain ⟨pb, hpb, rfl⟩ := Option.map_eq_some_iff.mp hj
      have := h.pbs j pb hpb
      refine ⟨?_, ?_⟩
      · show wrap32 (pb.window + wrap32 ((v : Int) - s.streamWindow)) = wrap32 (pb.allow + ((v : Int) - s.streamWindow))
        rw [wrap32_id (x := (v : Int) - s.streamWindow) (by omega) (by omega), this.win, wrap32_add]
      · show (v : Int) - (2 ^ 31 - 1) ≤ pb.allow + ((v : Int) - s.streamWindow)
        have := this.base; omega
    · intro j hj
      exact h.usedP j (by rwa [show (Option.map _ (s.pending j)).isSome = _ from Option.isSome_map] at hj)
    · intro j hj
      exact ⟨by show Option.map _ (s.pending j) = none; rw [(h.endedP j hj).1]; rfl, (h.endedP j hj).2⟩
  | drop id =>
    exact h.frame id none h.cwin h.cnn rfl (Int.le_refl _) (fun t => t) (fun _ => rfl) (fun _ _ => rfl) (fun _ _ => rfl)
      (fun _ _ hm => hm) nofun nofun (fun hj => ⟨rfl, (h.endedP id hj).2⟩) nofun

theorem reach_inv {s es} (h : Reach s es) : Inv s := by
  induction h with
  | init => exact init_inv
  | step _ st ih => exact inv_step ih st

end H2.Client.Flow
