import H2.Proofs.ClientRunGoAway
/-!
# C02 on the full serial client model, run level

* `run_ids`: the stream identifiers of the HEADERS frames written in a run are odd, strictly increasing, each the
  `nextID` held just before its step, all below the final `nextID`.
* `rdFrame_touches_only`, `rdFrames_touches_only`, `step_bytes_touches_only`: a frame on stream `sid` changes no request
  but the one registered under `sid` (and, once GOAWAY(last > 0) has come, those on streams above `last`).
-/
namespace H2.Client

/-! ## stream identifiers -/

/-- the stream a frame opens: HEADERS, with END_HEADERS or without (CONTINUATION frames open nothing) -/
def hdrId : OutFrame → Option Nat
  | .headers sid _ _ => some sid
  | .hfrag sid _ _ => some sid
  | _ => none

theorem contFrames_ids (sid : Nat) (fl : List (Bytes × Bytes)) (ls : List Nat) : (contFrames sid fl ls).filterMap hdrId = [] := by
  induction ls with
  | nil => rfl
  | cons l ls ih => simp only [contFrames, List.filterMap_cons, hdrId]; exact ih

theorem block_ids {sid : Nat} {es : Bool} {fl : List (Bytes × Bytes)} {blk : List OutFrame} (h : BlockOf sid es fl blk) :
    blk.filterMap hdrId = [sid] := by
  obtain ⟨l, ls, rfl⟩ := h
  simp only [headerFrames]
  split <;> simp [hdrId, contFrames_ids]

def outIds : StepOut → List Nat
  | .frames fs => fs.filterMap hdrId
  | _ => []

/-- identifiers of all HEADERS frames written in a run, in order -/
def runIds (outs : List StepOut) : List Nat := outs.flatMap outIds

theorem noHdr_ids {fs : List OutFrame} (h : NoHdr fs) : fs.filterMap hdrId = [] := by
  rw [List.filterMap_eq_nil_iff]
  intro f hf
  have := h f hf
  cases f <;> simp_all [OutFrame.isHeaders, hdrId]

theorem step_ids (c : Conn) (h : HInv c) (ev : Event) :
    (outIds (step c ev).2 = [] ∧ ((step c ev).1.nextID = c.nextID ∨ (step c ev).1.nextID = c.nextID + 2)) ∨
    (outIds (step c ev).2 = [c.nextID] ∧ (step c ev).1.nextID = c.nextID + 2) := by
  rcases step_frames_spec c h.inv h.outQ ev with ⟨hn, hf⟩ | ⟨r, _, _, _, hn, hf⟩
  · left
    refine ⟨?_, .inl hn⟩
    cases ho : (step c ev).2 with
    | frames fs => exact noHdr_ids (hf fs ho)
    | _ => rfl
  · cases ho : (step c ev).2 with
    | frames fs =>
      right
      obtain ⟨blk, rest, e, hb, hr⟩ := hf fs ho
      refine ⟨?_, hn⟩
      simp only [outIds, e, List.filterMap_append, block_ids hb, noHdr_ids hr, List.append_nil]
    | _ => left; exact ⟨rfl, .inr hn⟩

theorem run_ids : ∀ (evs : List Event) (c : Conn), HInv c → c.nextID % 2 = 1 →
    (runIds (run c evs).2).Pairwise (· < ·) ∧
    (∀ i ∈ runIds (run c evs).2, c.nextID ≤ i ∧ i % 2 = 1 ∧ i < (run c evs).1.nextID) ∧
    c.nextID ≤ (run c evs).1.nextID ∧ (run c evs).1.nextID % 2 = 1 := by
  intro evs
  induction evs with
  | nil => intro c _ ho; exact ⟨List.Pairwise.nil, fun i hi => nomem hi, Nat.le_refl _, ho⟩
  | cons e es ih =>
    intro c h ho
    rw [run_cons]
    simp only [runIds, List.flatMap_cons]
    have h' := step_hinv c e h
    rcases step_ids c h e with ⟨h1, h2⟩ | ⟨h1, h2⟩
    · have ho' : (step c e).1.nextID % 2 = 1 := by rcases h2 with h2 | h2 <;> rw [h2] <;> omega
      obtain ⟨i1, i2, i3, i4⟩ := ih _ h' ho'
      rw [h1, List.nil_append]
      refine ⟨i1, ?_, by rcases h2 with h2 | h2 <;> rw [h2] at i3 <;> omega, i4⟩
      intro i hi
      obtain ⟨a, b, d⟩ := i2 i hi
      exact ⟨by rcases h2 with h2 | h2 <;> rw [h2] at a <;> omega, b, d⟩
    · have ho' : (step c e).1.nextID % 2 = 1 := by rw [h2]; omega
      obtain ⟨i1, i2, i3, i4⟩ := ih _ h' ho'
      rw [h1]
      refine ⟨?_, ?_, by rw [h2] at i3; omega, i4⟩
      · simp only [List.singleton_append, List.pairwise_cons]
        refine ⟨?_, i1⟩
        intro i hi
        have := (i2 i hi).1
        rw [h2] at this; omega
      · intro i hi
        simp only [List.singleton_append, List.mem_cons] at hi
        rcases hi with rfl | hi
        · exact ⟨Nat.le_refl _, ho, by rw [h2] at i3; omega⟩
        · obtain ⟨a, b, d⟩ := i2 i hi
          exact ⟨by rw [h2] at a; omega, b, d⟩

/-! ## who a stream frame can touch -/

theorem rdFrame_closeRef (c : Conn) (f : Frame.Frame) (hs : f.stream ≠ 0) :
    (rdFrame c f).1.closeRef = c.closeRef ∧ (rdFrame c f).1.stateClosed = c.stateClosed := by
  have h0 : (f.stream == 0) = false := by simpa using hs
  simp only [rdFrame, h0, Bool.false_eq_true, if_false]
  split
  · exact ⟨(quiet_setLastErr c _).closeRef, (quiet_setLastErr c _).stateClosed⟩
  · obtain ⟨w, p, e⟩ := addWindow_shape c f.stream ‹Nat›
    have q := quiet_dispatchLoop (addWindow c f.stream ‹Nat›) f
    rw [q.closeRef, q.stateClosed, e]; exact ⟨rfl, rfl⟩
  · have q := (quiet_consumeConnWindow c f.length).trans (quiet_dispatchLoop _ f)
    exact ⟨q.closeRef, q.stateClosed⟩
  · exact ⟨(quiet_dispatchLoop c f).closeRef, (quiet_dispatchLoop c f).stateClosed⟩

/-! ### the requests -/

theorem othersSame_settle (c : Conn) (tag : String) (sid : Nat) (err : Option Err) (endS : Bool) :
    OthersSame tag c (settle c tag sid err endS).1 := by
  rcases settle_cases c tag sid err endS with h | ⟨e, h⟩ <;> rw [h]
  · exact OthersSame.refl _ _
  · exact othersSame_finish _ _ _ _

theorem getReq_dispatch_other (c : Conn) (f : Frame.Frame) (t : String) (h : lookupA c.reqQueued f.stream ≠ some t) :
    getReq (dispatch c f).1 t = getReq c t := by
  obtain ⟨skd, skb, ske, hsk⟩ := skipHeaders_shape c f
  rcases dispatch_cases c f with e | ⟨_, _, _, _, _, e⟩ | ⟨tag, r, hl, hr, _, e⟩ <;> rw [e]
  · rw [hsk]; rfl
  · rw [hsk]; rfl
  · obtain ⟨he, hp⟩ := prepare_shape c f
    exact (((OthersSame.of_reqs (by rw [hp])).trans (othersSame_readStream _ tag r f (getReq_tag hr))).trans
      (othersSame_settle _ _ _ _ _)) t fun e => h (by rw [hl, e])

theorem othersSame_dispatch (c : Conn) (f : Frame.Frame) (tag : String)
    (hq : lookupA c.reqQueued f.stream = some tag) : OthersSame tag c (dispatch c f).1 :=
  fun t ht => getReq_dispatch_other c f t (by rw [hq]; exact fun e => ht (Option.some.inj e).symm)

theorem rdFrame_touches_only (c : Conn) (f : Frame.Frame) (hs : f.stream ≠ 0) (t : String)
    (h1 : lookupA c.reqQueued f.stream ≠ some t)
    (h2 : c.stateClosed = true → ∀ s, (s, t) ∈ c.reqQueued → s ≤ c.closeRef) :
    getReq (rdFrame c f).1 t = getReq c t := by
  have loop : ∀ c1 : Conn, c1.reqs = c.reqs → c1.reqQueued = c.reqQueued → c1.closeRef = c.closeRef →
      c1.stateClosed = c.stateClosed → getReq (dispatchLoop c1 f).1 t = getReq c t := by
    intro c1 e1 e2 e3 e4
    rw [dispatchLoop_eq]
    have hd : getReq (dispatch c1 f).1 t = getReq c t := by
      rw [getReq_dispatch_other c1 f t (by rw [e2]; exact h1)]; exact getReq_congr e1 t
    have q := quiet_dispatch c1 f
    split
    · rename_i hc
      rw [q.stateClosed, e4] at hc
      unfold afterGoAway
      rw [refuseAbove_keeps t _ _ ?_, hd]
      intro p hp hg e
      have := h2 hc p.1 (by rw [← e2]; exact q.table.subset (by rw [← e]; exact hp))
      rw [q.closeRef, e3] at hg
      omega
    · exact hd
  have h0 : (f.stream == 0) = false := by simpa using hs
  simp only [rdFrame, h0, Bool.false_eq_true, if_false]
  split
  · obtain ⟨l, e⟩ := setLastErr_shape c (.h2conn Gen.c_ProtocolError); rw [e]; rfl
  · obtain ⟨w, p, e⟩ := addWindow_shape c f.stream ‹Nat›
    rw [e]; exact loop _ rfl rfl rfl rfl
  · have q := quiet_consumeConnWindow c f.length
    exact loop _ (consumeConnWindow_reqs c _).1 (consumeConnWindow_reqs c _).2 q.closeRef q.stateClosed
  · exact loop c rfl rfl rfl rfl

/-- all frames of the list are complete frames on streams that are not registered for `t` -/
def ForeignTo (c : Conn) (t : String) : List RdFrame → Prop
  | [] => True
  | .frame f :: fs => f.stream ≠ 0 ∧ (∀ s, (s, t) ∈ c.reqQueued → f.stream ≠ s) ∧ ForeignTo c t fs
  | _ :: _ => False

theorem rdFrame_sub (c : Conn) (f : Frame.Frame) (hk : Keys c) : (rdFrame c f).1.reqQueued.Sublist c.reqQueued :=
  (rdRel_rdFrame c f hk).sub

theorem ForeignTo.mono {c c' : Conn} {t : String} (hs : c'.reqQueued.Sublist c.reqQueued) :
    ∀ {fs : List RdFrame}, ForeignTo c t fs → ForeignTo c' t fs := by
  intro fs
  induction fs with
  | nil => intro _; trivial
  | cons x xs ih =>
    intro h
    cases x with
    | frame f => exact ⟨h.1, fun s hm => h.2.1 s (hs.subset hm), ih h.2.2⟩
    | unknown => exact h.elim
    | bad a b => exact h.elim

theorem rdFrames_touches_only (t : String) (fs : List RdFrame) : ∀ c : Conn, Keys c → ForeignTo c t fs →
    (c.stateClosed = true → ∀ s, (s, t) ∈ c.reqQueued → s ≤ c.closeRef) →
    getReq (rdFrames fs c).1 t = getReq c t := by
  induction fs with
  | nil => intro c _ _ _; rfl
  | cons x xs ih =>
    intro c hk hf h2
    cases x with
    | unknown => exact hf.elim
    | bad a b => exact hf.elim
    | frame f =>
      obtain ⟨f1, f2, f3⟩ := hf
      rw [rdFrames_cons_frame]
      have one : getReq (rdFrame c f).1 t = getReq c t := by
        apply rdFrame_touches_only c f f1 t _ h2
        intro hl
        exact f2 _ (lookupA_mem hl) rfl
      split
      · rfl
      · split
        · exact one
        · have rr := rdRel_rdFrame c f hk
          obtain ⟨k1, k2⟩ := rdFrame_closeRef c f f1
          rw [ih _ (rr.keys hk) (f3.mono rr.sub) ?_, one]
          intro hc s hm
          rw [k1]
          exact h2 (by rw [← k2]; exact hc) s (rr.sub.subset hm)

/-- `hlive`: a step that ends the connection resolves every waiting request, `t` too -/
theorem step_bytes_touches_only (c : Conn) (h : Inv c) (b : Bytes) (t : String)
    (hf : ForeignTo c t (bytesSplit c b).1)
    (h2 : c.stateClosed = true → ∀ s, (s, t) ∈ c.reqQueued → s ≤ c.closeRef)
    (hlive : ∃ fs, (step c (.bytes b)).2 = .frames fs) : getReq (step c (.bytes b)).1 t = getReq c t := by
  revert hlive
  refine step_cases c (.bytes b) (step c (.bytes b)) rfl
    (fun _ _ _ => rfl) (fun _ _ _ _ _ => rfl) (fun _ _ _ he => nomatch he) (fun _ he => nomatch he)
    (fun _ he => nomatch he) ?_ (fun _ _ he => nomatch he) (fun he => by rcases he with he | he <;> cases he)
    (fun _ he => nomatch he)
  intro b' he _ _
  cases he
  have hr : getReq (bytesRead c b).1 t = getReq c t :=
    rdFrames_touches_only t _ { c with rdBuf := (bytesSplit c b).2 } h.keys
      (ForeignTo.mono (c := c) (c' := { c with rdBuf := (bytesSplit c b).2 }) (List.Sublist.refl _) hf) h2
  have ended : ∀ x : Conn, (∃ fs, StepOut.dead = .frames fs) → getReq x t = getReq c t := fun _ ⟨_, ho⟩ => nomatch ho
  refine ⟨(fun ⟨_, ho⟩ => nomatch ho), ended _, ended _, fun ⟨fs, ho⟩ => ?_⟩
  rcases afterWrites_cases (drain (bytesRead c b).1).1 (drain (bytesRead c b).1).2 with ⟨e, s, bd, hh⟩ | ⟨e, s, hh⟩
  · rw [hh]
    obtain ⟨p, w, a, _, _, hs, -⟩ := drain_shape (bytesRead c b).1
    rw [hs]; exact hr
  · rw [hh] at ho; cases ho

end H2.Client
