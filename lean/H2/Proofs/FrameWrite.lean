import H2.Proofs.Frame
import H2.Frame.Write
/-! Helper lemmas for C05, write side: what `WriteTo` emits parses under the RFC grammar to the frame the caller described. -/
namespace H2.Frame
open H2

theorem parseHdr_header (len typ flags stream : Nat) (rest : Bytes)
    (hl : len < 2 ^ 24) (ht : typ < 256) (hf : flags < 256) (hs : stream < 2 ^ 31) :
    Spec.parseHdr (header len typ flags stream ++ rest) = some (⟨len, typ, flags, stream⟩, rest) := by
  simp only [header, toBe24, toBe32, List.cons_append, List.nil_append, Spec.parseHdr, Spec.u31, Spec.u32]
  simp only [Option.some.injEq, Prod.mk.injEq, and_true, Spec.Hdr.mk.injEq]
  omega

theorem parse_written (typ flags stream : Nat) (p : Bytes)
    (hl : p.length < 2 ^ 24) (ht : typ ≤ 9) (hf : flags < 256) (hs : stream < 2 ^ 31) :
    Spec.parse 0 (header p.length typ flags stream ++ p) =
      match Spec.body typ flags p with
      | .ok bd => .frame ⟨typ, flags, stream, p.length, bd⟩ []
      | .bad c => .malformed c := by
  have ht' : ¬ typ > 9 := by omega
  simp only [Spec.parse, parseHdr_header p.length typ flags stream p hl (by omega) hf hs]
  simp only [ht', Nat.lt_irrefl, List.take_length, List.drop_length, if_false, false_and, ne_eq, not_true_eq_false]
  cases h : Spec.body typ flags p <;> rfl

def PadOk (pad : Nat) : Prop := pad = 0 ∨ (9 ≤ pad ∧ pad ≤ 255)

/-- field ranges only: what the full property quantifies over -/
def InRange : WFrame → Prop
  | .data _ b => WF b
  | .headers _ _ prio raw => WF raw ∧ (∀ d w, prio = some (d, w) → d < 2 ^ 31 ∧ w < 256)
  | .priority dep w => dep < 2 ^ 31 ∧ w < 256
  | .rstStream c => c < 2 ^ 32
  | .settings ack ts _ ms ws fs hs =>
    ack = true ∨ (ts < 2 ^ 32 ∧ ms < 2 ^ 32 ∧ ws < 2 ^ 31 ∧ 2 ^ 14 ≤ fs ∧ fs < 2 ^ 24 ∧ hs < 2 ^ 32)
  | .pushPromise pr _ h => pr < 2 ^ 32 ∧ WF h
  | .ping _ d => d.length = 8
  | .goAway last code _ => last < 2 ^ 31 ∧ code < 2 ^ 32
  | .windowUpdate inc => inc < 2 ^ 31
  | .continuation _ _ => True

/-- a flags octet from its END_STREAM/ACK (0x1), END_HEADERS (0x4), PADDED (0x8) and PRIORITY (0x20) bits -/
def flagsOf (b0 b2 b3 b5 : Bool) : Nat :=
  (if b0 then 1 else 0) + (if b2 then 4 else 0) + (if b3 then 8 else 0) + (if b5 then 32 else 0)

theorem bitAt_flagsOf (b0 b2 b3 b5 : Bool) (k : Nat) :
    Spec.bitAt (flagsOf b0 b2 b3 b5) k =
      if k = 0 then b0 else if k = 2 then b2 else if k = 3 then b3 else if k = 5 then b5 else false := by
  have h : flagsOf b0 b2 b3 b5 < 64 := by cases b0 <;> cases b2 <;> cases b3 <;> cases b5 <;> decide
  by_cases hk : k < 6
  · have : k = 0 ∨ k = 1 ∨ k = 2 ∨ k = 3 ∨ k = 4 ∨ k = 5 := by omega
    rcases this with rfl | rfl | rfl | rfl | rfl | rfl <;> cases b0 <;> cases b2 <;> cases b3 <;> cases b5 <;> decide
  · have h2 : 64 ≤ 2 ^ k := by
      have := Nat.pow_le_pow_right (show 0 < 2 by decide) (show 6 ≤ k by omega)
      simpa using this
    simp only [Spec.bitAt, Nat.div_eq_of_lt (Nat.lt_of_lt_of_le h h2)]
    have : ¬ k = 0 ∧ ¬ k = 2 ∧ ¬ k = 3 ∧ ¬ k = 5 := by omega
    simp [this]

/-- what `Serialize` puts after the pad-length octet, or alone when there is no padding -/
def WFrame.core : WFrame → Bytes
  | .data _ b => b
  | .headers _ _ (some (dep, w)) raw => toBe32 dep ++ [w] ++ raw
  | .headers _ _ none raw => raw
  | .pushPromise pr _ h => toBe32 (pr % 2 ^ 31) ++ h
  | w => (serialize 0 0 w).2

def WFrame.padded : WFrame → Bool
  | .data .. | .headers .. | .pushPromise .. => true
  | _ => false

/-- the flags octet `Serialize` leaves, `pd` saying whether padding was asked for -/
def WFrame.flags (pd : Bool) : WFrame → Nat
  | .data es _ => flagsOf es false pd false
  | .headers es eh prio _ => flagsOf es eh pd prio.isSome
  | .settings ack .. => flagsOf ack false false false
  | .pushPromise _ eh _ => flagsOf false eh pd false
  | .ping ack _ => flagsOf ack false false false
  | .continuation eh _ => flagsOf false eh false false
  | _ => 0

/-- `Serialize` on a header without preset flags in one equation: the flags octet, and the payload, padded when the
type takes padding and a pad length was drawn. The flag arithmetic of `addFlag` is done here, once. -/
theorem serialize_eq (pad : Nat) (w : WFrame) :
    serialize 0 pad w =
      (w.flags (decide (pad ≠ 0)), if w.padded && decide (pad ≠ 0) then addPadding w.core pad else w.core) := by
  by_cases hp : pad = 0
  · subst hp
    cases w with
    | data es b => cases es <;> rfl
    | headers es eh prio raw => rcases prio with _ | ⟨d, w⟩ <;> cases es <;> cases eh <;> rfl
    | settings ack => cases ack <;> rfl
    | pushPromise pr eh h => cases eh <;> rfl
    | ping ack => cases ack <;> rfl
    | continuation eh => cases eh <;> rfl
    | _ => rfl
  · cases w with
    | data es b => cases es <;> simp [serialize, hp, WFrame.padded, WFrame.core, WFrame.flags] <;> rfl
    | headers es eh prio raw =>
      rcases prio with _ | ⟨d, w⟩ <;> cases es <;> cases eh <;>
        simp [serialize, hp, WFrame.padded, WFrame.core, WFrame.flags] <;> rfl
    | settings ack => cases ack <;> simp [serialize, WFrame.padded, WFrame.core, WFrame.flags] <;> rfl
    | pushPromise pr eh h => cases eh <;> simp [serialize, hp, WFrame.padded, WFrame.core, WFrame.flags] <;> rfl
    | ping ack => cases ack <;> simp [serialize, WFrame.padded, WFrame.core, WFrame.flags] <;> rfl
    | continuation eh => cases eh <;> simp [serialize, WFrame.padded, WFrame.core, WFrame.flags] <;> rfl
    | _ => simp [serialize, WFrame.padded, WFrame.core, WFrame.flags]

theorem u32_toBe32 (n : Nat) (h : n < 2 ^ 32) :
    Spec.u32 (n / 16777216 % 256) (n / 65536 % 256) (n / 256 % 256) (n % 256) = n := by
  simp [Spec.u32]; omega

theorem u31_toBe32 (n : Nat) (h : n < 2 ^ 31) :
    Spec.u31 (n / 16777216 % 256) (n / 65536 % 256) (n / 256 % 256) (n % 256) = n := by
  simp [Spec.u31, Spec.u32]; omega

theorem unpad_false (p : Bytes) : Spec.unpad false p = some p := rfl

theorem unpad_addPadding (b : Bytes) (n : Nat) : Spec.unpad true (addPadding b n) = some b := by
  simp [Spec.unpad, addPadding]

theorem padZero_false (p : Bytes) : Spec.padZero false p = true := rfl

theorem padZero_addPadding (b : Bytes) (n : Nat) : Spec.padZero true (addPadding b n) = true := by
  simp [Spec.padZero, addPadding]

theorem body_settings (ack push : Bool) (ts ms ws fs hs pad : Nat)
    (hB : ack = true ∨ (ts < 2 ^ 32 ∧ ms < 2 ^ 32 ∧ ws < 2 ^ 31 ∧ 2 ^ 14 ≤ fs ∧ fs < 2 ^ 24 ∧ hs < 2 ^ 32)) :
    ∃ sv, Spec.body Gen.c_FrameSettings (serialize 0 pad (.settings ack ts push ms ws fs hs)).1
        (serialize 0 pad (.settings ack ts push ms ws fs hs)).2 = .ok (.settings sv) ∧
      sameBody (.settings sv) (WFrame.want (.settings ack ts push ms ws fs hs)) = true := by
  cases ack with
  | true =>
    refine ⟨Spec.settingsVal true [], ?_, ?_⟩
    · simp [serialize, addFlag, hasFlag, Gen.c_FlagAck, Gen.c_FrameSettings, Spec.body, Spec.bitAt, Spec.pairsOf, Spec.firstBad]
    · simp [sameBody, WFrame.want, Spec.settingsVal]
  | false =>
    rcases hB with h | ⟨h2, h4, h6, h7, h8, h9⟩
    · cases h
    · have hfs : fs ≠ 0 := by omega
      have hfs32 : fs < 2 ^ 32 := by omega
      have hws32 : ws < 2 ^ 32 := by omega
      have e1 := u32_toBe32 ts h2
      have e3 := u32_toBe32 ms h4
      have e4 := u32_toBe32 ws hws32
      have e5 := u32_toBe32 fs hfs32
      have e6 := u32_toBe32 hs h9
      have e2 : Spec.u32 0 0 0 1 = 1 := by decide
      have e0 : Spec.u32 0 0 0 0 = 0 := by decide
      have b4 : ¬ (2147483647 < ws) := by omega
      have b5 : ¬ (fs < 16384 ∨ 16777215 < fs) := by omega
      refine ⟨Spec.settingsVal false (Spec.pairsOf (serialize 0 pad (.settings false ts push ms ws fs hs)).2), ?_, ?_⟩
      · by_cases hh : hs = 0 <;> cases push <;>
          simp [serialize, settingsEncode, settingsPair, Gen.c_FrameSettings, Gen.c_HeaderTableSize, Gen.c_EnablePush,
            Gen.c_MaxConcurrentStreams, Gen.c_MaxWindowSize, Gen.c_MaxFrameSize, Gen.c_MaxHeaderListSize, hfs, hh,
            toBe16, toBe32, Spec.body, Spec.bitAt, Spec.pairsOf, Spec.firstBad, Spec.pairBad, e0, e1, e2, e3, e4, e5, e6, b4, b5]
      · by_cases hh : hs = 0 <;> cases push <;>
          simp [serialize, settingsEncode, settingsPair, Gen.c_HeaderTableSize, Gen.c_EnablePush,
            Gen.c_MaxConcurrentStreams, Gen.c_MaxWindowSize, Gen.c_MaxFrameSize, Gen.c_MaxHeaderListSize, hfs, hh,
            toBe16, toBe32, Spec.pairsOf, e0, e1, e2, e3, e4, e5, e6, sameBody, WFrame.want, Spec.settingsVal, Spec.applyPair]

theorem sameBody_self (b : Body) : sameBody b b = true := by
  cases b <;> simp [sameBody]

theorem body_written (pad : Nat) (w : WFrame) (hB : InRange w) :
    ∃ bd, Spec.body w.typ (serialize 0 pad w).1 (serialize 0 pad w).2 = .ok bd ∧ sameBody bd w.want = true := by
  cases w with
  | settings ack ts push ms ws fs hs =>
    obtain ⟨sv, h1, h2⟩ := body_settings ack push ts ms ws fs hs pad hB
    exact ⟨_, h1, h2⟩
  | data es b =>
    refine ⟨WFrame.want _, ?_, sameBody_self _⟩
    rw [serialize_eq]
    cases decide (pad ≠ 0) <;> simp [WFrame.typ, Gen.c_FrameData, Spec.body, bitAt_flagsOf, WFrame.padded, WFrame.core,
      WFrame.flags, WFrame.want, unpad_addPadding, unpad_false]
  | headers es eh prio raw =>
    refine ⟨WFrame.want _, ?_, sameBody_self _⟩
    rw [serialize_eq]
    rcases prio with _ | ⟨d, w⟩
    · cases decide (pad ≠ 0) <;> simp [WFrame.typ, Gen.c_FrameHeaders, Spec.body, bitAt_flagsOf, WFrame.padded,
        WFrame.core, WFrame.flags, WFrame.want, unpad_addPadding, unpad_false]
    · have := (hB.2 d w rfl).1
      cases decide (pad ≠ 0) <;> simp [WFrame.typ, Gen.c_FrameHeaders, Spec.body, bitAt_flagsOf, WFrame.padded,
        WFrame.core, WFrame.flags, WFrame.want, unpad_addPadding, unpad_false, toBe32, u31_toBe32 d this]
  | pushPromise pr eh h =>
    refine ⟨WFrame.want _, ?_, sameBody_self _⟩
    rw [serialize_eq]
    cases decide (pad ≠ 0) <;> simp [WFrame.typ, Gen.c_FramePushPromise, Spec.body, bitAt_flagsOf, WFrame.padded,
      WFrame.core, WFrame.flags, WFrame.want, unpad_addPadding, unpad_false, toBe32, Spec.u31, Spec.u32] <;> omega
  | priority dep w =>
    exact ⟨WFrame.want _, by simp [serialize, WFrame.typ, Gen.c_FramePriority, Spec.body, toBe32, u31_toBe32 dep hB.1, WFrame.want],
      sameBody_self _⟩
  | rstStream c =>
    exact ⟨WFrame.want _, by simp [serialize, WFrame.typ, Gen.c_FrameResetStream, Spec.body, toBe32, u32_toBe32 c hB, WFrame.want],
      sameBody_self _⟩
  | ping ack d =>
    refine ⟨WFrame.want _, ?_, sameBody_self _⟩
    rw [serialize_eq]
    simp [WFrame.typ, Gen.c_FramePing, Spec.body, bitAt_flagsOf, WFrame.padded, WFrame.core, WFrame.flags, WFrame.want,
      serialize, show d.length = 8 from hB]
  | goAway last code dbg =>
    exact ⟨WFrame.want _, by simp [serialize, WFrame.typ, Gen.c_FrameGoAway, Spec.body, toBe32, u31_toBe32 last hB.1,
      u32_toBe32 code hB.2, WFrame.want], sameBody_self _⟩
  | windowUpdate inc =>
    exact ⟨WFrame.want _, by simp [serialize, WFrame.typ, Gen.c_FrameWindowUpdate, Spec.body, toBe32, u31_toBe32 inc hB, WFrame.want],
      sameBody_self _⟩
  | continuation eh raw =>
    refine ⟨WFrame.want _, ?_, sameBody_self _⟩
    rw [serialize_eq]
    simp [WFrame.typ, Gen.c_FrameContinuation, Spec.body, bitAt_flagsOf, WFrame.padded, WFrame.core, WFrame.flags,
      WFrame.want, serialize]

theorem settingsPair_length_le (id v : Nat) (has : Bool) : (settingsPair id v has).length ≤ 6 := by
  unfold settingsPair
  split <;> simp [toBe16, toBe32]

theorem settingsEncode_length_le (s : SettingsVal) : (settingsEncode s).length ≤ 36 := by
  have h1 := settingsPair_length_le Gen.c_HeaderTableSize s.tableSize s.hasTableSize
  have h3 := settingsPair_length_le Gen.c_MaxConcurrentStreams s.maxStreams s.hasMaxStreams
  have h4 := settingsPair_length_le Gen.c_MaxWindowSize s.windowSize s.hasWindowSize
  have h5 := settingsPair_length_le Gen.c_MaxFrameSize s.frameSize false
  have h6 := settingsPair_length_le Gen.c_MaxHeaderListSize s.headerSize false
  have h2 : (if s.enablePush then toBe16 Gen.c_EnablePush ++ toBe32 1
      else if s.hasPush then toBe16 Gen.c_EnablePush ++ toBe32 0 else []).length ≤ 6 := by
    split
    · simp [toBe16, toBe32]
    · split <;> simp [toBe16, toBe32]
  simp only [settingsEncode, List.length_append]
  omega

theorem typ_le (w : WFrame) : w.typ ≤ 9 := by
  cases w <;> simp [WFrame.typ, Gen.c_FrameData, Gen.c_FrameHeaders, Gen.c_FramePriority, Gen.c_FrameResetStream,
    Gen.c_FrameSettings, Gen.c_FramePushPromise, Gen.c_FramePing, Gen.c_FrameGoAway, Gen.c_FrameWindowUpdate, Gen.c_FrameContinuation]

theorem flagsOf_lt (b0 b2 b3 b5 : Bool) : flagsOf b0 b2 b3 b5 < 256 := by
  cases b0 <;> cases b2 <;> cases b3 <;> cases b5 <;> decide

theorem flags_lt (pad : Nat) (w : WFrame) : (serialize 0 pad w).1 < 256 := by
  rw [serialize_eq]
  cases w <;> first | exact flagsOf_lt _ _ _ _ | exact Nat.zero_lt_succ _

/-- C05, write side: the octets `WriteTo` emits are one RFC 7540 frame, nothing before or after it, whose
header carries the type, the stream and the exact payload length, and whose fields are the caller's -/
theorem write_parse (stream pad : Nat) (w : WFrame) (hB : InRange w) (hs : stream < 2 ^ 31)
    (hsz : (serialize 0 pad w).2.length < 2 ^ 24) :
    ∃ bd, Spec.parse 0 (write 0 stream pad w) =
        .frame ⟨w.typ, (serialize 0 pad w).1, stream, (serialize 0 pad w).2.length, bd⟩ [] ∧
      sameBody bd w.want = true := by
  obtain ⟨bd, h1, h2⟩ := body_written pad w hB
  refine ⟨bd, ?_, h2⟩
  unfold write
  simp only [parse_written w.typ _ stream _ hsz (typ_le w) (flags_lt pad w) hs, h1]

theorem write_r_bit (stream pad : Nat) (w : WFrame) (hs : stream < 2 ^ 31) : (write 0 stream pad w).getD 5 0 < 128 := by
  simp [write, header, toBe24, toBe32]; omega

theorem write_drop9 (stream pad : Nat) (w : WFrame) : (write 0 stream pad w).drop 9 = (serialize 0 pad w).2 := by
  simp [write, header, toBe24, toBe32]

theorem flagsOk_written (pad : Nat) (w : WFrame) : Spec.flagsOk w.typ (serialize 0 pad w).1 = true := by
  rw [serialize_eq]
  generalize decide (pad ≠ 0) = pd
  cases w with
  | data es b => simp only [WFrame.typ, WFrame.flags]; cases es <;> cases pd <;> decide
  | headers es eh prio raw =>
    rcases prio with _ | ⟨d, w⟩ <;> simp only [WFrame.typ, WFrame.flags, Option.isSome] <;>
      cases es <;> cases eh <;> cases pd <;> decide
  | settings ack => simp only [WFrame.typ, WFrame.flags]; cases ack <;> decide
  | pushPromise pr eh h => simp only [WFrame.typ, WFrame.flags]; cases eh <;> cases pd <;> decide
  | ping ack => simp only [WFrame.typ, WFrame.flags]; cases ack <;> decide
  | continuation eh => simp only [WFrame.typ, WFrame.flags]; cases eh <;> decide
  | _ => simp only [WFrame.typ, WFrame.flags]; decide

theorem padZero_written (pad : Nat) (w : WFrame) :
    Spec.padZero ((w.typ = 0 ∨ w.typ = 1 ∨ w.typ = 5) ∧ Spec.bitAt (serialize 0 pad w).1 3) (serialize 0 pad w).2 = true := by
  rw [serialize_eq]
  cases w with
  | data es b => cases decide (pad ≠ 0) <;> simp [WFrame.typ, Gen.c_FrameData, WFrame.flags, WFrame.padded, bitAt_flagsOf,
      padZero_addPadding, padZero_false]
  | headers es eh prio raw => cases decide (pad ≠ 0) <;> simp [WFrame.typ, Gen.c_FrameHeaders, WFrame.flags, WFrame.padded,
      bitAt_flagsOf, padZero_addPadding, padZero_false]
  | pushPromise pr eh h => cases decide (pad ≠ 0) <;> simp [WFrame.typ, Gen.c_FramePushPromise, WFrame.flags, WFrame.padded,
      bitAt_flagsOf, padZero_addPadding, padZero_false]
  | _ => simp [WFrame.typ, Gen.c_FramePriority, Gen.c_FrameResetStream, Gen.c_FrameSettings, Gen.c_FramePing, Gen.c_FrameGoAway,
      Gen.c_FrameWindowUpdate, Gen.c_FrameContinuation, padZero_false]

theorem reservedOk_written (pad : Nat) (w : WFrame) (hB : InRange w) :
    Spec.reservedOk w.typ (serialize 0 pad w).1 (serialize 0 pad w).2 = true := by
  cases w with
  | pushPromise pr eh h =>
    rw [serialize_eq]
    have hd : pr % 2 ^ 31 < 2 ^ 31 := Nat.mod_lt _ (by decide)
    cases decide (pad ≠ 0) <;> simp [WFrame.typ, Gen.c_FramePushPromise, WFrame.flags, WFrame.padded, WFrame.core,
      bitAt_flagsOf, Spec.reservedOk, addPadding, toBe32] <;> omega
  | goAway last code dbg =>
    have := hB.1
    simp [serialize, WFrame.typ, Gen.c_FrameGoAway, Spec.reservedOk, toBe32]; omega
  | windowUpdate inc =>
    have : inc < 2 ^ 31 := hB
    simp [serialize, WFrame.typ, Gen.c_FrameWindowUpdate, Spec.reservedOk, toBe32]; omega
  | _ => simp [WFrame.typ, Gen.c_FrameData, Gen.c_FrameHeaders, Gen.c_FramePriority, Gen.c_FrameResetStream,
      Gen.c_FrameSettings, Gen.c_FramePing, Gen.c_FrameContinuation, Spec.reservedOk]

/-- C05, write side: … and that frame is one a conforming sender may emit (R bits zero, padding zero,
no undefined flag, stream identifier as the type requires) -/
theorem write_sendwf (stream pad : Nat) (w : WFrame) (hB : InRange w) (hs : stream < 2 ^ 31)
    (hsz : (serialize 0 pad w).2.length < 2 ^ 24) (hso : Spec.streamOk w.typ stream = true) :
    Spec.sendWF (write 0 stream pad w) = true := by
  obtain ⟨bd, h1, _⟩ := write_parse stream pad w hB hs hsz
  unfold Spec.sendWF
  rw [h1]
  simp only [write_drop9, Bool.and_eq_true, decide_eq_true_eq]
  exact ⟨⟨⟨⟨write_r_bit stream pad w hs, flagsOk_written pad w⟩, hso⟩, padZero_written pad w⟩, reservedOk_written pad w hB⟩

end H2.Frame
