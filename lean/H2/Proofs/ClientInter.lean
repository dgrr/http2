import H2.Client.Inter
/-! Inductive invariants of the request-resolution interleaving model (C12, C11).

Both invariants speak of one request at a time (`ReqA`, `ReqB`), and almost every action rewrites one request
and leaves the others alone (`forall_upd`). So an action needs one fact: what it does to its request keeps the
per-request predicate, given the action's guards. -/
namespace H2.Client.Inter

theorem forall_upd {P : Req → Prop} {s : S} {i : Nat} {g : Req → Req} (h : ∀ j, P (s.r j))
    (hi : P (g (s.r i))) : ∀ j, P ((upd s i g).r j) := by
  intro j
  show P (if j = i then g (s.r j) else s.r j)
  by_cases hj : j = i
  · rw [if_pos hj, hj]; exact hi
  · rw [if_neg hj]; exact h j

theorem res_cases (q : Req) (v : Val) :
    ((q.pc = .got ∨ q.errBuf.isSome = true) ∧ res q v = q) ∨
    (q.pc ≠ .got ∧ q.errBuf = none ∧ res q v = { q with errBuf := some v, ever := true }) := by
  unfold res
  by_cases h : q.pc = .got ∨ q.errBuf.isSome = true
  · exact .inl ⟨h, if_pos h⟩
  · refine .inr ⟨fun hp => h (.inl hp), ?_, if_neg h⟩
    cases he : q.errBuf with
    | none => rfl
    | some x => exact absurd (.inr (by rw [he]; rfl)) h

theorem res_pc (q : Req) (v : Val) : (res q v).pc = q.pc := by
  rcases res_cases q v with ⟨_, e⟩ | ⟨_, _, e⟩ <;> rw [e]

/-! ## where an unresolved request can be, and what a resolved one looks like -/

structure ReqA (w : Wl) (q : Req) : Prop where
  i3 : q.ever = false → q.pc = .recheck ∨ q.pc = .waiting → q.inQ = true ∨ q.inTable = true
  i4 : q.inTable = true → q.ever = false → w = .running ∨ w = .stopping ∨ w = .erred ∨ w = .closing
  i5 : q.inQ = true → q.ever = false → q.pc = .waiting → w ≠ .exited
  i6 : q.ever = true → q.errBuf.isSome = true ∨ q.pc = .taking ∨ q.pc = .got
  i7 : q.pc = .start → q.inQ = false ∧ q.inTable = false
  i8 : q.errBuf.isSome = true ∨ q.pc = .taking ∨ q.pc = .got → q.ever = true

structure InvA (s : S) : Prop where
  i1 : s.wl = .closing ∨ s.wl = .draining ∨ s.wl = .exited → s.done = true
  r : ∀ i, ReqA s.wl (s.r i)

namespace ReqA
variable {w w' : Wl} {q : Req}

/-- of a resolved request the invariant says two things only, and nothing about the write loop -/
theorem of_ever (he : q.ever = true) (h6 : q.errBuf.isSome = true ∨ q.pc = .taking ∨ q.pc = .got)
    (h7 : q.pc = .start → q.inQ = false ∧ q.inTable = false) : ReqA w q :=
  have ne : q.ever = false → False := fun h => absurd he (Bool.eq_false_iff.mp h)
  ⟨fun h => (ne h).elim, fun _ h => (ne h).elim, fun _ h => (ne h).elim, fun _ => h6, h7, fun _ => he⟩

theorem res (h : ReqA w q) (v : Val) : ReqA w (res q v) ∧ (Inter.res q v).ever = true := by
  rcases res_cases q v with ⟨c, e⟩ | ⟨_, _, e⟩ <;> rw [e]
  · exact ⟨h, h.i8 (c.elim (fun p => .inr (.inr p)) .inl)⟩
  · exact ⟨of_ever rfl (.inl rfl) h.i7, rfl⟩

theorem toWaiting (h : ReqA w q ∧ q.ever = true) (hp : q.pc = .start ∨ q.pc = .recheck) :
    ReqA w { q with pc := .waiting } :=
  of_ever h.2 (.inl (by have := h.1.i6 h.2; grind)) nofun

theorem offQueue (h : ReqA w q ∧ q.ever = true) : ReqA w' { q with inQ := false } :=
  of_ever h.2 (h.1.i6 h.2) fun p => ⟨rfl, (h.1.i7 p).2⟩

theorem offTable (h : ReqA w q ∧ q.ever = true) (d : Bool) : ReqA w' { q with inTable := false, disclaimed := d } :=
  of_ever h.2 (h.1.i6 h.2) fun p => ⟨(h.1.i7 p).1, rfl⟩

theorem enqueue (h : ReqA w q) (hp : q.pc = .start) : ReqA w { q with inQ := true, pc := .recheck } :=
  ⟨fun _ _ => .inl rfl, h.i4, fun _ _ => nofun, fun he => .inl (by have := h.i6 he; grind), nofun,
   fun c => h.i8 (.inl (by grind))⟩

theorem recheckN (h : ReqA w q) (hp : q.pc = .recheck) (hw : w ≠ .exited) : ReqA w { q with pc := .waiting } :=
  ⟨fun he _ => h.i3 he (.inl hp), h.i4, fun _ _ _ => hw, fun he => .inl (by have := h.i6 he; grind), nofun,
   fun c => h.i8 (.inl (by grind))⟩

theorem read (h : ReqA w q) {v : Val} (he : q.errBuf = some v) :
    ReqA w { q with pc := .taking, errBuf := none, result := some v, reads := q.reads + 1 } :=
  of_ever (h.i8 (.inl (by rw [he]; rfl))) (.inr (.inl rfl)) nofun

theorem takeBack (h : ReqA w q) (hp : q.pc = .taking) : ReqA w { q with pc := .got } :=
  of_ever (h.i8 (.inr (.inl hp))) (.inr (.inr rfl)) nofun

theorem takeWrite (h : ReqA w q) (hq : q.inQ = true) (hw : w = .running) :
    ReqA w { q with inQ := false, inTable := true, written := true } :=
  ⟨fun _ _ => .inr rfl, fun _ _ => .inl hw, nofun, h.i6, fun p => by have := h.i7 p; grind, h.i8⟩

theorem skip (h : ReqA w q) (hp : q.pc = .got) : ReqA w { q with inQ := false } :=
  offQueue ⟨h, h.i8 (.inr (.inr hp))⟩

theorem wl (h : ReqA w q)
    (h4 : w = .running ∨ w = .stopping ∨ w = .erred ∨ w = .closing →
      w' = .running ∨ w' = .stopping ∨ w' = .erred ∨ w' = .closing)
    (h5 : w' ≠ .exited) : ReqA w' q :=
  { h with i4 := fun a b => h4 (h.i4 a b), i5 := fun _ _ _ => h5 }

end ReqA

theorem initA : InvA init :=
  ⟨nofun, fun _ => ⟨nofun, nofun, nofun, nofun, fun _ => ⟨rfl, rfl⟩, by simp [init]⟩⟩

theorem stepA {rv s a s'} (h : InvA s) (st : Step rv s a s') : InvA s' := by
  obtain ⟨h1, hr⟩ := h
  cases st with
  | seeDone i hpc hd => exact ⟨h1, forall_upd hr (ReqA.toWaiting ((hr i).res _) (.inl ((res_pc _ _).trans hpc)))⟩
  | enqueue i hpc => exact ⟨h1, forall_upd hr ((hr i).enqueue hpc)⟩
  | recheckD i hpc hd => exact ⟨h1, forall_upd hr (ReqA.toWaiting ((hr i).res _) (.inr ((res_pc _ _).trans hpc)))⟩
  | recheckN i hpc hd =>
    -- `done` is still open, so the write loop has not got as far as closing it
    refine ⟨h1, forall_upd hr ((hr i).recheckN hpc fun hw => ?_)⟩
    rw [h1 (.inr (.inr hw))] at hd
    cases hd
  | read i v hpc he => exact ⟨h1, forall_upd hr ((hr i).read he)⟩
  | takeBack i hpc => exact ⟨h1, forall_upd hr ((hr i).takeBack hpc)⟩
  | wlTakeWrite i hw hq => exact ⟨h1, forall_upd hr ((hr i).takeWrite hq hw)⟩
  | wlTakeReject i hw hq => exact ⟨h1, forall_upd hr (ReqA.offQueue ((hr i).res _))⟩
  | wlTakeSkip i hw hq hp => exact ⟨h1, forall_upd hr ((hr i).skip hp)⟩
  | wlWriteFail i hw hq =>
    exact ⟨nofun, forall_upd (g := fun q => { res q .fatal with inQ := false })
      (fun j => (hr j).wl (fun _ => .inr (.inl rfl)) nofun) (ReqA.offQueue ((hr i).res _))⟩
  | wlBodyFail i hw hq =>
    exact ⟨nofun, forall_upd
      (g := fun q => { res { q with inQ := false, inTable := true, written := true } .fatal with inQ := false })
      (fun j => (hr j).wl (fun _ => .inr (.inl rfl)) nofun) (ReqA.offQueue (((hr i).takeWrite hq hw).res _))⟩
  | wlFail hw => exact ⟨nofun, fun j => (hr j).wl (fun _ => .inr (.inl rfl)) nofun⟩
  | wlSeeDone hw hd => exact ⟨nofun, fun j => (hr j).wl (fun _ => .inr (.inl rfl)) nofun⟩
  | wlSetErr hw => exact ⟨nofun, fun j => (hr j).wl (fun _ => .inr (.inr (.inl rfl))) nofun⟩
  | wlClose hw => exact ⟨fun _ => rfl, fun j => (hr j).wl (fun _ => .inr (.inr (.inr rfl))) nofun⟩
  | wlTakeAll hw =>
    refine ⟨fun _ => h1 (.inl hw), fun j => ?_⟩
    show ReqA .draining (if (s.r j).inTable = true then _ else _)
    by_cases ht : (s.r j).inTable = true
    · rw [if_pos ht]
      exact ReqA.offTable ((hr j).res _) _
    · rw [if_neg ht]
      exact { hr j with i4 := fun a => absurd a ht, i5 := fun _ _ _ => nofun }
  | wlDrainOne i hw hq => exact ⟨h1, forall_upd hr (ReqA.offQueue ((hr i).res _))⟩
  | wlDrainEnd hw hall =>
    refine ⟨fun _ => h1 (.inr (.inl hw)), fun j => ?_⟩
    exact { hr j with i4 := fun a b => (by have := (hr j).i4 a b; rw [hw] at this; simp at this),
                      i5 := fun a => (by rw [hall j] at a; cases a) }
  | close => exact ⟨fun _ => rfl, hr⟩
  | rdSetErr => exact ⟨h1, hr⟩
  | finish i v ht hv => exact ⟨h1, forall_upd hr (ReqA.offTable ((hr i).res _) _)⟩
  | refuse i v ht hv => exact ⟨h1, forall_upd hr (ReqA.offTable ((hr i).res _) _)⟩
  | timer i => exact ⟨h1, forall_upd hr (ReqA.offTable ((hr i).res _) _)⟩

theorem reachA {rv s} (h : Reach rv s) : InvA s := by
  induction h with
  | init => exact initA
  | step _ st ih => exact stepA ih st

/-! ## taken off the queue once, retryable only if never written or disclaimed by the server, one delivery -/

structure ReqB (q : Req) : Prop where
  b1 : q.pc = .start → q.inQ = false ∧ q.written = false ∧ q.result = none ∧ q.errBuf ≠ some .retryable
  b2 : q.inQ = true → q.written = false
  b3 : q.errBuf = some .retryable → (q.written = false ∨ q.disclaimed = true) ∧ q.inQ = false
  b4 : q.result = some .retryable → (q.written = false ∨ q.disclaimed = true) ∧ q.inQ = false
  b5 : q.reads = if q.pc = .taking ∨ q.pc = .got then 1 else 0
  b6 : q.disclaimed = true ∨ q.inTable = true → q.written = true

def InvB (s : S) : Prop := ∀ i, ReqB (s.r i)

namespace ReqB
variable {q : Req}

/-- `Write` resolving its own request: before the send nothing was written; after it only with an error that does
not read as "nothing was sent" -/
theorem toWaiting (h : ReqB q) (v : Val) (hp : q.pc = .start ∨ q.pc = .recheck) (hv : q.pc = .start ∨ v ≠ .retryable) :
    ReqB { res q v with pc := .waiting } := by
  have h5 := h.b5
  rcases res_cases q v with ⟨_, e⟩ | ⟨_, _, e⟩ <;> rw [e]
  · exact ⟨nofun, h.b2, h.b3, h.b4, by grind, h.b6⟩
  · exact ⟨nofun, h.b2, fun c => by have := h.b1; grind, h.b4, by grind, h.b6⟩

theorem enqueue (h : ReqB q) (hp : q.pc = .start) : ReqB { q with inQ := true, pc := .recheck } := by
  obtain ⟨hq, hw, hr, he⟩ := h.b1 hp
  have h5 := h.b5
  exact ⟨nofun, fun _ => hw, fun c => absurd c he, fun c => (by rw [hr] at c; cases c), by grind, h.b6⟩

theorem recheckN (h : ReqB q) (hp : q.pc = .recheck) : ReqB { q with pc := .waiting } :=
  ⟨nofun, h.b2, h.b3, h.b4, by have := h.b5; grind, h.b6⟩

theorem read (h : ReqB q) {v : Val} (hp : q.pc = .waiting) (he : q.errBuf = some v) :
    ReqB { q with pc := .taking, errBuf := none, result := some v, reads := q.reads + 1 } :=
  ⟨nofun, h.b2, nofun, fun c => h.b3 (he.trans c), by have := h.b5; grind, h.b6⟩

theorem takeBack (h : ReqB q) (hp : q.pc = .taking) : ReqB { q with pc := .got } :=
  ⟨nofun, h.b2, h.b3, h.b4, by have := h.b5; grind, h.b6⟩

/-- a request in the queue is unwritten and has no retryable value yet, so it may be written now -/
theorem takeWrite (h : ReqB q) (hq : q.inQ = true) : ReqB { q with inQ := false, inTable := true, written := true } :=
  have nq : q.inQ = false → False := fun c => absurd hq (Bool.eq_false_iff.mp c)
  ⟨fun p => (nq (h.b1 p).1).elim, nofun, fun c => (nq (h.b3 c).2).elim, fun c => (nq (h.b4 c).2).elim, h.b5,
   fun _ => rfl⟩

theorem skip (h : ReqB q) : ReqB { q with inQ := false } :=
  ⟨fun p => ⟨rfl, (h.b1 p).2⟩, nofun, fun c => ⟨(h.b3 c).1, rfl⟩, fun c => ⟨(h.b4 c).1, rfl⟩, h.b5, h.b6⟩

/-- a request resolved as it leaves the queue: with a retryable error only if it was still in the queue, that is, unwritten -/
theorem offQueue (h : ReqB q) (v : Val) (hv : v = .retryable → q.inQ = true) : ReqB { res q v with inQ := false } := by
  rcases res_cases q v with ⟨_, e⟩ | ⟨_, _, e⟩ <;> rw [e]
  · exact h.skip
  · refine ⟨fun p => ⟨rfl, (h.b1 p).2.1, (h.b1 p).2.2.1, fun c => ?_⟩, nofun, fun c => ⟨.inl (h.b2 (hv ?_)), rfl⟩,
      fun c => ⟨(h.b4 c).1, rfl⟩, h.b5, h.b6⟩
    · have := (h.b1 p).1; grind
    · cases c; rfl

theorem offTable (h : ReqB q) (v : Val) (hv : v ≠ .retryable) : ReqB { res q v with inTable := false } := by
  have h6 : q.disclaimed = true ∨ false = true → q.written = true := fun c => h.b6 (c.imp_right nofun)
  rcases res_cases q v with ⟨_, e⟩ | ⟨_, _, e⟩ <;> rw [e]
  · exact ⟨h.b1, h.b2, h.b3, h.b4, h.b5, h6⟩
  · exact ⟨fun p => ⟨(h.b1 p).1, (h.b1 p).2.1, (h.b1 p).2.2.1, by grind⟩, h.b2, by grind, h.b4, h.b5, h6⟩

/-- a request in the table has been written, so it is not in the queue, and now it is disclaimed: any value will do -/
theorem refuse (h : ReqB q) (v : Val) (ht : q.inTable = true) :
    ReqB { res q v with inTable := false, disclaimed := true } := by
  have hw := h.b6 (.inr ht)
  have hq : q.inQ = false := by have := h.b2; grind
  have hp : q.pc ≠ .start := fun p => by have := (h.b1 p).2.1; grind
  have h2 : q.inQ = true → q.written = false := h.b2
  rcases res_cases q v with ⟨_, e⟩ | ⟨_, _, e⟩ <;> rw [e] <;>
    exact ⟨fun p => absurd p hp, h2, fun _ => ⟨.inr rfl, hq⟩, fun _ => ⟨.inr rfl, hq⟩, h.b5, fun _ => hw⟩

end ReqB

theorem initB : InvB init :=
  fun _ => ⟨fun _ => ⟨rfl, rfl, rfl, nofun⟩, nofun, nofun, nofun, rfl, by simp [init]⟩

/-- all that is asked of `Write`'s second resolve is that its value is not a retryable one -/
theorem stepB {rv s a s'} (hrv : ∀ s, rv s ≠ .retryable) (h : InvB s) (st : Step rv s a s') : InvB s' := by
  cases st with
  | seeDone i hpc hd => exact forall_upd h ((h i).toWaiting _ (.inl hpc) (.inl hpc))
  | enqueue i hpc => exact forall_upd h ((h i).enqueue hpc)
  | recheckD i hpc hd => exact forall_upd h ((h i).toWaiting _ (.inr hpc) (.inr (hrv s)))
  | recheckN i hpc hd => exact forall_upd h ((h i).recheckN hpc)
  | read i v hpc he => exact forall_upd h ((h i).read hpc he)
  | takeBack i hpc => exact forall_upd h ((h i).takeBack hpc)
  | wlTakeWrite i hw hq => exact forall_upd h ((h i).takeWrite hq)
  | wlTakeReject i hw hq => exact forall_upd h ((h i).offQueue _ fun _ => hq)
  | wlTakeSkip i hw hq hp => exact forall_upd h (h i).skip
  | wlWriteFail i hw hq =>
    exact forall_upd (g := fun q => { res q .fatal with inQ := false }) h ((h i).offQueue .fatal nofun)
  | wlBodyFail i hw hq =>
    exact forall_upd
      (g := fun q => { res { q with inQ := false, inTable := true, written := true } .fatal with inQ := false })
      h (((h i).takeWrite hq).offQueue .fatal nofun)
  | wlFail hw => exact h
  | wlSeeDone hw hd => exact h
  | wlSetErr hw => exact h
  | wlClose hw => exact h
  | wlTakeAll hw =>
    intro j
    show ReqB (if (s.r j).inTable = true then _ else _)
    by_cases ht : (s.r j).inTable = true
    · rw [if_pos ht]
      exact (h j).offTable .fatal nofun
    · rw [if_neg ht]
      exact h j
  | wlDrainOne i hw hq => exact forall_upd h ((h i).offQueue .fatal nofun)
  | wlDrainEnd hw hall => exact h
  | close => exact h
  | rdSetErr => exact h
  | finish i v ht hv => exact forall_upd h ((h i).offTable v hv)
  | refuse i v ht hv => exact forall_upd h ((h i).refuse v ht)
  | timer i => exact forall_upd h ((h i).offTable .fatal nofun)

theorem reachB {rv s} (hrv : ∀ s, rv s ≠ .retryable) (h : Reach rv s) : InvB s := by
  induction h with
  | init => exact initB
  | step _ st ih => exact stepB hrv ih st

theorem recheckFixed_ne (s : S) : recheckFixed s ≠ .retryable := nofun

end H2.Client.Inter
