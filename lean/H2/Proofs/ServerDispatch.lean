import H2.Proofs.ServerExt
/-!
Lemmas about the full server model used by C01: where a request is handed to the handler, and that the
response starts with exactly one HEADERS frame.
-/
namespace H2.Server

/-- the handler is started only for a stream whose request is complete (END_STREAM seen: half-closed; header
block finished) and which has not been handed over before; that stream is marked, so it cannot be handed over
again -/
theorem dispatchOrSend_starts (r : R) (uid : Nat) (st : Strm) :
    (Complete st ∧ cnt .dispatch (dispatchOrSend r uid st).out = cnt .dispatch r.out + 1) ∨
    (¬Complete st ∧ cnt .dispatch (dispatchOrSend r uid st).out = cnt .dispatch r.out) := by
  refine dispatchOrSend_outcomes (P := fun x => (Complete st ∧ cnt .dispatch x.out = cnt .dispatch r.out + 1) ∨
    (¬Complete st ∧ cnt .dispatch x.out = cnt .dispatch r.out)) r uid st
    (fun hn => .inr ⟨fun hc => hn ⟨hc.1, hc.2.1, hc.2.2.1⟩, rfl⟩)
    (fun _ _ _ hcl hne => .inr ⟨fun hc => hne (hc.2.2.2 hcl), ?_⟩)
    (fun hc => .inl ⟨hc, ?_⟩)
    (fun hr _ => .inr ⟨fun hc => absurd (hc.2.2.1 ▸ hr) nofun, ?_⟩)
  · rw [updStrm_out, (writeReset_emits ..).cnt, updStrm_out]
  · show cnt .dispatch (_ ++ [_]) = _
    rw [cnt_append, updStrm_out]
    rfl
  · rw [← (sendData_emits r uid).cnt (k := .dispatch)]
    exact ite_ind (P := fun x : R => cnt .dispatch x.out = _) (fun _ => by rw [updStrm_out]) fun _ => rfl

/-- a stream that has been handed over is never handed over again by this step -/
theorem no_second_dispatch (r : R) (uid : Nat) (st : Strm) (h : st.responded = true) :
    cnt .dispatch (dispatchOrSend r uid st).out = cnt .dispatch r.out :=
  (dispatchOrSend_starts r uid st).elim (fun hc => absurd (hc.1.2.2.1 ▸ h) nofun) (·.2)

/-- nothing but `dispatchOrSend` starts a handler: the other pieces of the loop body never emit a dispatch -/
theorem others_never_dispatch (r : R) (uid : Nat) (fr : Frame.Frame) (wc : Bool) (e : Option SErr) :
    cnt .dispatch (unknownStream r fr wc).1.out = cnt .dispatch r.out ∧
    cnt .dispatch (headersPrelude r fr).1.out = cnt .dispatch r.out ∧
    cnt .dispatch (handleFrame r uid fr).1.out = cnt .dispatch r.out ∧
    cnt .dispatch (onFrameError r uid e).1.out = cnt .dispatch r.out ∧
    cnt .dispatch (flushStreams r).out = cnt .dispatch r.out :=
  ⟨(unknownStream_emits ..).cnt, (headersPrelude_emits ..).cnt, (handleFrame_emits ..).cnt, (onFrameError_emits ..).cnt,
   (flushStreams_emits _).cnt⟩

/-- a handler's completion is answered with exactly one HEADERS frame (when the stream is still there); what does not fit
into it follows in CONTINUATION frames (`writeHeaderBlock`) -/
theorem finishRequest_headers (r : R) (uid : Nat) (resp : Resp) (st : Strm) (h : r.getStrm uid = some st) :
    cnt .headers (finishRequest r uid resp).1.out = cnt .headers r.out + 1 := by
  have hh : ∀ st resp hb, cnt .headers (responseHeaders r st resp hb).out = cnt .headers r.out + 1 := fun st resp hb =>
    responseHeaders_cases (P := fun x => cnt .headers x.out = cnt .headers r.out + 1) r st resp hb fun _ _ _ _ _ => by
      rw [emits_out, cnt_append, cnt_blockOuts]
      rfl
  exact finishRequest_outcomes (P := fun x => cnt .headers x.1.out = cnt .headers r.out + 1) r uid resp
    (fun hn => by rw [h] at hn; cases hn) (fun _ _ => hh _ _ _)
    (fun _ _ => by rw [(sendData_emits ..).cnt, updStrm_out]; exact hh _ _ _)

end H2.Server
