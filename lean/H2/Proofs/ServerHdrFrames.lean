import H2.Proofs.ServerOnce
/-!
# The frames of a response header block (property C18, SETTINGS_MAX_FRAME_SIZE; finding F33 repaired)

`writeHeaderBlock` (headers.go) is `cutBlock` + `blockOuts` in the full server model: the encoder's block is cut into
fragments of at most `maxDataFrameSize` = 16384 octets, the first goes out in the HEADERS frame, the others in
CONTINUATION frames.

* the fragments are a partition of the block (`cutBlock_whole`), none longer than the maximum (`cutBlock_le`), and only
  the first can be empty (`cutRest_ne`);
* `fragLen` projects the payload length out of HEADERS and CONTINUATION outputs; `fm fragLen` of the frames of a block is
  the list of its fragment lengths (`fm_fragLen_blockOuts`);
* run level, in the preservation style of `ServerOnce`: every function of the model other than `responseHeaders` adds
  nothing to `fm fragLen`, so every HEADERS/CONTINUATION output of every run carries at most 16384 octets
  (`run_frags_le`).
-/
namespace H2.Server

/-! ## the cut -/

theorem cutRest_le (max fuel : Nat) (b : Bytes) : ∀ f ∈ cutRest max fuel b, f.length ≤ max := by
  induction fuel generalizing b with
  | zero => intro f h; simp [cutRest] at h
  | succ n ih =>
    intro f h
    simp only [cutRest] at h
    split at h
    · cases h
    · rcases List.mem_cons.mp h with rfl | h
      · simp only [List.length_take]; exact Nat.min_le_left _ _
      · exact ih _ f h

/-- the CONTINUATION loop never writes an empty frame -/
theorem cutRest_ne (max : Nat) (hm : 0 < max) (fuel : Nat) (b : Bytes) : ∀ f ∈ cutRest max fuel b, f ≠ [] := by
  induction fuel generalizing b with
  | zero => intro f h; simp [cutRest] at h
  | succ n ih =>
    intro f h
    simp only [cutRest] at h
    split at h
    · cases h
    · rename_i hb
      rcases List.mem_cons.mp h with rfl | h
      · cases b with
        | nil => simp at hb
        | cons c cs =>
          cases max with
          | zero => omega
          | succ m => simp
      · exact ih _ f h

theorem cutRest_flatten (max : Nat) (hm : 0 < max) (fuel : Nat) (b : Bytes) (hf : b.length ≤ fuel) :
    (cutRest max fuel b).flatten = b := by
  induction fuel generalizing b with
  | zero =>
    have : b = [] := List.eq_nil_of_length_eq_zero (by omega)
    subst this; rfl
  | succ n ih =>
    simp only [cutRest]
    split
    · rename_i hb
      have : b = [] := by simpa using hb
      subst this; rfl
    · rename_i hb
      have hne : b ≠ [] := by simpa using hb
      have hl : 0 < b.length := List.length_pos_iff.mpr hne
      rw [List.flatten_cons, ih (b.drop max) (by simp only [List.length_drop]; omega), List.take_append_drop]

/-- the fragments written one after the other are the encoder's octets: nothing lost, added or reordered -/
theorem cutBlock_whole (max : Nat) (hm : 0 < max) (b : Bytes) : (cutBlock max b).flatten = b := by
  simp only [cutBlock, List.flatten_cons]
  rw [cutRest_flatten max hm _ _ (by simp only [List.length_drop]; omega), List.take_append_drop]

theorem cutBlock_le (max : Nat) (b : Bytes) : ∀ f ∈ cutBlock max b, f.length ≤ max := by
  intro f h
  simp only [cutBlock] at h
  rcases List.mem_cons.mp h with rfl | h
  · simp only [List.length_take]; exact Nat.min_le_left _ _
  · exact cutRest_le _ _ _ f h

/-- the lengths of the pieces the `n` octets after the first `max` are written in -/
def restLens (max : Nat) : Nat → Nat → List Nat
  | 0, _ => []
  | fuel + 1, n => if n = 0 then [] else min max n :: restLens max fuel (n - max)

theorem cutRest_lens (max fuel : Nat) (b : Bytes) : (cutRest max fuel b).map List.length = restLens max fuel b.length := by
  induction fuel generalizing b with
  | zero => rfl
  | succ n ih =>
    simp only [cutRest, restLens]
    cases b with
    | nil => simp
    | cons c cs => simp [ih, List.length_take, List.length_drop]

/-- the frame sizes depend on the length of the block alone: `max`, `max`, …, and what is left -/
theorem cutBlock_lens (max : Nat) (b : Bytes) :
    (cutBlock max b).map List.length = min max b.length :: restLens max b.length (b.length - max) := by
  simp [cutBlock, cutRest_lens, List.length_take, List.length_drop]

/-! ## the payload lengths of the header-block frames in an output list -/

def fragLen : Out → Option Nat
  | .headers _ _ _ len _ _ => some len
  | .cont _ _ len _ _ => some len
  | _ => none

theorem fragLen_only : Only fragLen [.headers, .cont] := by
  intro o h; cases o <;> simp_all [Out.kind, fragLen]

theorem fm_fragLen_contOuts (sid : Nat) (fs : List (Bytes × Bytes)) (err : Bool) (frags : List Bytes) :
    fm fragLen (contOuts sid fs err frags) = frags.map List.length := by
  induction frags with
  | nil => rfl
  | cons f rest ih => simp [contOuts, fm_cons', fragLen, ih]

theorem fm_fragLen_blockOuts (sid : Nat) (es : Bool) (fs : List (Bytes × Bytes)) (err : Bool) (frags : List Bytes) :
    fm fragLen (blockOuts sid es fs err frags) = frags.map List.length := by
  cases frags with
  | nil => rfl
  | cons f rest => simp [blockOuts, fm_cons', fragLen, fm_fragLen_contOuts]

/-- the block `responseHeaders` encodes -/
def responseBlock (r : R) (resp : Resp) : Bytes := (encodeFields r.s.enc (responseFields resp)).2

theorem responseHeaders_block (r : R) (st : Strm) (resp : Resp) (hb : Bool) :
    ∃ fs e, (responseHeaders r st resp hb).out =
      r.out ++ blockOuts st.id (!hb) fs e (cutBlock Gen.c_maxDataFrameSize (responseBlock r resp)) :=
  responseHeaders_cases (P := fun x => ∃ fs e, x.out =
      r.out ++ blockOuts st.id (!hb) fs e (cutBlock Gen.c_maxDataFrameSize (responseBlock r resp))) r st resp hb
    fun _ _ _ _ _ => ⟨_, _, rfl⟩

theorem responseHeaders_frags (r : R) (st : Strm) (resp : Resp) (hb : Bool) :
    fm fragLen (responseHeaders r st resp hb).out =
      fm fragLen r.out ++ (cutBlock Gen.c_maxDataFrameSize (responseBlock r resp)).map List.length := by
  obtain ⟨fs, e, h⟩ := responseHeaders_block r st resp hb
  rw [h, fm_append, fm_fragLen_blockOuts]

/-! ## run level -/

/-- every header-block frame written so far is within the size every peer accepts -/
def FragsOK (l : List Out) : Prop := ∀ n ∈ fm fragLen l, n ≤ Gen.c_maxDataFrameSize

theorem FragsOK.nil : FragsOK [] := by intro n h; cases h

theorem FragsOK.append {a b : List Out} (ha : FragsOK a) (hb : FragsOK b) : FragsOK (a ++ b) := by
  intro n h
  rw [fm_append] at h
  rcases List.mem_append.mp h with h | h
  · exact ha n h
  · exact hb n h

theorem responseHeaders_fragsOK (r : R) (st : Strm) (resp : Resp) (hb : Bool) (h : FragsOK r.out) :
    FragsOK (responseHeaders r st resp hb).out := by
  intro n hn
  rw [responseHeaders_frags] at hn
  rcases List.mem_append.mp hn with hn | hn
  · exact h n hn
  · obtain ⟨f, hf, rfl⟩ := List.mem_map.mp hn
    exact cutBlock_le _ _ f hf

theorem fragsOK_of_fm {a b : List Out} (h : fm fragLen a = fm fragLen b) (hb : FragsOK b) : FragsOK a := by
  intro n hn; rw [h] at hn; exact hb n hn

theorem finishRequest_fragsOK (r : R) (uid : Nat) (resp : Resp) (h : FragsOK r.out) :
    FragsOK (finishRequest r uid resp).1.out := by
  refine finishRequest_outcomes (P := fun x => FragsOK x.1.out) r uid resp (fun _ => h)
    (fun st _ => responseHeaders_fragsOK r st (finalResp resp) false h) (fun st _ => ?_)
  refine fragsOK_of_fm ((sendData_emits _ uid).fm fragLen_only) ?_
  rw [updStrm_out]
  exact responseHeaders_fragsOK r st (finalResp resp) true h

theorem slHandlerDone_fragsOK (r : R) (sid : Nat) (resp : Resp) (h : FragsOK r.out) :
    FragsOK (slHandlerDone r sid resp).out := by
  have h0 : ∀ r0, (r0 = r ∨ r0 = r.emit .handlerPanicLogged) → FragsOK r0.out := by
    rintro r0 (rfl | rfl)
    · exact h
    · exact fragsOK_of_fm (by simp [fragLen]) h
  refine slHandlerDone_cases (P := fun x => FragsOK x.out) r sid resp h0 (fun r0 st hr _ => ?_) (fun r0 st hr _ b => ?_)
  · rw [releaseStream_out]; exact h0 r0 hr
  · -- after `finishRequest`, `closeDone` and `stopLoop` write nothing
    have h1 := finishRequest_fragsOK (r0.updStrm st.uid fun s => { s with handlerRunning := false }) st.uid resp (h0 r0 hr)
    have h2 : FragsOK (answered r0 st.uid resp).out :=
      ite_ind (P := fun x : R => FragsOK x.out) (fun _ => by rw [closeDone_out]; exact h1) (fun _ => h1)
    cases b
    · exact h2
    · exact h2

theorem stepR_fragsOK (s : Srv) (ev : Event) : FragsOK (stepR s ev).out := by
  cases ev with
  | done sid resp =>
    apply fragsOK_of_fm (b := (slHandlerDone { s := s } sid resp).out)
    · simp [stepR, (settle_emits _).fm fragLen_only]
    · exact slHandlerDone_fragsOK _ _ _ FragsOK.nil
  | bytes b =>
    have := (stepR_input_kinds s (.bytes b) (by intro _ _ h; cases h)).fm fragLen_only
    intro n hn; rw [this] at hn; cases hn
  | cut =>
    have := (stepR_input_kinds s .cut (by intro _ _ h; cases h)).fm fragLen_only
    intro n hn; rw [this] at hn; cases hn
  | idle =>
    have := (stepR_input_kinds s .idle (by intro _ _ h; cases h)).fm fragLen_only
    intro n hn; rw [this] at hn; cases hn

theorem runFrom_fragsOK (s : Srv) (evs : List Event) : FragsOK (runFrom s evs).2 := by
  induction evs generalizing s with
  | nil => exact FragsOK.nil
  | cons ev evs ih => exact FragsOK.append (stepR_fragsOK s ev) (ih _)

theorem run_frags_le (cfg : Cfg) (evs : List Event) : FragsOK (runOuts cfg evs) := runFrom_fragsOK _ evs

end H2.Server
