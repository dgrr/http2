import H2.Proofs.ServerShape
/-!
# What each function of the full server model can emit

`Emits q r r'`: the outputs of `r'` are those of `r` followed by outputs that all satisfy `q`. For every function
of `H2/Server/Model.lean` one lemma `f_emits` says which kinds of output it can add (`ofKinds`), and for the stream
loop's frame handling also that a dispatch record it adds is the request view of a complete stream (`SlOut`). Counts
(`cnt k`) and projections (`fm p`, with `Only p ks`: `p` looks at the kinds `ks` only) of the output list that do not
look at those kinds are unchanged: `Emits.cnt`, `Emits.fm`. The step-level statements ("exactly one SETTINGS ACK per
SETTINGS frame", "a stream error never produces GOAWAY", …) combine these.
-/
namespace H2.Server

inductive Kind where
  | ack | settings | wu | ping | headers | cont | data | rst | goAway | dispatch | panicLogged | returned
deriving DecidableEq, Repr

def Out.kind : Out → Kind
  | .settingsAck => .ack
  | .settings _ => .settings
  | .wu .. => .wu
  | .ping .. => .ping
  | .headers .. => .headers
  | .cont .. => .cont
  | .data .. => .data
  | .rst .. => .rst
  | .goAway .. => .goAway
  | .dispatch .. => .dispatch
  | .handlerPanicLogged => .panicLogged
  | .returned => .returned

def cnt (k : Kind) (l : List Out) : Nat := (l.filter fun o => o.kind == k).length

@[simp] theorem cnt_nil (k : Kind) : cnt k [] = 0 := rfl
@[simp] theorem cnt_append (k : Kind) (a b : List Out) : cnt k (a ++ b) = cnt k a + cnt k b := by
  simp [cnt, List.filter_append]
@[simp] theorem cnt_single (k : Kind) (o : Out) : cnt k [o] = if o.kind = k then 1 else 0 := by
  simp only [cnt, List.filter_cons, List.filter_nil]
  by_cases h : o.kind = k <;> simp [h]

theorem cnt_eq_zero {k : Kind} {l : List Out} (h : ∀ o ∈ l, o.kind ≠ k) : cnt k l = 0 := by
  simp only [cnt, List.length_eq_zero_iff, List.filter_eq_nil_iff]
  intro o ho
  simpa using h o ho

def fm {α : Type} (p : Out → Option α) (l : List Out) : List α := l.filterMap p

@[simp] theorem fm_nil {α : Type} (p : Out → Option α) : fm p [] = [] := rfl
@[simp] theorem fm_append {α : Type} (p : Out → Option α) (a b : List Out) : fm p (a ++ b) = fm p a ++ fm p b := by
  simp [fm, List.filterMap_append]
theorem fm_cons' {α : Type} (p : Out → Option α) (o : Out) (l : List Out) : fm p (o :: l) = (p o).toList ++ fm p l := by
  simp only [fm, List.filterMap_cons]
  cases p o <;> rfl
@[simp] theorem fm_single {α : Type} (p : Out → Option α) (o : Out) : fm p [o] = (p o).toList := by
  simp only [fm, List.filterMap_cons, List.filterMap_nil]
  cases p o <;> rfl

theorem fm_eq_nil {α : Type} (p : Out → Option α) (l : List Out) : fm p l = [] ↔ ∀ o ∈ l, p o = none := by
  simp [fm, List.filterMap_eq_nil_iff]

def Only {α : Type} (p : Out → Option α) (ks : List Kind) : Prop := ∀ o, o.kind ∉ ks → p o = none

section
variable {α : Type} {p : Out → Option α} {ks : List Kind}
theorem Only.ack (h : Only p ks) (hk : Kind.ack ∉ ks) : p .settingsAck = none := h _ hk
theorem Only.settings (h : Only p ks) (hk : Kind.settings ∉ ks) (a) : p (.settings a) = none := h _ hk
theorem Only.wu (h : Only p ks) (hk : Kind.wu ∉ ks) (a b) : p (.wu a b) = none := h _ hk
theorem Only.ping (h : Only p ks) (hk : Kind.ping ∉ ks) (a b) : p (.ping a b) = none := h _ hk
theorem Only.headers (h : Only p ks) (hk : Kind.headers ∉ ks) (a b c d e f) : p (.headers a b c d e f) = none := h _ hk
theorem Only.cont (h : Only p ks) (hk : Kind.cont ∉ ks) (a b c d e) : p (.cont a b c d e) = none := h _ hk
theorem Only.data (h : Only p ks) (hk : Kind.data ∉ ks) (a b c d) : p (.data a b c d) = none := h _ hk
theorem Only.rst (h : Only p ks) (hk : Kind.rst ∉ ks) (a b) : p (.rst a b) = none := h _ hk
theorem Only.goAway (h : Only p ks) (hk : Kind.goAway ∉ ks) (a b c) : p (.goAway a b c) = none := h _ hk
theorem Only.dispatch (h : Only p ks) (hk : Kind.dispatch ∉ ks) (a b c d e f) : p (.dispatch a b c d e f) = none := h _ hk
theorem Only.panicLogged (h : Only p ks) (hk : Kind.panicLogged ∉ ks) : p .handlerPanicLogged = none := h _ hk
theorem Only.returned (h : Only p ks) (hk : Kind.returned ∉ ks) : p .returned = none := h _ hk
end

/-! ## `Emits` -/

def Emits (q : Out → Prop) (r r' : R) : Prop := ∃ os, r'.out = r.out ++ os ∧ ∀ o ∈ os, q o

def ofKinds (ks : List Kind) (o : Out) : Prop := o.kind ∈ ks

namespace Emits
variable {q q' : Out → Prop} {r r' r'' : R}

theorem of_out (h : r'.out = r.out) : Emits q r r' := ⟨[], by simp [h], by simp⟩

protected theorem rfl : Emits q r r := of_out rfl

theorem trans (h : Emits q r r') (h' : Emits q r' r'') : Emits q r r'' := by
  obtain ⟨a, ha, qa⟩ := h
  obtain ⟨b, hb, qb⟩ := h'
  exact ⟨a ++ b, by rw [hb, ha, List.append_assoc], fun o ho => (List.mem_append.mp ho).elim (qa o) (qb o)⟩

theorem mono (h : Emits q r r') (hq : ∀ o, q o → q' o) : Emits q' r r' := by
  obtain ⟨a, ha, qa⟩ := h
  exact ⟨a, ha, fun o ho => hq o (qa o ho)⟩

theorem sub {ks ks' : List Kind} (h : Emits (ofKinds ks) r r') (hs : ∀ k ∈ ks, k ∈ ks' := by decide) :
    Emits (ofKinds ks') r r' := h.mono fun o ho => hs o.kind ho

theorem emit {o : Out} (ho : q o) : Emits q r (r.emit o) :=
  ⟨[o], rfl, by simpa using ho⟩

theorem cnt_eq (h : Emits q r r') {k : Kind} (hk : ∀ o, q o → o.kind ≠ k) : cnt k r'.out = cnt k r.out := by
  obtain ⟨a, ha, qa⟩ := h
  rw [ha, cnt_append, cnt_eq_zero fun o ho => hk o (qa o ho), Nat.add_zero]

theorem fm_eq (h : Emits q r r') {α : Type} {p : Out → Option α} (hp : ∀ o, q o → p o = none) :
    fm p r'.out = fm p r.out := by
  obtain ⟨a, ha, qa⟩ := h
  rw [ha, fm_append, (fm_eq_nil p a).mpr fun o ho => hp o (qa o ho), List.append_nil]

theorem all {s : Srv} (h : Emits q { s := s } r') : ∀ o ∈ r'.out, q o := by
  obtain ⟨a, ha, qa⟩ := h
  rw [ha]
  exact qa

theorem cnt {ks : List Kind} (h : Emits (ofKinds ks) r r') {k : Kind} (hk : k ∉ ks := by decide) :
    cnt k r'.out = cnt k r.out :=
  h.cnt_eq fun _ ho e => hk (e ▸ ho)

theorem fm {ks ks' : List Kind} (h : Emits (ofKinds ks) r r') {α : Type} {p : Out → Option α} (ho : Only p ks')
    (hd : ∀ k ∈ ks, k ∉ ks' := by decide) : fm p r'.out = fm p r.out :=
  h.fm_eq fun o hk => ho o (hd o.kind hk)

end Emits

/-! ## outputs of the small pieces -/

@[simp] theorem updStrm_out (r : R) (uid : Nat) (f : Strm → Strm) : (r.updStrm uid f).out = r.out := rfl
@[simp] theorem emit_out (r : R) (o : Out) : (r.emit o).out = r.out ++ [o] := rfl
@[simp] theorem emits_out (r : R) (os : List Out) : (r.emits os).out = r.out ++ os := rfl
@[simp] theorem stopLoop_out (r : R) : (stopLoop r).out = r.out := rfl
@[simp] theorem rlStop_out (r : R) : (rlStop r).out = r.out := rfl
@[simp] theorem closeBody_out (r : R) (uid : Nat) : (closeBody r uid).out = r.out := rfl
@[simp] theorem applyTableSize_out (r : R) (st : Frame.SettingsVal) : (applyTableSize r st).out = r.out := rfl

@[simp] theorem writeReset_out (r : R) (sid code : Nat) : (writeReset r sid code).out = r.out ++ [.rst sid code] := rfl

@[simp] theorem writeGoAway_out (r : R) (sid code : Nat) (tag : String) :
    (writeGoAway r sid code tag).out =
      r.out ++ [.goAway ((if sid > r.s.lastID then sid else r.s.lastID) % 2 ^ 31) code tag] := by
  rw [writeGoAway_eq]; rfl

@[simp] theorem releaseStream_out (r : R) (st : Strm) : (releaseStream r st).out = r.out :=
  releaseStream_cases (P := fun x => x.out = r.out) r st (fun _ => rfl) fun _ => rfl

@[simp] theorem closeStream_out (r : R) (uid : Nat) : (closeStream r uid).out = r.out :=
  closeStream_cases (P := fun x => x.out = r.out) r uid (fun _ => rfl) fun _ _ _ _ _ => rfl

theorem closeDone_out (r : R) (uid : Nat) : (closeDone r uid).out = r.out := by
  simp [closeDone]

@[simp] theorem closeIfDone_out (r : R) : (closeIfDone r).out = r.out :=
  closeIfDone_cases (P := fun x => x.out = r.out) r (fun _ => rfl) rfl

@[simp] theorem closeIfClosed_out (r : R) (uid : Nat) : (closeIfClosed r uid).out = r.out :=
  closeIfClosed_cases (P := fun x => x.out = r.out) r uid (fun _ => rfl) fun _ _ _ => closeStream_out r uid

@[simp] theorem closeIfClosing_out (r : R) : (closeIfClosing r).out = r.out :=
  closeIfClosing_cases (P := fun x => x.out = r.out) r (fun _ _ => rfl) rfl

theorem writeReset_emits (r : R) (sid code : Nat) : Emits (ofKinds [.rst]) r (writeReset r sid code) :=
  ⟨_, writeReset_out r sid code, by simp [ofKinds, Out.kind]⟩

theorem writeGoAway_emits (r : R) (sid code : Nat) (tag : String) : Emits (ofKinds [.goAway]) r (writeGoAway r sid code tag) :=
  ⟨_, writeGoAway_out r sid code tag, by simp [ofKinds, Out.kind]⟩

/-! ## header blocks on the wire -/

theorem emits_eq_foldl (r : R) (os : List Out) : r.emits os = os.foldl R.emit r := by
  induction os generalizing r with
  | nil => simp [R.emits]
  | cons o os ih => rw [List.foldl_cons, ← ih]; simp [R.emits, R.emit, List.append_assoc]

theorem emits_inv (P : R → Prop) (Q : Out → Prop) (hstep : ∀ r o, P r → Q o → P (r.emit o)) (r : R) (os : List Out)
    (hq : ∀ o ∈ os, Q o) (h : P r) : P (r.emits os) := by
  rw [emits_eq_foldl]
  induction os generalizing r with
  | nil => exact h
  | cons o os ih =>
    exact ih (r.emit o) (fun x hx => hq x (List.mem_cons_of_mem _ hx)) (hstep r o h (hq o List.mem_cons_self))

/-- a frame of a header block: HEADERS or CONTINUATION -/
def Out.isBlock : Out → Bool
  | .headers .. => true
  | .cont .. => true
  | _ => false

theorem contOuts_isBlock (sid : Nat) (fs : List (Bytes × Bytes)) (err : Bool) (frags : List Bytes) :
    ∀ o ∈ contOuts sid fs err frags, o.isBlock = true := by
  induction frags with
  | nil => intro o h; cases h
  | cons f rest ih =>
    intro o h
    simp only [contOuts, List.mem_cons] at h
    rcases h with rfl | h
    · rfl
    · exact ih o h

theorem blockOuts_isBlock (sid : Nat) (es : Bool) (fs : List (Bytes × Bytes)) (err : Bool) (frags : List Bytes) :
    ∀ o ∈ blockOuts sid es fs err frags, o.isBlock = true := by
  cases frags with
  | nil => intro o h; cases h
  | cons f rest =>
    intro o h
    simp only [blockOuts, List.mem_cons] at h
    rcases h with rfl | h
    · rfl
    · exact contOuts_isBlock sid fs err rest o h

theorem cutRest_nil (max fuel : Nat) : cutRest max fuel [] = [] := by
  cases fuel <;> simp [cutRest]

theorem cutBlock_small (max : Nat) (b : Bytes) (h : b.length ≤ max) : cutBlock max b = [b] := by
  simp [cutBlock, List.take_of_length_le h, List.drop_of_length_le h, cutRest_nil]

theorem blockOuts_small (sid : Nat) (es : Bool) (fs : List (Bytes × Bytes)) (err : Bool) (max : Nat) (b : Bytes)
    (h : b.length ≤ max) : blockOuts sid es fs err (cutBlock max b) = [.headers sid es true b.length fs err] := by
  simp [cutBlock_small max b h, blockOuts, contOuts]

theorem contOuts_kind (sid : Nat) (fs : List (Bytes × Bytes)) (err : Bool) (frags : List Bytes) :
    ∀ o ∈ contOuts sid fs err frags, o.kind = .cont := by
  induction frags with
  | nil => intro o h; cases h
  | cons f rest ih =>
    intro o h
    simp only [contOuts, List.mem_cons] at h
    rcases h with rfl | h
    · rfl
    · exact ih o h

theorem fm_contOuts {α : Type} (p : Out → Option α) (ks : List Kind) (ho : Only p ks) (hk : Kind.cont ∉ ks) (sid : Nat)
    (fs : List (Bytes × Bytes)) (err : Bool) (frags : List Bytes) : fm p (contOuts sid fs err frags) = [] :=
  (fm_eq_nil p _).mpr fun o h => ho o (contOuts_kind sid fs err frags o h ▸ hk)

theorem blockOuts_cut (sid : Nat) (es : Bool) (fs : List (Bytes × Bytes)) (err : Bool) (max : Nat) (b : Bytes) :
    ∃ eh len fs' e', blockOuts sid es fs err (cutBlock max b) =
      .headers sid es eh len fs' e' :: contOuts sid fs err (cutRest max b.length (b.drop max)) :=
  ⟨_, _, _, _, rfl⟩

theorem cnt_blockOuts (k : Kind) (sid : Nat) (es : Bool) (fs : List (Bytes × Bytes)) (err : Bool) (max : Nat) (b : Bytes) :
    cnt k (blockOuts sid es fs err (cutBlock max b)) =
      (if k = .headers then 1 else 0) + (if k = .cont then (cutRest max b.length (b.drop max)).length else 0) := by
  obtain ⟨eh, len, fs', e', h⟩ := blockOuts_cut sid es fs err max b
  rw [h, show (Out.headers sid es eh len fs' e' :: contOuts sid fs err (cutRest max b.length (b.drop max))) =
    [Out.headers sid es eh len fs' e'] ++ contOuts sid fs err (cutRest max b.length (b.drop max)) from rfl, cnt_append, cnt_single]
  have hk := contOuts_kind sid fs err (cutRest max b.length (b.drop max))
  by_cases hc : k = .cont
  · subst hc
    have hl : (contOuts sid fs err (cutRest max b.length (b.drop max))).length = (cutRest max b.length (b.drop max)).length := by
      generalize cutRest max b.length (b.drop max) = l
      induction l with
      | nil => rfl
      | cons f rest ih => simp [contOuts, ih]
    have h2 : cnt .cont (contOuts sid fs err (cutRest max b.length (b.drop max))) =
        (contOuts sid fs err (cutRest max b.length (b.drop max))).length := by
      simp only [cnt]
      rw [List.filter_eq_self.mpr]
      intro o ho
      simpa using hk o ho
    simp [Out.kind, h2, hl]
  · rw [cnt_eq_zero fun o ho e => hc (e.symm.trans (hk o ho))]
    by_cases hh : k = .headers
    · subst hh; simp [Out.kind]
    · simp [Out.kind, hh, hc, Ne.symm hh]

theorem blockOuts_kinds (sid : Nat) (es : Bool) (fs : List (Bytes × Bytes)) (err : Bool) (frags : List Bytes) :
    ∀ o ∈ blockOuts sid es fs err frags, ofKinds [.headers, .cont] o := by
  cases frags with
  | nil => intro o h; cases h
  | cons f rest =>
    intro o h
    simp only [blockOuts, List.mem_cons] at h
    rcases h with rfl | h
    · simp [ofKinds, Out.kind]
    · simp [ofKinds, contOuts_kind sid fs err rest o h]

/-! ## which kinds each function emits -/

theorem writeError_emits (r : R) (uid : Nat) (e : SErr) : Emits (ofKinds [.rst, .goAway]) r (writeError r uid e) :=
  writeError_cases r uid e (fun _ => .rfl)
    (fun _ _ _ _ _ => (writeGoAway_emits ..).sub.trans (.of_out rfl))
    (fun _ _ _ _ => (writeReset_emits ..).sub.trans (.of_out rfl))

theorem refill_emits (r : R) (uid : Nat) (st : Strm) : Emits (ofKinds [.rst, .data]) r (refill r uid st).1 :=
  refill_cases (P := fun x => Emits (ofKinds [.rst, .data]) r x.1) r uid st
    (fun _ => .rfl)
    (fun _ _ _ => (Emits.of_out (r' := r.updStrm uid _) rfl).trans (writeReset_emits ..).sub)
    (fun _ _ _ _ => (Emits.of_out (r' := r.updStrm uid _) rfl).trans (.emit (by simp [ofKinds, Out.kind])))
    (fun _ _ _ _ => .of_out rfl)

theorem sendFrame_emits (r : R) (uid : Nat) (st : Strm) (step : Nat) : Emits (ofKinds [.rst, .data]) r (sendFrame r uid st step).1 :=
  ⟨_, rfl, by simp [ofKinds, Out.kind]⟩

theorem sendDataFuel_emits (fuel : Nat) (r : R) (uid : Nat) : Emits (ofKinds [.rst, .data]) r (sendDataFuel fuel r uid).1 := by
  induction fuel generalizing r with
  | zero => exact .rfl
  | succ n ih =>
    have h1 := refill_emits r uid
    rw [sendDataFuel_succ]
    split
    · exact .rfl
    · rename_i st0 _
      have h2 := (h1 st0).trans (sendFrame_emits (refill r uid st0).1 uid (refill r uid st0).2.1
        (min (min Gen.c_maxDataFrameSize (availOf (refill r uid st0).1 (refill r uid st0).2.1).toNat) (refill r uid st0).2.1.pendLen))
      split
      · exact (h1 st0).trans (.of_out rfl)
      · split
        · exact h1 st0
        · split
          · exact h2.trans (.of_out rfl)
          · exact h2.trans (ih _)

theorem sendData_emits (r : R) (uid : Nat) : Emits (ofKinds [.rst, .data]) r (sendData r uid).1 :=
  sendData_cases (P := fun x => Emits (ofKinds [.rst, .data]) r x.1) r uid (fun _ => .rfl) fun _ => sendDataFuel_emits _ _ _

theorem flushOne_emits (acc : R × List Nat) (uid : Nat) : Emits (ofKinds [.rst, .data]) acc.1 (flushOne acc uid).1 :=
  flushOne_cases (P := fun x => Emits (ofKinds [.rst, .data]) acc.1 x.1) acc uid .rfl fun _ _ => sendData_emits _ _

theorem flushStreams_emits (r : R) : Emits (ofKinds [.rst, .data]) r (flushStreams r) :=
  flushStreams_ind (P := Emits (ofKinds [.rst, .data]) r) r (fun b a hb => hb.trans (flushOne_emits b a))
    (fun b a hb => hb.trans (.of_out (closeDone_out b a))) .rfl

theorem responseHeaders_emits (r : R) (st : Strm) (resp : Resp) (hb : Bool) :
    Emits (ofKinds [.headers, .cont]) r (responseHeaders r st resp hb) :=
  responseHeaders_cases r st resp hb fun _ _ _ _ _ => ⟨_, rfl, blockOuts_kinds _ _ _ _ _⟩

theorem finishRequest_emits (r : R) (uid : Nat) (resp : Resp) :
    Emits (ofKinds [.headers, .cont, .rst, .data]) r (finishRequest r uid resp).1 :=
  finishRequest_outcomes (P := fun x => Emits (ofKinds [.headers, .cont, .rst, .data]) r x.1) r uid resp
    (fun _ => .rfl) (fun st _ => (responseHeaders_emits r st (finalResp resp) false).sub)
    (fun st _ =>
      (((responseHeaders_emits r st (finalResp resp) true).sub).trans
        (.of_out (updStrm_out _ uid (bodyStart (finalResp resp))))).trans
        (sendData_emits ((responseHeaders r st (finalResp resp) true).updStrm uid (bodyStart (finalResp resp))) uid).sub)

theorem consumeConnWindow_emits (r : R) (n : Nat) : Emits (ofKinds [.wu]) r (consumeConnWindow r n) :=
  consumeConnWindow_cases r n (fun _ => .of_out rfl) fun _ _ => ⟨_, rfl, by simp [ofKinds, Out.kind]⟩

theorem consumeRecvWindow_emits (r : R) (st : Strm) (fr : Frame.Frame) (n : Nat) :
    Emits (ofKinds [.wu]) r (consumeRecvWindow r st fr n) :=
  consumeRecvWindow_cases r st fr n .rfl (consumeConnWindow_emits r n)
    ((Emits.emit (by simp [ofKinds, Out.kind])).trans (consumeConnWindow_emits _ n))

theorem handleFrame_emits (r : R) (uid : Nat) (fr : Frame.Frame) : Emits (ofKinds [.wu]) r (handleFrame r uid fr).1 :=
  handleFrame_cases (P := fun x => Emits (ofKinds [.wu]) r x.1) r uid fr
    (fun _ => .rfl) (fun _ _ _ => .of_out rfl) (fun _ _ _ _ => .of_out rfl)
    (fun _ _ _ => (Emits.of_out (r' := r.updStrm uid _) rfl).trans (consumeConnWindow_emits ..))
    (fun _ _ _ => (Emits.of_out (r' := (r.updStrm uid _).updStrm uid _) rfl).trans (consumeRecvWindow_emits ..))
    (fun _ _ _ => .of_out rfl)

theorem closeIdleBelow_emits (fuel : Nat) (r : R) (id : Nat) : Emits (ofKinds [.rst]) r (closeIdleBelow fuel r id) := by
  induction fuel generalizing r with
  | zero => exact .rfl
  | succ n ih =>
    rw [closeIdleBelow_succ]
    split
    · exact .rfl
    · split
      · refine Emits.trans (Emits.trans (.of_out ?_) (writeReset_emits ..)) (ih _)
        rw [closeStream_out]; rfl
      · exact .rfl

theorem unknownStream_emits (r : R) (fr : Frame.Frame) (wc : Bool) :
    Emits (ofKinds [.rst, .goAway, .wu]) r (unknownStream r fr wc).1 :=
  unknownStream_cases (P := fun x => Emits (ofKinds [.rst, .goAway, .wu]) r x.1) r fr wc
    .rfl (consumeConnWindow_emits ..).sub
    (fun _ _ => (writeGoAway_emits ..).sub.trans (.of_out (closeIfDone_out _)))
    (fun _ _ => (writeGoAway_emits ..).sub.trans (.of_out rfl))
    ((Emits.of_out (r' := { r with s := _ }) rfl).trans (writeReset_emits ..).sub)
    (fun _ _ _ _ _ => .of_out rfl)

theorem headersPrelude_emits (r : R) (fr : Frame.Frame) : Emits (ofKinds [.rst, .goAway]) r (headersPrelude r fr).1 :=
  headersPrelude_cases (P := fun x => Emits (ofKinds [.rst, .goAway]) r x.1) r fr .rfl
    (fun _ _ _ _ => writeError_emits ..) (fun _ => (closeIdleBelow_emits ..).sub)

theorem onFrameError_emits (r : R) (uid : Nat) (e : Option SErr) : Emits (ofKinds [.rst, .goAway]) r (onFrameError r uid e).1 :=
  onFrameError_cases (P := fun x => Emits (ofKinds [.rst, .goAway]) r x.1) r uid e (fun _ => .rfl)
    (fun _ _ _ => (writeError_emits ..).trans (.of_out rfl))

/-! ### the frame handling of the stream loop, with what it hands to the handler -/

/-- the fields `dispatchHandler` shows the handler besides method, path and authority -/
def viewFields (st : Strm) : List (Bytes × Bytes) :=
  (match st.contentType with | some v => [(Gen.s_StringContentType, v)] | none => []) ++
  (match st.userAgent with | some v => [(Gen.s_StringUserAgent, v)] | none => []) ++ st.fields

/-- the record `dispatchHandler` emits for a stream: a function of its id, its request view and its body digest -/
def reqView (st : Strm) : Out := .dispatch st.id st.method st.uri st.host (viewFields st) st.body

theorem dispatch_out (r : R) (uid : Nat) (st : Strm) : (dispatch r uid st).out = r.out ++ [reqView st] := rfl

def slKinds : List Kind := [.rst, .goAway, .wu, .data, .dispatch]

/-- what the stream loop can emit while handling a frame -/
def SlOut (o : Out) : Prop := ofKinds [.rst, .goAway, .wu, .data] o ∨ ∃ st, Complete st ∧ o = reqView st

theorem SlOut.kind {o : Out} (h : SlOut o) : ofKinds slKinds o := by
  rcases h with h | ⟨st, _, rfl⟩
  · simp only [ofKinds, slKinds, List.mem_cons, List.mem_nil_iff, or_false] at h ⊢
    rcases h with h | h | h | h <;> simp [h]
  · simp [ofKinds, slKinds, reqView, Out.kind]

theorem Emits.sl {ks : List Kind} {r r' : R} (h : Emits (ofKinds ks) r r')
    (hs : ∀ k ∈ ks, k ∈ [Kind.rst, .goAway, .wu, .data] := by decide) : Emits SlOut r r' :=
  h.mono fun o ho => .inl (hs o.kind ho)

theorem dispatchOrSend_emits (r : R) (uid : Nat) (st : Strm) : Emits SlOut r (dispatchOrSend r uid st) :=
  dispatchOrSend_cases r uid st .rfl
    (fun _ _ _ => ((Emits.of_out (r' := r.updStrm uid _) rfl).trans (writeReset_emits ..).sl).trans (.of_out rfl))
    (fun hc => ⟨_, dispatch_out _ uid st, by simpa using .inr ⟨st, hc, rfl⟩⟩)
    (fun _ _ => (sendData_emits r uid).sl.trans (by split <;> exact .of_out rfl))

theorem knownStream_emits (r : R) (uid : Nat) (fr : Frame.Frame) (wc : Bool) : Emits SlOut r (knownStream r uid fr wc) := by
  have h1 := (headersPrelude_emits r fr).sl
  have h3 : Emits SlOut r (afterFrame r uid fr).1 :=
    (h1.trans (handleFrame_emits ..).sl).trans (onFrameError_emits ..).sl
  have h4 := h3.trans (Emits.of_out (r' := (afterFrame r uid fr).1.updStrm uid (handleState fr)) rfl)
  exact knownStream_cases r uid fr wc (fun _ => h1) (h3.trans (.of_out rfl)) h4 fun st _ b =>
    (h4.trans (dispatchOrSend_emits _ uid st)).trans (by cases b <;> exact .of_out (by simp))

theorem slStreamFrame_emits (r : R) (fr : Frame.Frame) : Emits SlOut r (slStreamFrame r fr) :=
  slStreamFrame_cases r fr (fun _ _ => knownStream_emits ..) (fun _ _ => (unknownStream_emits ..).sl)
    (fun _ _ _ => (unknownStream_emits ..).sl.trans (knownStream_emits ..))

theorem slFrame_emits_of {q : Out → Prop} (r : R) (fr : Frame.Frame) (hq : ∀ o, ofKinds [.rst, .goAway, .data] o → q o)
    (hs : fr.stream ≠ 0 → Emits q { r with fwd := r.fwd ++ [fr] } (slStreamFrame { r with fwd := r.fwd ++ [fr] } fr)) :
    Emits q r (slFrame r fr) := by
  have hf : ∀ x : R, x.out = r.out → Emits q r (closeIfClosing (flushStreams x)) := fun x hx =>
    ((Emits.of_out hx).trans ((flushStreams_emits x).sub.mono hq)).trans (.of_out (closeIfClosing_out _))
  have hg : ∀ (x : R) code tag, x.out = r.out → Emits q r (stopLoop (writeGoAway x 0 code tag)) :=
    fun x _ _ hx => ((Emits.of_out hx).trans ((writeGoAway_emits ..).sub.mono hq)).trans (.of_out rfl)
  exact slFrame_cases r fr (fun _ => .rfl) (fun _ _ => hg _ _ _ rfl) (fun _ _ => hf _ rfl)
    (fun _ _ => .of_out (by rw [closeIfClosing_out]; rfl)) (fun _ _ => hg _ _ _ rfl) (fun _ _ => hf _ rfl)
    (.of_out (closeIfClosing_out _)) (fun h => (Emits.of_out rfl).trans (hs h))

theorem slFrame_conn_emits (r : R) (fr : Frame.Frame) (h0 : fr.stream = 0) :
    Emits (ofKinds [.rst, .goAway, .data]) r (slFrame r fr) :=
  slFrame_emits_of r fr (fun _ => id) fun h => absurd h0 h

theorem slFrame_emits (r : R) (fr : Frame.Frame) : Emits SlOut r (slFrame r fr) :=
  slFrame_emits_of r fr (fun o ho => .inl (by
    simp only [ofKinds, List.mem_cons, List.mem_nil_iff, or_false] at ho ⊢
    rcases ho with h | h | h <;> simp [h])) fun _ => slStreamFrame_emits ..

theorem slHandlerDone_emits (r : R) (sid : Nat) (resp : Resp) :
    Emits (ofKinds [.panicLogged, .headers, .cont, .rst, .data]) r (slHandlerDone r sid resp) := by
  have h0 : ∀ r0, (r0 = r ∨ r0 = r.emit .handlerPanicLogged) → Emits (ofKinds [.panicLogged, .headers, .cont, .rst, .data]) r r0 := by
    rintro r0 (rfl | rfl)
    · exact .rfl
    · exact .emit (by simp [ofKinds, Out.kind])
  refine slHandlerDone_cases r sid resp h0 (fun r0 st h _ => (h0 r0 h).trans (.of_out (by rw [releaseStream_out])))
    fun r0 st h _ b => ?_
  have h1 : Emits (ofKinds [.panicLogged, .headers, .cont, .rst, .data]) r (answered r0 st.uid resp) := by
    refine ((h0 r0 h).trans (Emits.of_out (r' := r0.updStrm st.uid fun s => { s with handlerRunning := false }) rfl)).trans ?_
    refine Emits.trans ((finishRequest_emits _ st.uid resp).sub) ?_
    exact answered_cases r0 st.uid resp (.of_out (closeDone_out ..)) .rfl
  cases b
  · exact h1
  · exact h1.trans (.of_out rfl)

/-! ### the read loop -/

theorem contCheck_emits (r : R) (fr : Frame.Frame) : Emits (ofKinds [.goAway]) r (contCheck r fr).1 :=
  contCheck_cases (P := fun x => Emits (ofKinds [.goAway]) r x.1) r fr (fun _ => writeGoAway_emits ..) fun _ => .of_out rfl

theorem handleSettings_out (r : R) (st : Frame.SettingsVal) : (handleSettings r st).out = r.out ++ [.settingsAck] := rfl

/-- what handling one parsed frame can emit -/
def RlOut (o : Out) : Prop := SlOut o ∨ ofKinds [.ack, .ping] o

theorem rlFrame_emits (r : R) (fr : Frame.Frame) : Emits RlOut r (rlFrame r fr) := by
  have hc : Emits RlOut r (contCheck r fr).1 := (contCheck_emits r fr).sl.mono fun _ => .inl
  have hg : ∀ code tag, Emits RlOut r (rlStop (writeGoAway (contCheck r fr).1 0 code tag)) := fun _ _ =>
    hc.trans (((writeGoAway_emits ..).sl.mono fun _ => .inl).trans (.of_out rfl))
  exact rlFrame_cases (P := Emits RlOut r) r fr (fun _ => hc.trans (.of_out rfl)) (fun _ => hg)
    (fun _ => hc.trans ((slFrame_emits ..).mono fun _ => .inl))
    (fun _ st _ => (hc.trans ⟨_, handleSettings_out _ st, by simp [RlOut, ofKinds, Out.kind]⟩).trans
      ((slFrame_emits ..).mono fun _ => .inl))
    (fun _ _ => hc.trans (.emit (.inr (by simp [ofKinds, Out.kind]))))
    (fun _ => hc)

theorem rlDrain_emits (fuel : Nat) (r : R) : Emits RlOut r (rlDrain fuel r) := by
  induction fuel generalizing r with
  | zero => exact .rfl
  | succ n ih =>
    exact rlDrain_cases n r .rfl
      (fun fr k _ => ((Emits.of_out (r' := { r with s := { r.s with inbuf := r.s.inbuf.drop k } }) rfl).trans
        (rlFrame_emits _ fr)).trans (ih _))
      (fun k => (Emits.of_out (r' := { r with s := { r.s with inbuf := r.s.inbuf.drop k } }) rfl).trans (ih _))
      (fun _ _ _ => (Emits.of_out rfl).trans (((writeGoAway_emits ..).sl.mono fun _ => .inl).trans (.of_out rfl)))
      (.of_out rfl)

theorem settle_emits (r : R) : Emits (ofKinds [.returned]) r (settle r) :=
  settle_cases r .rfl ⟨_, rfl, by simp [ofKinds, Out.kind]⟩

theorem stepR_input_emits (s : Srv) (ev : Event) (hev : ∀ sid resp, ev ≠ .done sid resp) :
    Emits (fun o => RlOut o ∨ ofKinds [.returned] o) { s := s } (stepR s ev) := by
  simp only [stepR]
  refine Emits.trans ?_ ((settle_emits _).mono fun _ => .inr)
  cases ev with
  | done sid resp => exact absurd rfl (hev sid resp)
  | bytes b => exact (Emits.of_out (r' := { s := { s with inbuf := _ } }) rfl).trans ((rlDrain_emits ..).mono fun _ => .inl)
  | cut => exact .of_out rfl
  | idle => exact (((writeGoAway_emits ..).sl.mono fun _ => .inl).mono fun _ => .inl).trans (.of_out rfl)

theorem stepR_done_emits (s : Srv) (sid : Nat) (resp : Resp) :
    Emits (ofKinds [.panicLogged, .headers, .cont, .rst, .data, .returned]) { s := s } (stepR s (.done sid resp)) :=
  (slHandlerDone_emits ..).sub.trans (settle_emits _).sub

/-! ## SETTINGS acknowledgements -/

theorem SlOut.not_ack {o : Out} (h : SlOut o) : o.kind ≠ .ack := by
  have := h.kind
  simp only [ofKinds, slKinds, List.mem_cons, List.mem_nil_iff, or_false] at this
  rcases this with h | h | h | h | h <;> simp [h]

/-- C18: SETTINGS are acknowledged exactly once -/
theorem rlFrame_acks (r : R) (fr : Frame.Frame) :
    cnt .ack (rlFrame r fr).out = cnt .ack r.out + acksOwed r fr := by
  have hc : cnt .ack (contCheck r fr).1.out = cnt .ack r.out := (contCheck_emits r fr).cnt
  have hs : ∀ x : R, cnt .ack (slFrame x fr).out = cnt .ack x.out := fun x =>
    (slFrame_emits x fr).cnt_eq fun _ => SlOut.not_ack
  exact rlFrame_cases (P := fun x => cnt .ack x.out = cnt .ack r.out + acksOwed r fr) r fr
    (fun h => by rw [h]; exact hc)
    (fun h _ _ => by rw [h, rlStop_out, (writeGoAway_emits ..).cnt]; exact hc)
    (fun h => by rw [h, hs]; exact hc)
    (fun h st _ => by rw [h, hs, handleSettings_out, cnt_append, hc]; rfl)
    (fun h _ => by rw [h, emit_out, cnt_append, hc]; rfl)
    (fun h => by rw [h]; exact hc)

end H2.Server
