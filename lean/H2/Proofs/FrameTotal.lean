import H2.Proofs.Frame
/-! Helper lemmas for C16: totality corollaries of the refinement, consumption and allocation bounds, pool discipline. -/
namespace H2.Frame
open H2

/-- converse of `read_refines` for accepted frames: whatever the reader returns is the RFC's reading -/
theorem ok_is_rfc (max : Nat) (b : Bytes) (hb : WF b) (f : Frame) (c : Nat) (h : readFrame max b = .ok f c) :
    Spec.parse max b = .frame f (b.drop (9 + f.length)) ∧ c = 9 + f.length ∧ c ≤ b.length := by
  have hr := read_refines max b hb
  rw [h] at hr
  cases hs : Spec.parse max b with
  | frame g rest =>
    rw [hs] at hr
    obtain ⟨h1, h2, h3⟩ := hr
    cases h1
    exact ⟨by rw [h2], rfl, h3⟩
  | ignored t l rest => rw [hs] at hr; exact absurd hr.1 (by simp)
  | malformed code => rw [hs] at hr; obtain ⟨k, n, h1, _⟩ := hr; cases h1
  | incomplete =>
    rw [hs] at hr
    rcases hr with ⟨n, h1⟩ | ⟨t, h1⟩ <;> cases h1

theorem consumed_le (max : Nat) (b : Bytes) :
    (∀ f c, readFrame max b = .ok f c → c ≤ b.length ∧ c = 9 + be24 b) ∧
    (∀ t c, readFrame max b = .unknownType t c → c ≤ b.length ∧ c ≤ 9 + be24 b) ∧
    (∀ k c, readFrame max b = .err k c → c ≤ b.length ∧ (9 ≤ b.length → c ≤ 9 + be24 b)) := by
  refine read_cases (P := fun _ r => (∀ f c, r = .ok f c → c ≤ b.length ∧ c = 9 + be24 b) ∧
    (∀ t c, r = .unknownType t c → c ≤ b.length ∧ c ≤ 9 + be24 b) ∧
    (∀ k c, r = .err k c → c ≤ b.length ∧ (9 ≤ b.length → c ≤ 9 + be24 b))) max b ?_ ?_ ?_ ?_ ?_ ?_
  · intro h9
    exact ⟨nofun, nofun, fun k c h => by cases h; omega⟩
  · intro h9 _ _
    exact ⟨nofun, nofun, fun k c h => by cases h; omega⟩
  · intro h9 _ _
    exact ⟨nofun, fun t c h => by cases h; omega, nofun⟩
  · intro h9 _ hl
    exact ⟨nofun, nofun, fun k c h => by cases h; omega⟩
  · intro k _ hl _
    exact ⟨nofun, nofun, fun k c h => by cases h; omega⟩
  · intro body _ hl _ _
    exact ⟨fun f c h => by cases h; omega, nofun, nofun⟩

theorem path_class (max : Nat) (b : Bytes) :
    match Pool.path max b with
    | .noHeader => readFrame max b = .err .io 0
    | .tooLarge => readFrame max b = .err .tooLarge 9
    | .unknownType => ∃ t c, readFrame max b = .unknownType t c
    | .shortPayload => readFrame max b = .err .io b.length
    | .deserErr => ∃ k, readFrame max b = .err k (9 + be24 b)
    | .ok => ∃ f, readFrame max b = .ok f (9 + be24 b) :=
  read_cases (P := fun p r => match p with
      | .noHeader => r = .err .io 0
      | .tooLarge => r = .err .tooLarge 9
      | .unknownType => ∃ t c, r = .unknownType t c
      | .shortPayload => r = .err .io b.length
      | .deserErr => ∃ k, r = .err k (9 + be24 b)
      | .ok => ∃ f, r = .ok f (9 + be24 b)) max b
    (fun _ => rfl) (fun _ _ _ => rfl) (fun _ _ _ => ⟨_, _, rfl⟩) (fun _ _ _ => rfl) (fun k _ _ _ => ⟨k, rfl⟩)
    (fun _ _ _ _ _ => ⟨_, rfl⟩)

theorem pool_paths (p : Pool.Path) :
    (Pool.check (Pool.pathEvents p ++ Pool.callerRelease p)).anomalies = [] ∧
    Pool.bodyFreeTwice (Pool.pathEvents p ++ Pool.callerRelease p) = false ∧
    (p = .ok → Pool.count (Pool.pathEvents p) (.release .fh) = 0 ∧ Pool.count (Pool.pathEvents p) (.release .body) = 0) ∧
    (p ≠ .ok → (Pool.check (Pool.pathEvents p)).heldFh = false ∧ (Pool.check (Pool.pathEvents p)).heldBody = false) := by
  cases p <;> decide

theorem alloc_le (max : Nat) (b : Bytes) (hm : max ≠ 0) : Pool.alloc max b ≤ max :=
  read_cases (P := fun p _ => (match p with | .shortPayload | .deserErr | .ok => be24 b | _ => 0) ≤ max) max b
    (fun _ => Nat.zero_le _) (fun _ _ _ => Nat.zero_le _) (fun _ _ _ => Nat.zero_le _) (fun _ hw _ => hw.resolve_left hm)
    (fun _ hw _ _ => hw.resolve_left hm) (fun _ hw _ _ _ => hw.resolve_left hm)

/-- payload structures RFC 7540 §6 makes impossible: wrong fixed size, or padding that does not fit -/
def Impossible (typ flags : Nat) (p : Bytes) : Prop :=
  (typ = 2 ∧ p.length ≠ 5) ∨ (typ = 3 ∧ p.length ≠ 4) ∨ (typ = 4 ∧ p.length % 6 ≠ 0) ∨
  (typ = 4 ∧ Spec.bitAt flags 0 = true ∧ p.length ≠ 0) ∨ (typ = 6 ∧ p.length ≠ 8) ∨ (typ = 7 ∧ p.length < 8) ∨
  (typ = 8 ∧ p.length ≠ 4) ∨
  ((typ = 0 ∨ typ = 1 ∨ typ = 5) ∧ Spec.bitAt flags 3 = true ∧ (p = [] ∨ p.headD 0 ≥ p.length))

theorem impossible_bad (typ flags : Nat) (p : Bytes) (h : Impossible typ flags p) : ∃ c, Spec.body typ flags p = .bad c := by
  rcases h with ⟨rfl, h⟩ | ⟨rfl, h⟩ | ⟨rfl, h⟩ | ⟨rfl, h1, h2⟩ | ⟨rfl, h⟩ | ⟨rfl, h⟩ | ⟨rfl, h⟩ | ⟨ht, hp, h⟩
  · rcases p with _ | ⟨a, _ | ⟨b, _ | ⟨c, _ | ⟨d, _ | ⟨w, _ | ⟨x, t⟩⟩⟩⟩⟩⟩ <;> simp [Spec.body] at h ⊢
  · rcases p with _ | ⟨a, _ | ⟨b, _ | ⟨c, _ | ⟨d, _ | ⟨x, t⟩⟩⟩⟩⟩ <;> simp [Spec.body] at h ⊢
  · exact ⟨6, by simp [Spec.body, h]⟩
  · by_cases h6 : p.length % 6 = 0
    · exact ⟨6, by simp [Spec.body, h6, h1, h2]⟩
    · exact ⟨6, by simp [Spec.body, h6]⟩
  · exact ⟨6, by simp [Spec.body, h]⟩
  · rcases p with _ | ⟨a, _ | ⟨b, _ | ⟨c, _ | ⟨d, _ | ⟨e, _ | ⟨f, _ | ⟨g, _ | ⟨i, dbg⟩⟩⟩⟩⟩⟩⟩⟩ <;> simp [Spec.body] at h ⊢
    omega
  · rcases p with _ | ⟨a, _ | ⟨b, _ | ⟨c, _ | ⟨d, _ | ⟨x, t⟩⟩⟩⟩⟩ <;> simp [Spec.body] at h ⊢
  · have hu : Spec.unpad true p = none := by
      rcases h with rfl | h
      · simp [Spec.unpad]
      · cases p with
        | nil => simp [Spec.unpad]
        | cons n rest =>
          simp only [List.headD_cons, List.length_cons] at h
          have : ¬ n ≤ rest.length := by omega
          simp [Spec.unpad, this]
    rcases ht with rfl | rfl | rfl <;> exact ⟨1, by simp [Spec.body, hp, hu]⟩

end H2.Frame
