import H2.Proofs.ServerOnce
import H2.Proofs.Frame
/-!
# Flow-control ledgers of the full server model (C06 send side, C14 receive side)

Everything here is about `H2.Server.stepR` / `H2.Server.step` (`H2/Server/Model.lean`), for every configuration and
every event list; no abstract model is involved.

The ledgers compare the windows in the state with two lists: the outputs written (`sentC`, `sentS sid`, `cred0`) and the
frames the read loop has forwarded to the stream loop (`grantC`, `wuS sid`, `dataFwd`, `initWin`). The invariant
`FI O F r` holds the table facts `Tbl`, the send ledger `LedA`, the receive ledger `LedB`, MAX_FRAME_SIZE sanity and
"no bad output" (`Out.bad`). Most functions of the model move no window and write nothing a ledger counts: they are
`Quiet r r'` and keep the invariant by `FI.quiet`. Only the few steps that move a window or create a stream
(`sendFrame_fi`, `setRecv_fi`, `wu_fi`, `new_fi`, `refuse_fi`, `withInitWin_fi`, `connWU_fi`) rebuild the ledgers.

The model appends a frame to `r.fwd` when the stream loop takes it and moves the windows a little later: the lemmas
below `slFrame` are stated as `FW O F W r → FW O (F ++ [fr]) W (f r)`, the frame being filed when its effect is in the
state (`FW` is `FI` together with `r.fwd = W`). `FInv` is the invariant of a step in progress (`stepR_finv`), `SInv` the
one between steps; `run_sinv` has it after every run (`runF` is the `runFrom` of `ServerOnce.lean` that also collects
the forwarded frames).

At step level, `Fits` says that every DATA frame of one `sendData` run fits both windows as they are just before it, and
16 384 (`sendDataFuel_fits`; the run is followed as a composition of steps related by `Sent`). The run-level theorems
(`conn_ledger`, `stream_ledger`, `data_frames_small`, `no_zero_increment`, `recv_ledger`, …) and `step_ledger` are read
off the invariant.
-/
namespace H2.Server
open H2.Frame (Frame Body)

/-! ## measures of an output list and of a list of forwarded frames -/

def Out.dataLen : Out → Nat
  | .data _ _ len _ => len
  | _ => 0

def Out.dataOn (sid : Nat) : Out → Nat
  | .data s _ len _ => if s = sid then len else 0
  | _ => 0

/-- receive credit the server hands back on the connection -/
def Out.credit : Out → Nat
  | .wu sid inc => if sid = 0 then inc else 0
  | _ => 0

/-- an output that must never be written: a DATA frame of more than 16 384 octets, a WINDOW_UPDATE with increment 0 -/
def Out.bad : Out → Bool
  | .data _ _ len _ => decide (16384 < len)
  | .wu _ inc => inc == 0
  | _ => false

def sentC (l : List Out) : Nat := (l.map Out.dataLen).sum
def sentS (sid : Nat) (l : List Out) : Nat := (l.map (Out.dataOn sid)).sum
def cred0 (l : List Out) : Nat := (l.map Out.credit).sum

@[simp] theorem sentC_nil : sentC [] = 0 := rfl
@[simp] theorem sentS_nil (sid : Nat) : sentS sid [] = 0 := rfl
@[simp] theorem cred0_nil : cred0 [] = 0 := rfl
@[simp] theorem sentC_append (a b : List Out) : sentC (a ++ b) = sentC a + sentC b := by simp [sentC]
@[simp] theorem sentS_append (sid : Nat) (a b : List Out) : sentS sid (a ++ b) = sentS sid a + sentS sid b := by
  simp [sentS]
@[simp] theorem cred0_append (a b : List Out) : cred0 (a ++ b) = cred0 a + cred0 b := by simp [cred0]
@[simp] theorem sentC_single (o : Out) : sentC [o] = o.dataLen := by simp [sentC]
@[simp] theorem sentS_single (sid : Nat) (o : Out) : sentS sid [o] = o.dataOn sid := by simp [sentS]
@[simp] theorem cred0_single (o : Out) : cred0 [o] = o.credit := by simp [cred0]

/-- what a forwarded frame grants the connection send window -/
def connInc (fr : Frame) : Nat :=
  if fr.stream == 0 then (match fr.body with | .windowUpdate n => n | _ => 0) else 0

/-- what a forwarded frame grants the send window of stream `sid` -/
def strmInc (sid : Nat) (fr : Frame) : Nat :=
  if fr.stream != 0 && fr.stream == sid && fr.typ == Gen.c_FrameWindowUpdate then
    (match fr.body with | .windowUpdate n => n | _ => 0) else 0

/-- the flow-controlled length (payload with padding) of a forwarded DATA frame -/
def dataInc (fr : Frame) : Nat := if fr.stream != 0 && fr.typ == Gen.c_FrameData then fr.length else 0

/-- SETTINGS_INITIAL_WINDOW_SIZE after one more forwarded frame -/
def initStep (w : Int) (fr : Frame) : Int :=
  if fr.stream == 0 then
    (match fr.body with
     | .settings st => if st.hasWindowSize then (st.windowSize : Int) else w
     | _ => w)
  else w

def grantC (l : List Frame) : Nat := (l.map connInc).sum
def wuS (sid : Nat) (l : List Frame) : Nat := (l.map (strmInc sid)).sum
def dataFwd (l : List Frame) : Nat := (l.map dataInc).sum
/-- the peer's SETTINGS_INITIAL_WINDOW_SIZE in force: 65 535 or the last value forwarded -/
def initWin (l : List Frame) : Int := l.foldl initStep (Gen.c_defaultWindowSize : Nat)

@[simp] theorem grantC_nil : grantC [] = 0 := rfl
@[simp] theorem wuS_nil (sid : Nat) : wuS sid [] = 0 := rfl
@[simp] theorem dataFwd_nil : dataFwd [] = 0 := rfl
@[simp] theorem grantC_append (a b : List Frame) : grantC (a ++ b) = grantC a + grantC b := by simp [grantC]
@[simp] theorem wuS_append (sid : Nat) (a b : List Frame) : wuS sid (a ++ b) = wuS sid a + wuS sid b := by simp [wuS]
@[simp] theorem dataFwd_append (a b : List Frame) : dataFwd (a ++ b) = dataFwd a + dataFwd b := by simp [dataFwd]
@[simp] theorem grantC_single (fr : Frame) : grantC [fr] = connInc fr := by simp [grantC]
@[simp] theorem wuS_single (sid : Nat) (fr : Frame) : wuS sid [fr] = strmInc sid fr := by simp [wuS]
@[simp] theorem dataFwd_single (fr : Frame) : dataFwd [fr] = dataInc fr := by simp [dataFwd]
theorem initWin_snoc (l : List Frame) (fr : Frame) : initWin (l ++ [fr]) = initStep (initWin l) fr := by
  simp [initWin, List.foldl_append]

/-! ## table facts, `Quiet` -/

def wtab (r : R) : List (Nat × Nat × Int) := r.s.strms.map fun st => (st.uid, st.id, st.window)

/-- the entry of a stream in `wtab` -/
def Strm.wk (st : Strm) : Nat × Nat × Int := (st.uid, st.id, st.window)

/-- structural facts about the stream table and the two memories of closed / reset ids -/
structure Tbl (r : R) : Prop where
  un : (r.s.strms.map (·.uid)).Nodup
  idn : (r.s.strms.map (·.id)).Nodup
  ile : ∀ st ∈ r.s.strms, st.id ≤ r.s.lastID
  ult : ∀ st ∈ r.s.strms, st.uid < r.s.nextUid
  id0 : ∀ st ∈ r.s.strms, st.id ≠ 0
  ringle : ∀ x ∈ r.s.ring, x ≤ r.s.lastID
  rstle : ∀ x ∈ r.s.resetByUs, x ≤ r.s.lastID ∨ x ≤ r.s.lastRefused

/-- `r'` differs from `r` in nothing a ledger looks at: no window moved, no stream appeared, no DATA octet and no
connection credit was written, no frame was forwarded; streams may have left the table, ids may have been
remembered as closed / reset, the loops may have stopped, GOAWAY may have been written -/
structure Quiet (r r' : R) : Prop where
  wk : (wtab r').Sublist (wtab r)
  cw : r'.s.clientWindow = r.s.clientWindow
  cur : r'.s.curInitWin = r.s.curInitWin
  rw : r'.s.recvWin = r.s.recvWin
  pfs : r'.s.peerFrameSize = r.s.peerFrameSize ∨ 16384 ≤ r'.s.peerFrameSize
  lid : r'.s.lastID = r.s.lastID
  lref : r'.s.lastRefused = r.s.lastRefused
  nuid : r'.s.nextUid = r.s.nextUid
  ring : ∀ x ∈ r'.s.ring, x ∈ r.s.ring ∨ x ≤ r.s.lastID
  rst : ∀ x ∈ r'.s.resetByUs, x ∈ r.s.resetByUs ∨ x ≤ r.s.lastID ∨ x ≤ r.s.lastRefused
  stop : r.s.slStopped = true → r'.s.slStopped = true
  fwd : r'.fwd = r.fwd
  sc : sentC r'.out = sentC r.out
  ss : ∀ sid, sentS sid r'.out = sentS sid r.out
  cr : cred0 r'.out = cred0 r.out
  ga : cnt .goAway r.out ≤ cnt .goAway r'.out
  /-- no new output is a bad one -/
  dz : ∀ o ∈ r'.out, o ∈ r.out ∨ o.bad = false

theorem Quiet.refl (r : R) : Quiet r r where
  wk := List.Sublist.refl _
  cw := rfl
  cur := rfl
  rw := rfl
  pfs := Or.inl rfl
  lid := rfl
  lref := rfl
  nuid := rfl
  ring := fun _ h => Or.inl h
  rst := fun _ h => Or.inl h
  stop := id
  fwd := rfl
  sc := rfl
  ss := fun _ => rfl
  cr := rfl
  ga := Nat.le_refl _
  dz := fun _ h => Or.inl h

theorem Quiet.trans {a b c : R} (h1 : Quiet a b) (h2 : Quiet b c) : Quiet a c where
  wk := h2.wk.trans h1.wk
  cw := h2.cw.trans h1.cw
  cur := h2.cur.trans h1.cur
  rw := h2.rw.trans h1.rw
  pfs := by
    rcases h2.pfs with h | h
    · rw [h]; exact h1.pfs
    · exact Or.inr h
  lid := h2.lid.trans h1.lid
  lref := h2.lref.trans h1.lref
  nuid := h2.nuid.trans h1.nuid
  ring := fun x hx => by
    rcases h2.ring x hx with h | h
    · exact h1.ring x h
    · right; rw [← h1.lid]; exact h
  rst := fun x hx => by
    rcases h2.rst x hx with h | h | h
    · exact h1.rst x h
    · right; left; rw [← h1.lid]; exact h
    · right; right; rw [← h1.lref]; exact h
  stop := fun h => h2.stop (h1.stop h)
  fwd := h2.fwd.trans h1.fwd
  sc := h2.sc.trans h1.sc
  ss := fun sid => (h2.ss sid).trans (h1.ss sid)
  cr := h2.cr.trans h1.cr
  ga := Nat.le_trans h1.ga h2.ga
  dz := fun o ho => by
    rcases h2.dz o ho with h | h
    · exact h1.dz o h
    · exact Or.inr h

theorem mem_wk {r : R} {st : Strm} (h : st ∈ r.s.strms) : (st.uid, st.id, st.window) ∈ wtab r :=
  List.mem_map.mpr ⟨st, h, rfl⟩

theorem of_mem_wk {r : R} {t : Nat × Nat × Int} (h : t ∈ wtab r) :
    ∃ st ∈ r.s.strms, st.uid = t.1 ∧ st.id = t.2.1 ∧ st.window = t.2.2 := by
  obtain ⟨st, hs, rfl⟩ := List.mem_map.mp h
  exact ⟨st, hs, rfl, rfl, rfl⟩

theorem Quiet.was {r r' : R} (q : Quiet r r') {st' : Strm} (h : st' ∈ r'.s.strms) :
    ∃ st ∈ r.s.strms, st.uid = st'.uid ∧ st.id = st'.id ∧ st.window = st'.window :=
  of_mem_wk (q.wk.subset (mem_wk h))

theorem wtab_uid (r : R) : (wtab r).map (·.1) = r.s.strms.map (·.uid) := by
  simp [wtab, List.map_map, Function.comp_def]
theorem wtab_id (r : R) : (wtab r).map (·.2.1) = r.s.strms.map (·.id) := by
  simp [wtab, List.map_map, Function.comp_def]

theorem Quiet.tbl {r r' : R} (q : Quiet r r') (t : Tbl r) : Tbl r' where
  un := by
    have h := t.un
    rw [← wtab_uid] at h ⊢
    exact h.sublist (q.wk.map _)
  idn := by
    have h := t.idn
    rw [← wtab_id] at h ⊢
    exact h.sublist (q.wk.map _)
  ile := fun st' h => by
    obtain ⟨st, hs, _, hi, _⟩ := q.was h
    rw [q.lid, ← hi]; exact t.ile st hs
  ult := fun st' h => by
    obtain ⟨st, hs, hu, _, _⟩ := q.was h
    rw [q.nuid, ← hu]; exact t.ult st hs
  id0 := fun st' h => by
    obtain ⟨st, hs, _, hi, _⟩ := q.was h
    rw [← hi]; exact t.id0 st hs
  ringle := fun x hx => by
    rw [q.lid]
    rcases q.ring x hx with h | h
    · exact t.ringle x h
    · exact h
  rstle := fun x hx => by
    rw [q.lid, q.lref]
    rcases q.rst x hx with h | h
    · exact t.rstle x h
    · exact h

theorem Tbl.the {r : R} (t : Tbl r) {uid : Nat} {st : Strm} (hg : r.getStrm uid = some st) :
    st ∈ r.s.strms ∧ st.uid = uid ∧ (∀ x ∈ r.s.strms, x.uid = uid → x = st) ∧ (∀ x ∈ r.s.strms, x.id = st.id → x = st) := by
  have hm : st ∈ r.s.strms := List.mem_of_find?_eq_some hg
  have hu : st.uid = uid := by
    have := List.find?_some hg
    simpa using this
  exact ⟨hm, hu, find_uid_unique _ _ _ t.un hg, fun x hx hi => nodup_map_inj (·.id) _ t.idn x st hx hm hi⟩

/-! ### primitives

A function that leaves alone what `Quiet` reads is `Quiet` by `{ Quiet.refl r with }`: every field holds by unfolding.
Where a few fields do change, they are the ones named. -/

theorem dz_snoc (l : List Out) (o : Out) (h : o.bad = false) : ∀ x ∈ l ++ [o], x ∈ l ∨ x.bad = false := by
  intro x hx
  rcases List.mem_append.mp hx with hx | hx
  · exact Or.inl hx
  · simp only [List.mem_singleton] at hx; subst hx; exact Or.inr h

theorem emit_quiet (r : R) (o : Out) (h1 : o.dataLen = 0) (h2 : o.credit = 0) (h3 : o.bad = false) : Quiet r (r.emit o) :=
  { Quiet.refl r with
    sc := by simp [h1]
    ss := fun sid => by
      have : o.dataOn sid = 0 := by
        cases o <;> simp_all [Out.dataOn, Out.dataLen]
      simp [this]
    cr := by simp [h2]
    ga := by simp
    dz := dz_snoc _ _ h3 }

theorem Quiet.stopLoop {a b : R} (q : Quiet a b) : Quiet (stopLoop a) (stopLoop b) := { q with stop := fun _ => rfl }

theorem upd_wtab (r : R) (uid : Nat) (f : Strm → Strm) (hf : ∀ x ∈ r.s.strms, x.uid = uid → (f x).wk = x.wk) :
    wtab (r.updStrm uid f) = wtab r := by
  simp only [wtab, R.updStrm, List.map_map]
  apply List.map_congr_left
  intro x hx
  show (if x.uid == uid then f x else x).wk = x.wk
  by_cases hu : x.uid = uid
  · rw [if_pos (beq_iff_eq.mpr hu)]; exact hf x hx hu
  · rw [if_neg (mt beq_iff_eq.mp hu)]

theorem upd_quiet (r : R) (uid : Nat) (f : Strm → Strm) (hf : ∀ x ∈ r.s.strms, x.uid = uid → (f x).wk = x.wk) :
    Quiet r (r.updStrm uid f) :=
  { Quiet.refl r with wk := by rw [upd_wtab r uid f hf]; exact List.Sublist.refl _ }

theorem updc_quiet {r : R} (t : Tbl r) (uid : Nat) (st st' : Strm) (hg : r.getStrm uid = some st) (h : st'.wk = st.wk) :
    Quiet r (r.updStrm uid fun _ => st') :=
  upd_quiet r uid _ fun x hx hu => by
    have := (t.the hg).2.2.1 x hx hu
    subst this
    exact h

def rstKnown (l : List Nat) : List Nat := if l.length ≥ Gen.c_closedStrmsCap then [] else l

theorem writeReset_rst (r : R) (sid code : Nat) :
    (writeReset r sid code).s.resetByUs =
      if (rstKnown r.s.resetByUs).contains sid then rstKnown r.s.resetByUs else rstKnown r.s.resetByUs ++ [sid] := rfl

theorem mem_rstKnown {l : List Nat} {y : Nat} (h : y ∈ rstKnown l) : y ∈ l := by
  unfold rstKnown at h
  split at h
  · cases h
  · exact h

theorem writeReset_quiet (r : R) (sid code : Nat) (h : sid ≤ r.s.lastID ∨ sid ≤ r.s.lastRefused) :
    Quiet r (writeReset r sid code) :=
  (emit_quiet r (.rst sid code) rfl rfl rfl).trans
    { Quiet.refl (r.emit (.rst sid code)) with
      rst := fun x hx => by
        rw [writeReset_rst] at hx
        split at hx
        · exact Or.inl (mem_rstKnown hx)
        · rcases List.mem_append.mp hx with hx | hx
          · exact Or.inl (mem_rstKnown hx)
          · simp at hx; subst hx; exact Or.inr h }

theorem writeGoAway_quiet (r : R) (sid code : Nat) (tag : String) : Quiet r (writeGoAway r sid code tag) := by
  rw [writeGoAway_eq]
  exact (emit_quiet r _ rfl rfl rfl).trans { Quiet.refl _ with }

theorem writeGoAway_ga (r : R) (sid code : Nat) (tag : String) :
    cnt .goAway (writeGoAway r sid code tag).out = cnt .goAway r.out + 1 := by
  simp [Out.kind]

theorem stopLoop_quiet (r : R) : Quiet r (stopLoop r) := { Quiet.refl r with stop := fun _ => rfl }

theorem rlStop_quiet (r : R) : Quiet r (rlStop r) := { Quiet.refl r with }

theorem releaseStream_quiet (r : R) (st : Strm) : Quiet r (releaseStream r st) := by
  unfold releaseStream
  split
  · exact { Quiet.refl r with }
  · exact Quiet.refl r

theorem delFirst_wtab (l : List Strm) (id : Nat) :
    ((delFirst l id).map fun st => (st.uid, st.id, st.window)).Sublist (l.map fun st => (st.uid, st.id, st.window)) :=
  (delFirst_sublist l id).map _

theorem mem_markClosed {ring : List Nat} {id x : Nat} (h : x ∈ markClosed ring id) : x ∈ ring ∨ x = id := by
  unfold markClosed at h
  split at h
  · exact Or.inl h
  · split at h
    · rcases List.mem_append.mp h with h | h
      · exact Or.inl h
      · right; simpa using h
    · rcases List.mem_append.mp h with h | h
      · exact Or.inl (List.mem_of_mem_drop h)
      · right; simpa using h

theorem closeStream_quiet {r : R} (t : Tbl r) (uid : Nat) : Quiet r (closeStream r uid) :=
  -- the stream leaves the table, its id enters the ring; the rest is bookkeeping no ledger reads
  closeStream_cases (P := Quiet r) r uid (fun _ => Quiet.refl r) fun st hg _ _ _ =>
    { Quiet.refl r with
      wk := delFirst_wtab _ _
      ring := fun x hx => by
        rcases mem_markClosed hx with h | h
        · exact Or.inl h
        · subst h; exact Or.inr (t.ile st (List.mem_of_find?_eq_some hg)) }

theorem closeBody_quiet (r : R) (uid : Nat) : Quiet r (closeBody r uid) :=
  upd_quiet r uid _ fun _ _ _ => rfl

theorem writeError_quiet {r : R} (t : Tbl r) (uid : Nat) (e : SErr) : Quiet r (writeError r uid e) :=
  writeError_cases (P := Quiet r) r uid e (fun _ => Quiet.refl r)
    (fun st code tag _ _ => (writeGoAway_quiet r st.id code tag).trans (upd_quiet _ _ _ fun _ _ _ => rfl))
    (fun st code hg _ => (writeReset_quiet r st.id code (Or.inl (t.ile st (List.mem_of_find?_eq_some hg)))).trans
      (upd_quiet _ _ _ fun _ _ _ => rfl))

theorem writeError_ga (r : R) (uid : Nat) (code : Nat) (tag : String) (st : Strm) (hg : r.getStrm uid = some st) :
    cnt .goAway (writeError r uid (.goAway code tag)).out = cnt .goAway r.out + 1 :=
  writeError_cases (P := fun x => cnt .goAway x.out = cnt .goAway r.out + 1) r uid (.goAway code tag)
    (fun hn => by rw [hg] at hn; cases hn)
    (fun _ _ _ _ _ => by rw [updStrm_out, writeGoAway_ga])
    (fun _ _ _ e => nomatch e)

theorem closeDone_quiet {r : R} (t : Tbl r) (uid : Nat) : Quiet r (closeDone r uid) := by
  unfold closeDone
  have q := upd_quiet r uid (fun s => { s with state := .closed }) fun _ _ _ => rfl
  exact q.trans (closeStream_quiet (q.tbl t) uid)

theorem closeIfClosed_quiet {r : R} (t : Tbl r) (uid : Nat) : Quiet r (closeIfClosed r uid) :=
  closeIfClosed_cases (P := Quiet r) r uid (fun _ => Quiet.refl r) fun _ _ _ => closeStream_quiet t uid

theorem closeIfDone_quiet (r : R) : Quiet r (closeIfDone r) :=
  ite_ind (fun _ => stopLoop_quiet r) (fun _ => Quiet.refl r)

theorem closeIfClosing_quiet (r : R) : Quiet r (closeIfClosing r) :=
  ite_ind (fun _ => stopLoop_quiet r) (fun _ => Quiet.refl r)

theorem closeIdleBelow_quiet (fuel : Nat) {r : R} (t : Tbl r) (id : Nat) : Quiet r (closeIdleBelow fuel r id) := by
  induction fuel generalizing r with
  | zero => exact Quiet.refl r
  | succ n ih =>
    rw [closeIdleBelow_succ]
    cases hs : r.s.strms with
    | nil => exact Quiet.refl r
    | cons x xs =>
      refine ite_ind (fun _ => ?_) (fun _ => Quiet.refl r)
      have hle := t.ile x (by rw [hs]; exact List.mem_cons_self)
      have q1 := upd_quiet r x.uid (fun s => { s with state := .closed }) fun _ _ _ => rfl
      have q2 := q1.trans (closeStream_quiet (q1.tbl t) x.uid)
      have q3 := q2.trans (writeReset_quiet _ x.id Gen.c_StreamCanceled (Or.inl (by rw [q2.lid]; exact hle)))
      exact q3.trans (ih (q3.tbl t))

theorem headersPrelude_quiet {r : R} (t : Tbl r) (fr : Frame) : Quiet r (headersPrelude r fr).1 :=
  headersPrelude_cases (P := fun x => Quiet r x.1) r fr (Quiet.refl r)
    (fun n _ _ _ => writeError_quiet t n.uid (.goAway Gen.c_ProtocolError "previous stream headers not ended"))
    (fun _ => closeIdleBelow_quiet _ t _)

theorem onFrameError_quiet {r : R} (t : Tbl r) (uid : Nat) (e : Option SErr) : Quiet r (onFrameError r uid e).1 :=
  onFrameError_cases (P := fun x => Quiet r x.1) r uid e (fun _ => Quiet.refl r) fun e' _ _ =>
    (writeError_quiet t uid e').trans (upd_quiet _ uid (fun s => { s with state := .closed }) fun _ _ _ => rfl)

theorem dispatch_quiet (r : R) (uid : Nat) (st : Strm) : Quiet r (dispatch r uid st) := by
  unfold dispatch
  exact (upd_quiet r uid (fun s => { s with handlerRunning := true }) fun _ _ _ => rfl).trans
    (emit_quiet _ _ rfl rfl rfl)

theorem applyTableSize_quiet (r : R) (st : Frame.SettingsVal) : Quiet r (applyTableSize r st) := { Quiet.refl r with }

theorem contCheck_quiet (r : R) (fr : Frame) : Quiet r (contCheck r fr).1 :=
  contCheck_cases (P := fun x => Quiet r x.1) r fr (fun _ => writeGoAway_quiet _ _ _ _) (fun _ => { Quiet.refl r with })

theorem handleSettings_quiet (r : R) (st : Frame.SettingsVal) (h : 16384 ≤ st.frameSize) : Quiet r (handleSettings r st) := by
  refine Quiet.trans ?_ (emit_quiet _ .settingsAck rfl rfl rfl)
  exact { Quiet.refl r with pfs := Or.inr h }

theorem settle_quiet (r : R) : Quiet r (settle r) := by
  unfold settle
  split
  · exact (emit_quiet r .returned rfl rfl rfl).trans { Quiet.refl _ with stop := fun _ => rfl }
  · exact Quiet.refl r

theorem emits_block_quiet (r : R) (os : List Out) (h : ∀ o ∈ os, o.isBlock = true) : Quiet r (r.emits os) := by
  rw [emits_eq_foldl]
  induction os generalizing r with
  | nil => exact Quiet.refl r
  | cons o os ih =>
    have ho := h o List.mem_cons_self
    have h1 : Quiet r (r.emit o) := by
      cases o <;> first | exact emit_quiet r _ rfl rfl rfl | (simp [Out.isBlock] at ho)
    exact h1.trans (ih (r.emit o) fun x hx => h x (List.mem_cons_of_mem _ hx))

theorem responseHeaders_wtab (r : R) (st : Strm) (resp : Resp) (hb : Bool) : wtab (responseHeaders r st resp hb) = wtab r := by
  unfold responseHeaders
  dsimp only
  split <;> rfl

theorem responseHeaders_quiet (r : R) (st : Strm) (resp : Resp) (hb : Bool) : Quiet r (responseHeaders r st resp hb) := by
  unfold responseHeaders
  dsimp only
  split
  · refine Quiet.trans ?_ (emits_block_quiet _ _ (blockOuts_isBlock _ _ _ _ _))
    exact { Quiet.refl r with }
  · refine Quiet.trans ?_ (emits_block_quiet _ _ (blockOuts_isBlock _ _ _ _ _))
    exact { Quiet.refl r with }

/-! ### what a `sendData` run may write; `refill` -/

/-- what may be written while a response body is being sent on stream `sid`, read against the connection window `cw`
and the stream's window `w`: DATA frames on `sid`, each empty or (non-empty and) within both windows as they are just
before it and within 16 384 octets, both windows going down by its length; and RST_STREAM -/
def Fits (sid : Nat) : Int → Int → List Out → Prop
  | _, _, [] => True
  | cw, w, o :: l =>
    (match o with
     | .data s _ len _ => s = sid ∧ (len = 0 ∨ (0 < len ∧ (len : Int) ≤ cw ∧ (len : Int) ≤ w ∧ len ≤ 16384))
     | .rst .. => True
     | _ => False) ∧ Fits sid (cw - o.dataLen) (w - o.dataLen) l

theorem Fits_append (sid : Nat) (cw w : Int) (a b : List Out) :
    Fits sid cw w (a ++ b) ↔ Fits sid cw w a ∧ Fits sid (cw - sentC a) (w - sentC a) b := by
  induction a generalizing cw w with
  | nil => simp [Fits]
  | cons o a ih =>
    simp only [List.cons_append, Fits, ih, sentC, List.map_cons, List.sum_cons, and_assoc]
    have e1 : cw - (o.dataLen : Int) - ((List.map Out.dataLen a).sum : Nat) = cw - ((o.dataLen + (List.map Out.dataLen a).sum : Nat) : Int) := by omega
    have e2 : w - (o.dataLen : Int) - ((List.map Out.dataLen a).sum : Nat) = w - ((o.dataLen + (List.map Out.dataLen a).sum : Nat) : Int) := by omega
    rw [e1, e2]

theorem refillRead_wk (st : Strm) (bs : BodyStream) : (refillRead st bs).wk = st.wk := by
  simp only [refillRead]; split <;> rfl

/-- all that the callers of `refill` need: what is written is nothing, an empty DATA frame with END_STREAM, or
RST_STREAM; when the loop goes on, the stream handed back is the one in the table -/
theorem refill_spec {r : R} (t : Tbl r) (uid : Nat) (st : Strm) (hg : r.getStrm uid = some st) :
    Quiet r (refill r uid st).1 ∧ (refill r uid st).2.1.wk = st.wk ∧
    (∃ l, (refill r uid st).1.out = r.out ++ l ∧ sentC l = 0 ∧ ∀ cw w, Fits st.id cw w l) ∧
    ((refill r uid st).2.2 = false →
      (refill r uid st).1.getStrm uid = some (refill r uid st).2.1 ∧ (refill r uid st).2.1.pendLen ≠ 0) := by
  have hle : st.id ≤ r.s.lastID := t.ile st (List.mem_of_find?_eq_some hg)
  have hu : st.uid = uid := (t.the hg).2.1
  have qr := fun bs => updc_quiet t uid st (refillRead st bs) hg (refillRead_wk st bs)
  have nothing : ∃ l, r.out = r.out ++ l ∧ sentC l = 0 ∧ ∀ cw w, Fits st.id cw w l :=
    ⟨[], (List.append_nil _).symm, rfl, fun _ _ => trivial⟩
  refine refill_outcomes
    (P := fun x => Quiet r x.1 ∧ x.2.1.wk = st.wk ∧ (∃ l, x.1.out = r.out ++ l ∧ sentC l = 0 ∧ ∀ cw w, Fits st.id cw w l) ∧
      (x.2.2 = false → x.1.getStrm uid = some x.2.1 ∧ x.2.1.pendLen ≠ 0)) r uid st ?_ ?_ ?_ ?_ ?_
  · exact fun _ _ => ⟨Quiet.refl r, rfl, nothing, fun h => nomatch h⟩
  · exact fun hp => ⟨Quiet.refl r, rfl, nothing, fun _ => ⟨hg, hp⟩⟩
  · intro bs _ _
    have q := updc_quiet t uid st { st with stream := none } hg rfl
    exact ⟨q.trans (writeReset_quiet _ _ _ (Or.inl (by rw [q.lid]; exact hle))), rfl,
      ⟨[.rst st.id Gen.c_InternalError], rfl, rfl, fun _ _ => ⟨trivial, trivial⟩⟩, fun h => nomatch h⟩
  · exact fun bs _ _ _ => ⟨(qr bs).trans (emit_quiet _ _ rfl rfl rfl), refillRead_wk st bs,
      ⟨[.data st.id true 0 {}], rfl, rfl, fun _ _ => ⟨⟨rfl, Or.inl rfl⟩, trivial⟩⟩, fun h => nomatch h⟩
  · exact fun bs _ _ h0 => ⟨qr bs, refillRead_wk st bs, nothing, fun _ =>
      ⟨getStrm_upd r uid (fun _ => refillRead st bs) st (fun _ _ => (congrArg (·.1) (refillRead_wk st bs)).trans hu) hg, h0⟩⟩

/-! ### a `sendData` run, round by round -/

def dataStep (r : R) (st : Strm) : Nat := min (min Gen.c_maxDataFrameSize (availOf r st).toNat) st.pendLen

/-- induction along a `sendData` run from `r`: it ends at once (no fuel, no such stream), in `refill`, blocked by flow
control, with the frame that carries END_STREAM, or goes on after a frame -/
theorem sendDataFuel_ind {P : R → R × Bool → Prop} (uid : Nat)
    (out : ∀ r, P r (r, false))
    (absent : ∀ r, r.getStrm uid = none → P r (r, true))
    (ended : ∀ r st, r.getStrm uid = some st → (refill r uid st).2.2 = true → P r (closeBody (refill r uid st).1 uid, true))
    (blocked : ∀ r st, r.getStrm uid = some st → (refill r uid st).2.2 = false →
      availOf (refill r uid st).1 (refill r uid st).2.1 ≤ 0 → P r ((refill r uid st).1, false))
    (last : ∀ r st, r.getStrm uid = some st → (refill r uid st).2.2 = false →
      0 < availOf (refill r uid st).1 (refill r uid st).2.1 →
      P r (closeBody (sendFrame (refill r uid st).1 uid (refill r uid st).2.1 (dataStep (refill r uid st).1 (refill r uid st).2.1)).1 uid, true))
    (more : ∀ r st x, r.getStrm uid = some st → (refill r uid st).2.2 = false →
      0 < availOf (refill r uid st).1 (refill r uid st).2.1 →
      P (sendFrame (refill r uid st).1 uid (refill r uid st).2.1 (dataStep (refill r uid st).1 (refill r uid st).2.1)).1 x → P r x)
    (fuel : Nat) (r : R) : P r (sendDataFuel fuel r uid) := by
  induction fuel generalizing r with
  | zero => exact out r
  | succ n ih =>
    rw [sendDataFuel_succ]
    cases hg : r.getStrm uid with
    | none => exact absent r hg
    | some st =>
      dsimp only
      refine ite_ind (fun h => ended r st hg h) fun h => ?_
      have h : (refill r uid st).2.2 = false := by simpa using h
      refine ite_ind (fun ha => blocked r st hg h ha) fun ha => ?_
      have ha : 0 < availOf (refill r uid st).1 (refill r uid st).2.1 := Int.lt_of_not_ge ha
      exact ite_ind (fun _ => last r st hg h ha) fun _ => more r st _ hg h ha (ih _)

/-- the stream after a DATA frame of `step` octets -/
def sentStrm (s : Strm) (rem step : Nat) : Strm :=
  { s with pendOff := s.pendOff + step, pendLen := rem, window := s.window - step }

theorem sendFrame_spec (r : R) (uid : Nat) (st : Strm) (step : Nat) :
    (∃ es d, (sendFrame r uid st step).1.out = r.out ++ [.data st.id es step d]) ∧
    (sendFrame r uid st step).1.s.clientWindow = r.s.clientWindow - step ∧
    (sendFrame r uid st step).1.s.strms = r.s.strms.map (fun s => if s.uid == uid then sentStrm s (st.pendLen - step) step else s) :=
  ⟨⟨_, _, rfl⟩, rfl, rfl⟩

/-! ### the callers of `sendData`: `sendData` after a `Quiet` step, or `Quiet` -/

theorem flushOne_sends (acc : R × List Nat) (uid : Nat) :
    (flushOne acc uid).1 = acc.1 ∨ (flushOne acc uid).1 = (sendData acc.1 uid).1 :=
  flushOne_cases (P := fun x => x.1 = acc.1 ∨ x.1 = (sendData acc.1 uid).1) acc uid (Or.inl rfl) fun _ _ => Or.inr rfl

theorem bodyStart_wk (resp : Resp) (s : Strm) : (bodyStart resp s).wk = s.wk := by
  unfold bodyStart; split <;> rfl

section
variable {r : R}

theorem finishRequest_sends (uid : Nat) (resp : Resp) :
    ∃ r0, Quiet r r0 ∧ wtab r0 = wtab r ∧
      ((finishRequest r uid resp).1 = r0 ∨ (finishRequest r uid resp).1 = (sendData r0 uid).1) :=
  finishRequest_outcomes
    (P := fun x => ∃ r0, Quiet r r0 ∧ wtab r0 = wtab r ∧ (x.1 = r0 ∨ x.1 = (sendData r0 uid).1)) r uid resp
    (fun _ => ⟨r, Quiet.refl r, rfl, Or.inl rfl⟩)
    (fun st _ => ⟨_, responseHeaders_quiet r st _ _, responseHeaders_wtab r st _ _, Or.inl rfl⟩)
    (fun st _ => ⟨_, (responseHeaders_quiet r st _ _).trans (upd_quiet _ _ _ fun x _ _ => bodyStart_wk _ x),
      (upd_wtab _ _ _ fun x _ _ => bodyStart_wk _ x).trans (responseHeaders_wtab r st _ _), Or.inr rfl⟩)

theorem dispatchOrSend_sends (uid : Nat) (st : Strm) (hle : st.id ≤ r.s.lastID) :
    Quiet r (dispatchOrSend r uid st) ∨
      ∃ r1, Quiet (sendData r uid).1 r1 ∧ dispatchOrSend r uid st = r1 := by
  have q := upd_quiet r uid (fun s => { s with responded := true }) fun _ _ _ => rfl
  exact dispatchOrSend_cases (P := fun x => Quiet r x ∨ ∃ r1, Quiet (sendData r uid).1 r1 ∧ x = r1) r uid st
    (Or.inl (Quiet.refl r))
    (fun _ _ _ => Or.inl ((q.trans (writeReset_quiet _ _ _ (Or.inl (by rw [q.lid]; exact hle)))).trans
      (upd_quiet _ _ _ fun _ _ _ => rfl)))
    (fun _ => Or.inl (q.trans (dispatch_quiet _ _ _)))
    (fun _ _ => Or.inr (ite_ind (P := fun x => ∃ r1, Quiet (sendData r uid).1 r1 ∧ x = r1)
      (fun _ => ⟨_, upd_quiet (sendData r uid).1 uid (fun s => { s with state := .closed }) fun _ _ _ => rfl, rfl⟩)
      (fun _ => ⟨_, Quiet.refl _, rfl⟩)))

end

/-! ## the invariant

`O`, `F`: the outputs written and the frames forwarded to the stream loop BEFORE the current step; `r.out`: the outputs
of the current step so far. `F` already contains the frame being handled once its effect on the windows is in the
state (the model appends to `r.fwd` when the stream loop takes the frame, the ledgers move a little later). -/

structure LedA (O : List Out) (F : List Frame) (r : R) : Prop where
  /-- connection: window + octets sent = 65 535 + connection WINDOW_UPDATEs forwarded -/
  conn : r.s.clientWindow + (sentC (O ++ r.out) : Int) = (Gen.c_defaultWindowSize : Nat) + (grantC F : Int)
  cpos : 0 ≤ r.s.clientWindow
  /-- the initial window new streams start with is the peer's SETTINGS_INITIAL_WINDOW_SIZE in force -/
  cur : r.s.curInitWin = initWin F
  /-- streams of the table: window + octets sent on it = initial window in force + WINDOW_UPDATEs forwarded on it -/
  led : r.s.slStopped = false → ∀ st ∈ r.s.strms,
    st.window + (sentS st.id (O ++ r.out) : Int) = r.s.curInitWin + (wuS st.id F : Int)
  /-- ids that can still be opened have no WINDOW_UPDATE behind them … -/
  fresh : r.s.slStopped = false → ∀ sid, r.s.lastID < sid → r.s.lastRefused < sid → wuS sid F = 0
  /-- … and no DATA -/
  nosent : ∀ sid, r.s.lastID < sid → sentS sid (O ++ r.out) = 0

structure LedB (O : List Out) (F : List Frame) (r : R) : Prop where
  /-- window + DATA octets forwarded = 4 MiB + credit handed back + octets of the DATA frames answered with a
  connection error (none as long as no GOAWAY has been written) -/
  bal : ∃ lost : Nat, r.s.recvWin + (dataFwd F : Int) =
      (Gen.c_serverMaxWindow : Nat) + (cred0 (O ++ r.out) : Int) + (lost : Int) ∧
    (cnt .goAway (O ++ r.out) = 0 → lost = 0)
  lo : ((Gen.c_serverMaxWindow : Nat) : Int) / 2 ≤ r.s.recvWin
  hi : r.s.recvWin ≤ ((Gen.c_serverMaxWindow : Nat) : Int)

structure FI (O : List Out) (F : List Frame) (r : R) : Prop where
  t : Tbl r
  a : LedA O F r
  b : LedB O F r
  /-- the peer's SETTINGS_MAX_FRAME_SIZE as stored: unset, or at least 16 384; and no DATA frame written so far
  carries more than 16 384 octets, no WINDOW_UPDATE an increment of 0 -/
  p : (r.s.peerFrameSize = 0 ∨ 16384 ≤ r.s.peerFrameSize) ∧ ∀ o ∈ O ++ r.out, o.bad = false

section
variable {O : List Out} {F : List Frame} {r r' : R}

theorem Quiet.running (q : Quiet r r') (hs : r'.s.slStopped = false) : r.s.slStopped = false := by
  cases hc : r.s.slStopped with
  | false => rfl
  | true => rw [q.stop hc] at hs; cases hs

theorem LedA.quiet (h : LedA O F r) (q : Quiet r r') : LedA O F r' where
  conn := by
    have := h.conn
    simp only [sentC_append] at this ⊢
    rw [q.cw, q.sc]; exact this
  cpos := by rw [q.cw]; exact h.cpos
  cur := by rw [q.cur]; exact h.cur
  led := fun hs st' hm => by
    obtain ⟨st, hst, _, hi, hw⟩ := q.was hm
    have := h.led (q.running hs) st hst
    simp only [sentS_append] at this ⊢
    rw [q.cur, q.ss, ← hi, ← hw]; exact this
  fresh := fun hs sid h1 h2 => by
    rw [q.lid] at h1; rw [q.lref] at h2
    exact h.fresh (q.running hs) sid h1 h2
  nosent := fun sid h1 => by
    rw [q.lid] at h1
    have := h.nosent sid h1
    simp only [sentS_append] at this ⊢
    rw [q.ss]; exact this

theorem LedB.quiet (h : LedB O F r) (q : Quiet r r') : LedB O F r' where
  bal := by
    obtain ⟨lost, h1, h2⟩ := h.bal
    refine ⟨lost, ?_, ?_⟩
    · simp only [cred0_append] at h1 ⊢
      rw [q.rw, q.cr]; exact h1
    · intro hz
      apply h2
      have := q.ga
      simp only [cnt_append] at hz ⊢
      omega
  lo := by rw [q.rw]; exact h.lo
  hi := by rw [q.rw]; exact h.hi

theorem FI.quiet (h : FI O F r) (q : Quiet r r') : FI O F r' where
  t := q.tbl h.t
  a := h.a.quiet q
  b := h.b.quiet q
  p := by
    refine ⟨?_, ?_⟩
    · rcases q.pfs with e | e
      · rw [e]; exact h.p.1
      · exact Or.inr e
    · intro o ho
      rcases List.mem_append.mp ho with ho | ho
      · exact h.p.2 o (List.mem_append_left _ ho)
      · rcases q.dz o ho with ho | ho
        · exact h.p.2 o (List.mem_append_right _ ho)
        · exact ho

theorem LedA.frame (h : LedA O F r) (fr : Frame) (hc : connInc fr = 0) (hi : ∀ w, initStep w fr = w)
    (hs : r.s.slStopped = false → ∀ sid, (∃ st ∈ r.s.strms, st.id = sid) ∨ (r.s.lastID < sid ∧ r.s.lastRefused < sid) →
      strmInc sid fr = 0) : LedA O (F ++ [fr]) r where
  conn := by simpa [hc] using h.conn
  cpos := h.cpos
  cur := by rw [initWin_snoc, hi]; exact h.cur
  led := fun hst st hm => by simpa [hs hst st.id (Or.inl ⟨st, hm, rfl⟩)] using h.led hst st hm
  fresh := fun hst sid h1 h2 => by simpa [hs hst sid (Or.inr ⟨h1, h2⟩)] using h.fresh hst sid h1 h2
  nosent := h.nosent

theorem connInc_stream {fr : Frame} (h : fr.stream ≠ 0) : connInc fr = 0 := by simp [connInc, h]
theorem initStep_stream {fr : Frame} (h : fr.stream ≠ 0) (w : Int) : initStep w fr = w := by simp [initStep, h]
theorem strmInc_typ {fr : Frame} (h : fr.typ ≠ Gen.c_FrameWindowUpdate) (sid : Nat) : strmInc sid fr = 0 := by
  simp [strmInc, h]
theorem strmInc_other {fr : Frame} {sid : Nat} (h : fr.stream ≠ sid) : strmInc sid fr = 0 := by
  simp [strmInc, h]
theorem strmInc_conn {fr : Frame} (h0 : fr.stream = 0) (sid : Nat) : strmInc sid fr = 0 := by simp [strmInc, h0]
theorem dataInc_typ {fr : Frame} (h : fr.typ ≠ Gen.c_FrameData) : dataInc fr = 0 := by simp [dataInc, h]
theorem dataInc_conn {fr : Frame} (h0 : fr.stream = 0) : dataInc fr = 0 := by simp [dataInc, h0]

theorem LedA.frame_stream (h : LedA O F r) (fr : Frame) (h0 : fr.stream ≠ 0)
    (hs : r.s.slStopped = false → ∀ sid, (∃ st ∈ r.s.strms, st.id = sid) ∨ (r.s.lastID < sid ∧ r.s.lastRefused < sid) →
      strmInc sid fr = 0) : LedA O (F ++ [fr]) r :=
  h.frame fr (connInc_stream h0) (initStep_stream h0) hs

theorem LedB.frame (h : LedB O F r) (fr : Frame) (hd : dataInc fr = 0) : LedB O (F ++ [fr]) r where
  bal := by simpa [hd] using h.bal
  lo := h.lo
  hi := h.hi

/-- after a GOAWAY the octets of a frame may go unaccounted -/
theorem LedB.lost (h : LedB O F r) (fr : Frame) (hga : 0 < cnt .goAway (O ++ r.out)) : LedB O (F ++ [fr]) r where
  bal := by
    obtain ⟨lost, h1, _⟩ := h.bal
    refine ⟨lost + dataInc fr, ?_, fun hz => by omega⟩
    simp only [dataFwd_append, dataFwd_single]
    omega
  lo := h.lo
  hi := h.hi

theorem Tbl.keys (t : Tbl r) (r' : R)
    (hk : r'.s.strms.map (fun s => (s.uid, s.id)) = r.s.strms.map (fun s => (s.uid, s.id)))
    (h1 : r'.s.lastID = r.s.lastID) (h2 : r'.s.nextUid = r.s.nextUid)
    (h3 : r'.s.ring = r.s.ring) (h4 : r'.s.resetByUs = r.s.resetByUs) (h5 : r'.s.lastRefused = r.s.lastRefused) : Tbl r' := by
  have hu : r'.s.strms.map (·.uid) = r.s.strms.map (·.uid) := by
    have := congrArg (List.map Prod.fst) hk
    simpa [List.map_map, Function.comp_def] using this
  have hi : r'.s.strms.map (·.id) = r.s.strms.map (·.id) := by
    have := congrArg (List.map Prod.snd) hk
    simpa [List.map_map, Function.comp_def] using this
  have hmem : ∀ st' ∈ r'.s.strms, ∃ st ∈ r.s.strms, st.uid = st'.uid ∧ st.id = st'.id := by
    intro st' hm
    have : (st'.uid, st'.id) ∈ r.s.strms.map (fun s => (s.uid, s.id)) := by
      rw [← hk]; exact List.mem_map.mpr ⟨st', hm, rfl⟩
    obtain ⟨st, hs, e⟩ := List.mem_map.mp this
    simp only [Prod.mk.injEq] at e
    exact ⟨st, hs, e.1, e.2⟩
  constructor
  · rw [hu]; exact t.un
  · rw [hi]; exact t.idn
  · intro st' hm
    obtain ⟨st, hs, _, e⟩ := hmem st' hm
    rw [h1, ← e]; exact t.ile st hs
  · intro st' hm
    obtain ⟨st, hs, e, _⟩ := hmem st' hm
    rw [h2, ← e]; exact t.ult st hs
  · intro st' hm
    obtain ⟨st, hs, _, e⟩ := hmem st' hm
    rw [← e]; exact t.id0 st hs
  · rw [h3, h1]; exact t.ringle
  · rw [h4, h1, h5]; exact t.rstle

theorem updStrm_keys (r : R) (uid : Nat) (f : Strm → Strm) (hf : ∀ x, (f x).uid = x.uid ∧ (f x).id = x.id) :
    (r.updStrm uid f).s.strms.map (fun s => (s.uid, s.id)) = r.s.strms.map (fun s => (s.uid, s.id)) := by
  simp only [R.updStrm, List.map_map]
  apply List.map_congr_left
  intro x _
  show ((if x.uid == uid then f x else x).uid, (if x.uid == uid then f x else x).id) = (x.uid, x.id)
  split
  · rw [(hf x).1, (hf x).2]
  · rfl

end

/-- the invariant as the functions below `slFrame` keep it: `FI`, and `W` are the frames the stream loop has taken in the
step so far. None of these functions touches `fwd`; with `W` carried here that need not be said function by function. -/
structure FW (O : List Out) (F W : List Frame) (r : R) : Prop extends FI O F r where
  fwd : r.fwd = W

section
variable {O : List Out} {F W : List Frame} {r r' : R}

theorem FW.quiet (h : FW O F W r) (q : Quiet r r') : FW O F W r' := ⟨h.toFI.quiet q, q.fwd.trans h.fwd⟩

theorem FW.frame_plain (h : FW O F W r) (fr : Frame) (h0 : fr.stream ≠ 0) (h1 : fr.typ ≠ Gen.c_FrameWindowUpdate)
    (h2 : fr.typ ≠ Gen.c_FrameData) : FW O (F ++ [fr]) W r :=
  ⟨⟨h.t, h.a.frame_stream fr h0 fun _ sid _ => strmInc_typ h1 sid, h.b.frame fr (dataInc_typ h2), h.p⟩, h.fwd⟩

theorem FW.frame_absent (h : FW O F W r) (fr : Frame) (h0 : fr.stream ≠ 0) (habs : ∀ st ∈ r.s.strms, st.id ≠ fr.stream)
    (hle : fr.stream ≤ r.s.lastID ∨ fr.stream ≤ r.s.lastRefused) (h2 : fr.typ ≠ Gen.c_FrameData) :
    FW O (F ++ [fr]) W r := by
  refine ⟨⟨h.t, h.a.frame_stream fr h0 fun _ sid hs => strmInc_other ?_, h.b.frame fr (dataInc_typ h2), h.p⟩, h.fwd⟩
  rcases hs with ⟨st, hm, rfl⟩ | ⟨a, b⟩
  · exact fun e => habs st hm e.symm
  · omega

/-- after a connection error the stream loop is stopped and a GOAWAY is out: the frame that caused it is filed -/
theorem FW.frame_dead (h : FW O F W r) (fr : Frame) (h0 : fr.stream ≠ 0) (hst : r.s.slStopped = true)
    (hga : 0 < cnt .goAway (O ++ r.out)) : FW O (F ++ [fr]) W r :=
  ⟨⟨h.t, h.a.frame_stream fr h0 (fun hc => by rw [hst] at hc; cases hc), h.b.lost fr hga, h.p⟩, h.fwd⟩

end

/-! ### sending DATA -/

section
variable {O : List Out} {F W : List Frame} {r : R}

theorem sendFrame_fi (h : FW O F W r) (uid : Nat) (st : Strm) (step : Nat) (hg : r.getStrm uid = some st)
    (hstep : (step : Int) ≤ r.s.clientWindow) (hsm : step ≤ 16384) : FW O F W (sendFrame r uid st step).1 := by
  obtain ⟨hm, hu, huu, hii⟩ := h.t.the hg
  obtain ⟨⟨es, d, hout⟩, hcw, hstr⟩ := sendFrame_spec r uid st step
  refine ⟨⟨?_, ⟨?_, ?_, h.a.cur, ?_, h.a.fresh, ?_⟩, ⟨?_, h.b.lo, h.b.hi⟩, h.p.1, ?_⟩, h.fwd⟩
  · exact h.t.keys _ (updStrm_keys (r.emit _) uid _ fun _ => ⟨rfl, rfl⟩) rfl rfl rfl rfl rfl
  · have := h.a.conn
    rw [hcw, hout]
    simp only [sentC_append, sentC_single, Out.dataLen] at this ⊢
    omega
  · rw [hcw]; omega
  · intro hs st' hm'
    rw [hstr] at hm'
    obtain ⟨x, hx, rfl⟩ := List.mem_map.mp hm'
    have hx0 := h.a.led hs x hx
    rw [hout]
    show _ = r.s.curInitWin + _
    by_cases hxu : x.uid = uid
    · have := huu x hx hxu
      subst this
      simp only [hxu, beq_self_eq_true, if_true]
      simp only [sentS_append, sentS_single, Out.dataOn, if_true, sentStrm] at hx0 ⊢
      omega
    · have hne : st.id ≠ x.id := fun e => hxu (by rw [hii x hx e.symm]; exact hu)
      simp only [hxu, beq_iff_eq, if_false]
      simp only [sentS_append, sentS_single, Out.dataOn, hne, if_false] at hx0 ⊢
      omega
  · intro sid hl
    have hl : r.s.lastID < sid := hl
    have := h.a.nosent sid hl
    have hne : st.id ≠ sid := by have := h.t.ile st hm; omega
    rw [hout]
    simp only [sentS_append, sentS_single, Out.dataOn, hne, if_false] at this ⊢
    omega
  · obtain ⟨lost, h1, h2⟩ := h.b.bal
    refine ⟨lost, ?_, ?_⟩
    · rw [hout]
      simp only [cred0_append, cred0_single, Out.credit] at h1 ⊢
      exact h1
    · rw [hout]
      intro hz; apply h2
      simp only [cnt_append, cnt_single, Out.kind] at hz ⊢
      simpa using hz
  · rw [hout]
    intro o ho
    rw [← List.append_assoc] at ho
    rcases List.mem_append.mp ho with ho | ho
    · exact h.p.2 o ho
    · simp only [List.mem_singleton] at ho; subst ho
      simp only [Out.bad, decide_eq_false_iff_not]; omega

theorem sendRound_fi (h : FW O F W r) (uid : Nat) (st : Strm) (hg : r.getStrm uid = some st)
    (hx : (refill r uid st).2.2 = false) :
    FW O F W (sendFrame (refill r uid st).1 uid (refill r uid st).2.1 (dataStep (refill r uid st).1 (refill r uid st).2.1)).1 := by
  obtain ⟨q, _, _, hgo⟩ := refill_spec h.t uid st hg
  refine sendFrame_fi (h.quiet q) uid _ _ (hgo hx).1 ?_ ?_
  · have := (h.quiet q).a.cpos
    unfold dataStep availOf; split <;> omega
  · unfold dataStep; have : Gen.c_maxDataFrameSize = 16384 := rfl; omega

theorem sendDataFuel_fi (fuel : Nat) (uid : Nat) (h : FW O F W r) : FW O F W (sendDataFuel fuel r uid).1 :=
  sendDataFuel_ind (P := fun r x => FW O F W r → FW O F W x.1) uid
    (fun _ h => h)
    (fun _ _ h => h)
    (fun _ st hg _ h => (h.quiet (refill_spec h.t uid st hg).1).quiet (closeBody_quiet _ _))
    (fun _ st hg _ _ h => h.quiet (refill_spec h.t uid st hg).1)
    (fun _ st hg hx _ h => (sendRound_fi h uid st hg hx).quiet (closeBody_quiet _ _))
    (fun _ st _ hg hx _ ih h => ih (sendRound_fi h uid st hg hx))
    fuel r h

theorem sendData_fi (uid : Nat) (h : FW O F W r) : FW O F W (sendData r uid).1 := by
  simp only [sendData]
  split
  · exact h
  · exact sendDataFuel_fi _ _ h

theorem flushOne_fi (acc : R × List Nat) (uid : Nat) (h : FW O F W acc.1) : FW O F W (flushOne acc uid).1 := by
  rcases flushOne_sends acc uid with e | e
  · rw [e]; exact h
  · rw [e]; exact sendData_fi uid h

theorem flushStreams_fi (h : FW O F W r) : FW O F W (flushStreams r) := by
  simp only [flushStreams]
  have h1 : FW O F W ((r.s.strms.map (·.uid)).foldl flushOne (r, [])).1 :=
    foldl_inv (fun acc : R × List Nat => FW O F W acc.1) flushOne (fun b a hb => flushOne_fi b a hb) _ _ h
  exact foldl_inv (fun x : R => FW O F W x) closeDone (fun b a hb => hb.quiet (closeDone_quiet hb.t a)) _ _ h1

theorem finishRequest_fi (uid : Nat) (resp : Resp) (h : FW O F W r) : FW O F W (finishRequest r uid resp).1 := by
  obtain ⟨r0, q, _, e | e⟩ := finishRequest_sends (r := r) uid resp
  · rw [e]; exact h.quiet q
  · rw [e]; exact sendData_fi uid (h.quiet q)

theorem dispatchOrSend_fi (uid : Nat) (st : Strm) (hle : st.id ≤ r.s.lastID) (h : FW O F W r) :
    FW O F W (dispatchOrSend r uid st) := by
  rcases dispatchOrSend_sends uid st hle with q | ⟨r1, q, e⟩
  · exact h.quiet q
  · rw [e]; exact (sendData_fi uid h).quiet q

end

/-! ### charging received DATA to the connection window -/

section
variable {O : List Out} {F W : List Frame} {r : R}

theorem setRecv_fi (h : FW O F W r) (w : Int) (l : List Out) (F' : List Frame)
    (h1 : sentC l = 0) (h2 : ∀ sid, sentS sid l = 0) (h3 : cnt .goAway l = 0) (h4 : ∀ o ∈ l, o.bad = false) (hA : LedA O F' r)
    (hbal : w + (dataFwd F' : Int) = r.s.recvWin + (dataFwd F : Int) + (cred0 l : Int))
    (hlo : ((Gen.c_serverMaxWindow : Nat) : Int) / 2 ≤ w) (hhi : w ≤ ((Gen.c_serverMaxWindow : Nat) : Int)) :
    FW O F' W (setRecv r w l) where
  t := h.t.keys _ rfl rfl rfl rfl rfl rfl
  a := {
    conn := by
      have := hA.conn
      simp only [setRecv, sentC_append, h1] at this ⊢
      omega
    cpos := hA.cpos
    cur := hA.cur
    led := fun hs st hm => by
      have := hA.led hs st hm
      simp only [setRecv, sentS_append, h2] at this ⊢
      omega
    fresh := hA.fresh
    nosent := fun sid hl => by
      have := hA.nosent sid hl
      simp only [setRecv, sentS_append, h2] at this ⊢
      omega }
  b := {
    bal := by
      obtain ⟨lost, e1, e2⟩ := h.b.bal
      refine ⟨lost, ?_, ?_⟩
      · simp only [setRecv, cred0_append] at e1 ⊢
        omega
      · intro hz; apply e2
        simp only [setRecv, cnt_append, h3] at hz ⊢
        omega
    lo := hlo
    hi := hhi }
  p := by
    refine ⟨h.p.1, ?_⟩
    intro o ho
    simp only [setRecv, ← List.append_assoc] at ho
    rcases List.mem_append.mp ho with ho | ho
    · exact h.p.2 o ho
    · exact h4 o ho
  fwd := h.fwd

theorem consumeConn_fi (h : FW O F W r) (fr : Frame) (h0 : fr.stream ≠ 0) (ht : fr.typ = Gen.c_FrameData) :
    FW O (F ++ [fr]) W (consumeConnWindow r fr.length) := by
  have hA : LedA O (F ++ [fr]) r := h.a.frame_stream fr h0 fun _ sid _ => strmInc_typ (by rw [ht]; decide) sid
  have hd : dataFwd (F ++ [fr]) = dataFwd F + fr.length := by simp [dataInc, h0, ht]
  have hlo := h.b.lo
  have hhi := h.b.hi
  rw [consumeConnWindow_eq]
  split
  · rename_i hz
    have hz : fr.length = 0 := by simpa using hz
    exact ⟨⟨h.t, hA, (h.b.frame fr (by simp [dataInc, hz])), h.p⟩, h.fwd⟩
  · split
    · refine setRecv_fi h _ _ _ (by simp [Out.dataLen]) (by intro sid; simp [Out.dataOn]) (by simp [Out.kind])
        (by intro o ho; simp only [List.mem_singleton] at ho; subst ho
            simp only [Out.bad, beq_eq_false_iff_ne, ne_eq]; omega) hA ?_ ?_ ?_
      · rw [hd]; simp only [cred0_single, Out.credit, if_true]; omega
      · omega
      · omega
    · refine setRecv_fi h _ _ _ rfl (fun _ => rfl) rfl (by intro o ho; cases ho) hA ?_ ?_ ?_
      · rw [hd]; simp only [cred0_nil]; omega
      · omega
      · omega

theorem consumeRecv_fi (h : FW O F W r) (fr : Frame) (h0 : fr.stream ≠ 0) (ht : fr.typ = Gen.c_FrameData) (st : Strm)
    (hid : st.id ≠ 0) : FW O (F ++ [fr]) W (consumeRecvWindow r st fr fr.length) := by
  rw [consumeRecvWindow_eq]
  refine ite_ind (P := fun x => FW O (F ++ [fr]) W (consumeConnWindow x fr.length)) (fun hc => ?_)
    (fun _ => consumeConn_fi h fr h0 ht)
  exact consumeConn_fi (h.quiet (emit_quiet r _ rfl (by simp [Out.credit, hid]) (by simpa [Out.bad] using hc.1))) fr h0 ht

end

/-! ### a frame for a stream of the table -/

/-- `uid` is the stream of the table that carries the id of the frame, if any does -/
structure Owns (r : R) (uid : Nat) (fr : Frame) : Prop where
  le : fr.stream ≤ r.s.lastID
  byId : ∀ st ∈ r.s.strms, st.id = fr.stream → st.uid = uid
  byUid : ∀ st ∈ r.s.strms, st.uid = uid → st.id = fr.stream

theorem Owns.quiet {r r' : R} {uid : Nat} {fr : Frame} (o : Owns r uid fr) (q : Quiet r r') : Owns r' uid fr where
  le := by rw [q.lid]; exact o.le
  byId := fun st' hm hi => by
    obtain ⟨st, hs, hu, hi', _⟩ := q.was hm
    rw [← hu]; exact o.byId st hs (by rw [hi', hi])
  byUid := fun st' hm hu => by
    obtain ⟨st, hs, hu', hi', _⟩ := q.was hm
    rw [← hi']; exact o.byUid st hs (by rw [hu', hu])

section
variable {O : List Out} {F W : List Frame} {r : R}

theorem wu_fi (h : FW O F W r) (uid : Nat) (st : Strm) (fr : Frame) (hg : r.getStrm uid = some st) (h0 : fr.stream ≠ 0)
    (ht : fr.typ = Gen.c_FrameWindowUpdate) (ow : Owns r uid fr) :
    FW O (F ++ [fr]) W (r.updStrm uid fun s => { s with window := st.window + wuOf fr }) := by
  obtain ⟨hm, hu, huu, hii⟩ := h.t.the hg
  have hsid : st.id = fr.stream := ow.byUid st hm hu
  have hmine : strmInc st.id fr = wuOf fr := by
    have e : (fr.stream != 0 && fr.stream == st.id && fr.typ == Gen.c_FrameWindowUpdate) = true := by simp [h0, hsid, ht]
    unfold strmInc wuOf
    rw [if_pos e]
    cases fr.body <;> rfl
  have hstr : (r.updStrm uid fun s => { s with window := st.window + wuOf fr }).s.strms =
      r.s.strms.map (fun s => if s.uid == uid then { s with window := st.window + wuOf fr } else s) := rfl
  have hb := h.b.frame fr (dataInc_typ (by rw [ht]; decide))
  refine ⟨⟨?_, ⟨?_, h.a.cpos, ?_, ?_, ?_, h.a.nosent⟩, ⟨hb.bal, hb.lo, hb.hi⟩, h.p⟩, h.fwd⟩
  · exact h.t.keys _ (updStrm_keys r uid _ fun _ => ⟨rfl, rfl⟩) rfl rfl rfl rfl rfl
  · show r.s.clientWindow + (sentC (O ++ r.out) : Int) = _
    simpa [connInc_stream h0] using h.a.conn
  · rw [initWin_snoc, initStep_stream h0]; exact h.a.cur
  · intro hs st' hm'
    rw [hstr] at hm'
    obtain ⟨x, hx, rfl⟩ := List.mem_map.mp hm'
    have hx0 := h.a.led hs x hx
    show _ + (sentS _ (O ++ r.out) : Int) = r.s.curInitWin + _
    by_cases hxu : x.uid = uid
    · have := huu x hx hxu
      subst this
      simp only [hxu, beq_self_eq_true, if_true, wuS_append, wuS_single, hmine]
      omega
    · have hne : fr.stream ≠ x.id := fun e => hxu (ow.byId x hx e.symm)
      simp only [hxu, beq_iff_eq, if_false, wuS_append, wuS_single, strmInc_other hne]
      omega
  · intro hs sid h1 h2
    have h1 : r.s.lastID < sid := h1
    have hz : strmInc sid fr = 0 := strmInc_other (by have := ow.le; omega)
    simpa [hz] using h.a.fresh hs sid h1 h2

theorem dec_quiet (r : R) (d : Hpack.DecState) : Quiet r ({ r with s := { r.s with dec := d } } : R) := { Quiet.refl r with }

theorem hhf_quiet (t : Tbl r) (uid : Nat) (st : Strm) (fr : Frame) (hg : r.getStrm uid = some st) :
    Quiet r (hdrUpd r uid st fr) := by
  obtain ⟨k1, k2⟩ := handleHeaderFrame_keeps r.s st fr
  unfold hdrUpd
  rw [k1]
  have q := dec_quiet r (handleHeaderFrame r.s st fr).1.dec
  exact q.trans (updc_quiet (q.tbl t) uid st _ hg (congrArg (fun c : Strm.Core => (c.uid, c.id, c.window)) k2))

theorem hfHeaders_quiet (t : Tbl r) (uid : Nat) (st : Strm) (fr : Frame) (hg : r.getStrm uid = some st) :
    Quiet r (hfHeaders r uid st fr).1 := by
  have q := hhf_quiet t uid st fr hg
  have q' := q.trans (upd_quiet _ uid
    (fun s => { s with headersFinished := (handleHeaderFrame r.s st fr).2.1.prevHdr.isEmpty }) fun _ _ _ => rfl)
  unfold hfHeaders
  refine ite_ind (P := fun x : R × Option SErr => Quiet r x.1) (fun _ => Quiet.refl r) fun _ => ?_
  dsimp only
  cases (handleHeaderFrame r.s st fr).2.2 with
  | some e => exact q
  | none =>
    exact ite_ind (P := fun x : R × Option SErr => Quiet r x.1)
      (fun _ => ite_ind (P := fun x : R × Option SErr => Quiet r x.1) (fun _ => q') (fun _ => q')) (fun _ => q)

/-- the outcomes of handling a frame for the stream `uid`: a connection error that leaves the state alone (the loop
will stop), or the invariant for the frame list with that frame -/
def FrameDone (O : List Out) (F W : List Frame) (r : R) (uid : Nat) (fr : Frame) (x : R × Option SErr) : Prop :=
  (∃ code tag st, x.2 = some (.goAway code tag) ∧ code ≠ Gen.c_NoError ∧ x.1 = r ∧ r.getStrm uid = some st) ∨
    FW O (F ++ [fr]) W x.1

theorem handleFrame_fi (h : FW O F W r) (uid : Nat) (fr : Frame) (h0 : fr.stream ≠ 0) (ow : Owns r uid fr)
    (hex : fr.typ = Gen.c_FrameData → ∃ st, r.getStrm uid = some st) :
    FrameDone O F W r uid fr (handleFrame r uid fr) := by
  have hdr : fr.typ = Gen.c_FrameHeaders ∨ fr.typ = Gen.c_FrameContinuation → ∀ {r' : R}, Quiet r r' →
      FW O (F ++ [fr]) W r' := fun ht r' q =>
    (h.quiet q).frame_plain fr h0 (by rcases ht with e | e <;> (rw [e]; decide)) (by rcases ht with e | e <;> (rw [e]; decide))
  refine handleFrame_outcomes (P := FrameDone O F W r uid fr) r uid fr ?_ ?_ ?_ ?_ ?_ ?_ ?_ ?_ ?_
  · intro hg
    have habs : ∀ st ∈ r.s.strms, st.id ≠ fr.stream := by
      intro st hm e
      have h2 := List.find?_eq_none.mp hg st hm
      rw [ow.byId st hm e] at h2
      exact h2 (beq_self_eq_true uid)
    refine Or.inr (h.frame_absent fr h0 habs (Or.inl ow.le) fun e => ?_)
    obtain ⟨st, hs⟩ := hex e
    rw [hs] at hg; cases hg
  · exact fun st code tag hg hc => Or.inl ⟨code, tag, st, rfl, hc, rfl, hg⟩
  · exact fun ht _ _ => Or.inr (h.frame_plain fr h0 (by rcases ht with e | e <;> (rw [e]; decide))
      (by rcases ht with e | e <;> (rw [e]; decide)))
  · exact fun ht st _ hg _ _ => Or.inr (hdr ht (hhf_quiet h.t uid st fr hg))
  · exact fun ht st hg _ _ => Or.inr (hdr ht (hhf_quiet h.t uid st fr hg))
  · exact fun ht st hg _ _ _ => Or.inr (hdr ht ((hhf_quiet h.t uid st fr hg).trans (upd_quiet _ _ _ fun _ _ _ => rfl)))
  · exact fun ht st hg _ => Or.inr (consumeConn_fi (h.quiet (updc_quiet h.t uid st (recvd st fr) hg rfl)) fr h0 ht)
  · intro ht st hg _
    have q := (updc_quiet h.t uid st (recvd st fr) hg rfl).trans
      (upd_quiet _ uid (fun s => { s with body := s.body.add (dataOf fr) }) fun _ _ _ => rfl)
    exact Or.inr (consumeRecv_fi (h.quiet q) fr h0 ht (recvd st fr) (h.t.id0 st (h.t.the hg).1))
  · exact fun ht st hg _ => Or.inr (wu_fi h uid st fr hg h0 ht ow)

/-! ### a frame for a stream that is not in the table -/

/-- a connection error answered with GOAWAY for a frame that is not a WINDOW_UPDATE: its octets, if it is DATA, go
unaccounted -/
theorem FW.goaway_frame (h : FW O F W r) (fr : Frame) (h0 : fr.stream ≠ 0) (hnw : fr.typ ≠ Gen.c_FrameWindowUpdate)
    (sid code : Nat) (tag : String) : FW O (F ++ [fr]) W (writeGoAway r sid code tag) := by
  have h1 := h.quiet (writeGoAway_quiet r sid code tag)
  refine ⟨⟨h1.t, h1.a.frame_stream fr h0 fun _ sid _ => strmInc_typ hnw sid, h1.b.lost fr ?_, h1.p⟩, h1.fwd⟩
  simp only [cnt_append, writeGoAway_ga]
  omega

theorem FW.goaway_stop (h : FW O F W r) (fr : Frame) (h0 : fr.stream ≠ 0) (sid code : Nat) (tag : String) :
    FW O (F ++ [fr]) W (stopLoop (writeGoAway r sid code tag)) := by
  have h1 := h.quiet ((writeGoAway_quiet r sid code tag).trans (stopLoop_quiet _))
  refine h1.frame_dead fr h0 rfl ?_
  rw [stopLoop_out, cnt_append, writeGoAway_ga]
  omega

/-- what `unknownStream` leaves: no stream to go on with and the frame filed, or a new stream that owns the frame -/
def UnknownDone (O : List Out) (F W : List Frame) (fr : Frame) (u : R × Option Nat) : Prop :=
  (u.2 = none ∧ FW O (F ++ [fr]) W u.1) ∨
    (∃ uid st, u.2 = some uid ∧ FW O F W u.1 ∧ Owns u.1 uid fr ∧ fr.typ = Gen.c_FrameHeaders ∧ u.1.getStrm uid = some st)

theorem refuse_fi (h : FW O F W r) (fr : Frame) (h0 : fr.stream ≠ 0) (ht : fr.typ = Gen.c_FrameHeaders) :
    FW O (F ++ [fr]) W (writeReset { r with s := { r.s with lastRefused := max r.s.lastRefused fr.stream } } fr.stream
      Gen.c_RefusedStreamError) := by
  have h1 : FW O F W ({ r with s := { r.s with lastRefused := max r.s.lastRefused fr.stream } } : R) := by
    refine ⟨⟨⟨h.t.un, h.t.idn, h.t.ile, h.t.ult, h.t.id0, h.t.ringle, ?_⟩,
      ⟨h.a.conn, h.a.cpos, h.a.cur, h.a.led, ?_, h.a.nosent⟩, ⟨h.b.bal, h.b.lo, h.b.hi⟩, h.p⟩, h.fwd⟩
    · intro x hx
      rcases h.t.rstle x hx with e | e
      · exact Or.inl e
      · right; show x ≤ max r.s.lastRefused fr.stream; omega
    · intro hs sid h1 h2
      have h2 : max r.s.lastRefused fr.stream < sid := h2
      exact h.a.fresh hs sid h1 (by omega)
  have h2 := h1.quiet (writeReset_quiet _ fr.stream Gen.c_RefusedStreamError
    (Or.inr (by show fr.stream ≤ max r.s.lastRefused fr.stream; omega)))
  exact h2.frame_plain fr h0 (by rw [ht]; decide) (by rw [ht]; decide)

/-- a new stream starts with the initial window in force; `fresh` and `nosent` say its id has nothing behind it -/
theorem new_fi (h : FW O F W r) (fr : Frame) (h0 : fr.stream ≠ 0) (h1 : r.s.lastID < fr.stream) (h2 : r.s.lastRefused < fr.stream) :
    FW O F W (withNew r fr) ∧ Owns (withNew r fr) r.s.nextUid fr ∧ ∃ st, (withNew r fr).getStrm r.s.nextUid = some st := by
  have hstr : (withNew r fr).s.strms = r.s.strms ++ [{ uid := r.s.nextUid, id := fr.stream, window := r.s.curInitWin, origType := fr.typ }] := rfl
  have hlid : (withNew r fr).s.lastID = fr.stream := rfl
  have hmem : ∀ st ∈ (withNew r fr).s.strms, st ∈ r.s.strms ∨
      st = { uid := r.s.nextUid, id := fr.stream, window := r.s.curInitWin, origType := fr.typ } := by
    intro st hm
    rw [hstr] at hm
    rcases List.mem_append.mp hm with hm | hm
    · exact Or.inl hm
    · exact Or.inr (List.mem_singleton.mp hm)
  refine ⟨⟨⟨?_, ?_, ⟨h.b.bal, h.b.lo, h.b.hi⟩, h.p⟩, h.fwd⟩, ?_, ?_⟩
  · constructor
    · rw [hstr, List.map_append, List.nodup_append]
      refine ⟨h.t.un, by simp, ?_⟩
      intro a ha b hb
      simp only [List.map_cons, List.map_nil, List.mem_singleton] at hb
      obtain ⟨x, hx, rfl⟩ := List.mem_map.mp ha
      have := h.t.ult x hx
      omega
    · rw [hstr, List.map_append, List.nodup_append]
      refine ⟨h.t.idn, by simp, ?_⟩
      intro a ha b hb
      simp only [List.map_cons, List.map_nil, List.mem_singleton] at hb
      obtain ⟨x, hx, rfl⟩ := List.mem_map.mp ha
      have := h.t.ile x hx
      omega
    · intro st hm
      rw [hlid]
      rcases hmem st hm with hm | rfl
      · have := h.t.ile st hm; omega
      · exact Nat.le_refl _
    · intro st hm
      show st.uid < r.s.nextUid + 1
      rcases hmem st hm with hm | rfl
      · have := h.t.ult st hm; omega
      · exact Nat.lt_succ_self _
    · intro st hm
      rcases hmem st hm with hm | rfl
      · exact h.t.id0 st hm
      · exact h0
    · intro x hx
      rw [hlid]
      have := h.t.ringle x hx; omega
    · intro x hx
      rw [hlid]
      rcases h.t.rstle x hx with e | e
      · left; omega
      · exact Or.inr e
  · constructor
    · exact h.a.conn
    · exact h.a.cpos
    · exact h.a.cur
    · intro hs st hm
      rcases hmem st hm with hm | rfl
      · exact h.a.led hs st hm
      · have e1 := h.a.nosent fr.stream h1
        have e2 := h.a.fresh hs fr.stream h1 h2
        show r.s.curInitWin + (sentS fr.stream (O ++ r.out) : Int) = r.s.curInitWin + (wuS fr.stream F : Int)
        rw [e1, e2]
    · intro hs sid h3 h4
      rw [hlid] at h3
      exact h.a.fresh hs sid (by omega) h4
    · intro sid h3
      rw [hlid] at h3
      exact h.a.nosent sid (by omega)
  · constructor
    · rw [hlid]; exact Nat.le_refl _
    · intro st hm hi
      rcases hmem st hm with hm | rfl
      · have := h.t.ile st hm; omega
      · rfl
    · intro st hm hu
      rcases hmem st hm with hm | rfl
      · have := h.t.ult st hm; omega
      · rfl
  · have : ((withNew r fr).getStrm r.s.nextUid).isSome = true := by
      simp only [R.getStrm, hstr, List.find?_isSome]
      exact ⟨_, List.mem_append_right _ (List.mem_singleton.mpr rfl), by simp⟩
    exact Option.isSome_iff_exists.mp this

theorem unknownStream_fi (h : FW O F W r) (fr : Frame) (wc : Bool) (h0 : fr.stream ≠ 0)
    (habs : ∀ st ∈ r.s.strms, st.id ≠ fr.stream) : UnknownDone O F W fr (unknownStream r fr wc) := by
  -- a connection error after which the loop goes on until the promised streams are done
  have ga : fr.typ ≠ Gen.c_FrameWindowUpdate → ∀ code tag, code ≠ Gen.c_NoError →
      UnknownDone O F W fr (closeIfDone (writeGoAway r fr.stream code tag), none) := fun hnw code tag _ =>
    Or.inl ⟨rfl, (h.goaway_frame fr h0 hnw _ _ _).quiet (closeIfDone_quiet _)⟩
  refine unknownStream_outcomes (P := UnknownDone O F W fr) r fr wc ?_ ?_ ?_ ?_ ?_ ?_ ga ?_ ?_ ?_
  · exact fun hc ht => Or.inl ⟨rfl, h.frame_absent fr h0 habs (h.t.rstle fr.stream (by simpa using hc)) ht⟩
  · exact fun _ ht => Or.inl ⟨rfl, consumeConn_fi h fr h0 ht⟩
  · exact fun ht _ => Or.inl ⟨rfl, h.frame_plain fr h0 (by rw [ht]; decide) (by rw [ht]; decide)⟩
  · exact fun hc ht => Or.inl ⟨rfl, h.frame_absent fr h0 habs (Or.inl (h.t.ringle fr.stream (by simpa using hc)))
      (by rcases ht with e | e <;> (rw [e]; decide))⟩
  · exact fun ht => Or.inl ⟨rfl, h.frame_plain fr h0 (by rw [ht]; decide) (by rw [ht]; decide)⟩
  · exact fun ht hle => Or.inl ⟨rfl, h.frame_absent fr h0 habs (Or.inl hle) (by rw [ht]; decide)⟩
  · exact fun _ _ _ => Or.inl ⟨rfl, h.goaway_stop fr h0 _ _ _⟩
  · exact fun ht => Or.inl ⟨rfl, refuse_fi h fr h0 ht⟩
  · intro ht _ _ _ _ h1 h2
    obtain ⟨a, b, st, c⟩ := new_fi h fr h0 h1 h2
    exact Or.inr ⟨r.s.nextUid, st, rfl, a, b, ht, c⟩

/-! ### `knownStream`, `slStreamFrame` -/

theorem handleState_wk (fr : Frame) (x : Strm) : (handleState fr x).wk = x.wk := by
  rw [handleState_after]; rfl

/-- after `headersPrelude`, `handleFrame` and `onFrameError`: when the loop is to be left the invariant holds once it is
stopped (a connection error may have left a DATA or WINDOW_UPDATE frame unaccounted: the GOAWAY is out); otherwise it
holds as it is -/
theorem afterFrame_fi (h : FW O F W r) (uid : Nat) (fr : Frame) (h0 : fr.stream ≠ 0) (ow : Owns r uid fr)
    (hex : ∃ st, r.getStrm uid = some st) :
    ((afterFrame r uid fr).2 = true → FW O (F ++ [fr]) W (stopLoop (afterFrame r uid fr).1)) ∧
    ((afterFrame r uid fr).2 = false → FW O (F ++ [fr]) W (afterFrame r uid fr).1) := by
  have q := headersPrelude_quiet h.t fr
  have h1 := h.quiet q
  have hex1 : fr.typ = Gen.c_FrameData → ∃ st, (headersPrelude r fr).1.getStrm uid = some st := by
    intro e
    rw [headersPrelude_other r fr (by rw [e]; decide)]
    exact hex
  unfold afterFrame
  rcases handleFrame_fi h1 uid fr h0 (ow.quiet q) hex1 with ⟨code, tag, st, e2, hc, e1, hg⟩ | hr
  · -- a connection error, the state as it was: GOAWAY, the frame is filed once the loop has stopped
    rw [e2, e1]
    have e : onFrameError (headersPrelude r fr).1 uid (some (.goAway code tag)) =
        ((writeError (headersPrelude r fr).1 uid (.goAway code tag)).updStrm uid fun s => { s with state := .closed },
          code != Gen.c_NoError) := rfl
    rw [e]
    refine ⟨fun _ => ?_, fun hb => absurd hb (by simpa using hc)⟩
    have qe := (writeError_quiet h1.t uid (.goAway code tag)).trans
      (upd_quiet _ uid (fun s => { s with state := .closed }) fun _ _ _ => rfl)
    refine (h1.quiet (qe.trans (stopLoop_quiet _))).frame_dead fr h0 rfl ?_
    rw [stopLoop_out, updStrm_out, cnt_append, writeError_ga _ uid code tag st hg]
    omega
  · have h2 := hr.quiet (onFrameError_quiet hr.t uid (handleFrame (headersPrelude r fr).1 uid fr).2)
    exact ⟨fun _ => h2.quiet (stopLoop_quiet _), fun _ => h2⟩

theorem knownStream_fi (h : FW O F W r) (uid : Nat) (fr : Frame) (wc : Bool) (h0 : fr.stream ≠ 0) (ow : Owns r uid fr)
    (hex : ∃ st, r.getStrm uid = some st) : FW O (F ++ [fr]) W (knownStream r uid fr wc) := by
  obtain ⟨hstop, hgo⟩ := afterFrame_fi h uid fr h0 ow hex
  have hst := fun hf => (hgo hf).quiet (upd_quiet _ uid (handleState fr) fun x _ _ => handleState_wk fr x)
  refine knownStream_outcomes (P := FW O (F ++ [fr]) W) r uid fr wc (fun hp => ?_) hstop (fun hf _ => hst hf)
    (fun hf st hg b => ?_)
  · -- `headersPrelude` turns away a HEADERS frame only
    by_cases hH : fr.typ = Gen.c_FrameHeaders
    · exact (h.quiet (headersPrelude_quiet h.t fr)).frame_plain fr h0 (by rw [hH]; decide) (by rw [hH]; decide)
    · rw [headersPrelude_other r fr hH] at hp; cases hp
  · have h3 := dispatchOrSend_fi uid st ((hst hf).t.ile st (List.mem_of_find?_eq_some hg)) (hst hf)
    have h4 := h3.quiet (closeIfClosed_quiet h3.t uid)
    cases b
    · exact h4
    · exact h4.quiet (stopLoop_quiet _)

theorem getStrm_some_of_mem {r : R} {st : Strm} (hm : st ∈ r.s.strms) : ∃ st', r.getStrm st.uid = some st' := by
  have : (r.getStrm st.uid).isSome = true := by
    simp only [R.getStrm, List.find?_isSome]
    exact ⟨st, hm, by simp⟩
  exact Option.isSome_iff_exists.mp this

theorem slStreamFrame_fi (h : FW O F W r) (fr : Frame) (h0 : fr.stream ≠ 0) : FW O (F ++ [fr]) W (slStreamFrame r fr) := by
  have habs : (if fr.stream ≤ r.s.lastID then r.s.strms.find? (·.id == fr.stream) else none) = none →
      ∀ st ∈ r.s.strms, st.id ≠ fr.stream := by
    intro hf st hm e
    split at hf
    · have := List.find?_eq_none.mp hf st hm
      simp [e] at this
    · have := h.t.ile st hm
      omega
  refine slStreamFrame_cases (P := FW O (F ++ [fr]) W) r fr (fun st hf => ?_) (fun hf hu => ?_) (fun uid hf hu => ?_)
  · have hf' : r.s.strms.find? (·.id == fr.stream) = some st := by
      split at hf
      · exact hf
      · cases hf
    have hm : st ∈ r.s.strms := List.mem_of_find?_eq_some hf'
    have hid : st.id = fr.stream := by simpa using List.find?_some hf'
    refine knownStream_fi h st.uid fr _ h0 ⟨?_, ?_, ?_⟩ (getStrm_some_of_mem hm)
    · rw [← hid]; exact h.t.ile st hm
    · intro x hx hi
      rw [nodup_map_inj (·.id) _ h.t.idn x st hx hm (by rw [hi, hid])]
    · intro x hx hu
      rw [nodup_map_inj (·.uid) _ h.t.un x st hx hm hu]; exact hid
  · rcases unknownStream_fi h fr r.s.closing h0 (habs hf) with ⟨_, hx⟩ | ⟨_, _, e, _⟩
    · exact hx
    · rw [hu] at e; cases e
  · rcases unknownStream_fi h fr r.s.closing h0 (habs hf) with ⟨e, _⟩ | ⟨uid', st, e, hx, ow, _, hg⟩
    · rw [hu] at e; cases e
    · obtain rfl : uid' = uid := Option.some.inj (e.symm.trans hu)
      exact knownStream_fi hx uid' fr _ h0 ow ⟨st, hg⟩

end

/-! ### only `slFrame` appends to `fwd` -/

@[simp] theorem updStrm_fwd (r : R) (uid : Nat) (f : Strm → Strm) : (r.updStrm uid f).fwd = r.fwd := rfl
@[simp] theorem emit_fwd (r : R) (o : Out) : (r.emit o).fwd = r.fwd := rfl
@[simp] theorem stopLoop_fwd (r : R) : (stopLoop r).fwd = r.fwd := rfl
@[simp] theorem rlStop_fwd (r : R) : (rlStop r).fwd = r.fwd := rfl
@[simp] theorem closeBody_fwd (r : R) (uid : Nat) : (closeBody r uid).fwd = r.fwd := rfl
@[simp] theorem writeReset_fwd (r : R) (sid code : Nat) : (writeReset r sid code).fwd = r.fwd := rfl
@[simp] theorem sendFrame_fwd (r : R) (uid : Nat) (st : Strm) (step : Nat) : (sendFrame r uid st step).1.fwd = r.fwd := rfl

/-! ### frames on stream 0 taken by the stream loop -/

theorem applyDelta_keys (d : Int) (l : List Strm) :
    (applyDelta d l).1.map (fun s => (s.uid, s.id)) = l.map (fun s => (s.uid, s.id)) := by
  induction l with
  | nil => rfl
  | cons a l ih =>
    simp only [applyDelta]
    split
    · simp
    · simp [ih]

theorem applyDelta_ok (d : Int) (l : List Strm) (h : (applyDelta d l).2 = false) :
    (applyDelta d l).1 = l.map (fun s => { s with window := s.window + d }) := by
  induction l with
  | nil => rfl
  | cons a l ih =>
    simp only [applyDelta] at h ⊢
    split at h
    · cases h
    · rename_i hc
      rw [if_neg hc]
      simp [ih h]

section
variable {O : List Out} {F W : List Frame} {r : R}

theorem FI.of_eq {r' : R} (h : FI O F r) (hs : r'.s = r.s) (ho : r'.out = r.out) : FI O F r' := by
  cases r; cases r'
  simp only at hs ho
  subst hs; subst ho
  exact ⟨⟨h.t.un, h.t.idn, h.t.ile, h.t.ult, h.t.id0, h.t.ringle, h.t.rstle⟩,
    ⟨h.a.conn, h.a.cpos, h.a.cur, h.a.led, h.a.fresh, h.a.nosent⟩, ⟨h.b.bal, h.b.lo, h.b.hi⟩, h.p⟩

theorem FW.frame_conn (h : FW O F W r) (fr : Frame) (h0 : fr.stream = 0) (hc : connInc fr = 0) (hi : ∀ w, initStep w fr = w) :
    FW O (F ++ [fr]) W r :=
  ⟨⟨h.t, h.a.frame fr hc hi fun _ sid _ => strmInc_conn h0 sid, h.b.frame fr (dataInc_conn h0), h.p⟩, h.fwd⟩

/-- SETTINGS_INITIAL_WINDOW_SIZE in the stream loop: every stream of the table moves by `new − old`, unless one
would pass 2^31−1: then the loop stops, and nothing is claimed about the streams any more -/
theorem withInitWin_fi (h : FW O F W r) (fr : Frame) (h0 : fr.stream = 0) (st : Frame.SettingsVal) (hb : fr.body = .settings st)
    (hw : st.hasWindowSize = true) :
    FW O (F ++ [fr]) W (stopLoop (withInitWin r st)) ∧
    ((applyDelta ((st.windowSize : Int) - r.s.curInitWin) r.s.strms).2 = false → FW O (F ++ [fr]) W (withInitWin r st)) := by
  have hc : connInc fr = 0 := by simp [connInc, hb]
  have hi : ∀ w, initStep w fr = (st.windowSize : Int) := by intro w; simp [initStep, h0, hb, hw]
  have hB := h.b.frame fr (dataInc_conn h0)
  have t2 : Tbl (withInitWin r st) := h.t.keys _ (applyDelta_keys _ _) rfl rfl rfl rfl rfl
  -- the send ledger after the delta, given what happened to the streams
  have hA : ∀ r2 : R, r2.s.clientWindow = r.s.clientWindow → r2.out = r.out → r2.s.curInitWin = st.windowSize →
      r2.s.lastID = r.s.lastID → r2.s.lastRefused = r.s.lastRefused →
      (r2.s.slStopped = false → r.s.slStopped = false ∧ ∀ st' ∈ r2.s.strms,
        ∃ y ∈ r.s.strms, st'.id = y.id ∧ st'.window = y.window + ((st.windowSize : Int) - r.s.curInitWin)) →
      LedA O (F ++ [fr]) r2 := by
    intro r2 e1 e2 e3 e4 e5 hs
    refine ⟨?_, by rw [e1]; exact h.a.cpos, by rw [e3, initWin_snoc, hi], ?_, ?_, ?_⟩
    · rw [e1, e2]; simpa [hc] using h.a.conn
    · intro hst st' hm'
      obtain ⟨hst1, hall⟩ := hs hst
      obtain ⟨y, hy, ei, ew⟩ := hall st' hm'
      have := h.a.led hst1 y hy
      rw [e2, e3, ei, ew]
      simp only [wuS_append, wuS_single, strmInc_conn h0]
      omega
    · intro hst sid a b
      rw [e4] at a; rw [e5] at b
      simpa [strmInc_conn h0] using h.a.fresh (hs hst).1 sid a b
    · intro sid a
      rw [e4] at a; rw [e2]
      exact h.a.nosent sid a
  refine ⟨⟨⟨(stopLoop_quiet _).tbl t2, hA _ rfl rfl rfl rfl rfl (fun hs => nomatch hs), ⟨hB.bal, h.b.lo, h.b.hi⟩, h.p⟩, h.fwd⟩,
    fun ho => ⟨⟨t2, hA _ rfl rfl rfl rfl rfl fun hs => ⟨hs, fun st' hm' => ?_⟩, ⟨hB.bal, h.b.lo, h.b.hi⟩, h.p⟩, h.fwd⟩⟩
  have hm' : st' ∈ (applyDelta ((st.windowSize : Int) - r.s.curInitWin) r.s.strms).1 := hm'
  rw [applyDelta_ok _ _ ho] at hm'
  obtain ⟨y, hy, rfl⟩ := List.mem_map.mp hm'
  exact ⟨y, hy, rfl, rfl⟩

theorem connWU_fi (h : FW O F W r) (fr : Frame) (h0 : fr.stream = 0) (inc : Nat) (hb : fr.body = .windowUpdate inc) :
    FW O (F ++ [fr]) W ({ r with s := { r.s with clientWindow := r.s.clientWindow + inc } } : R) := by
  have hc : connInc fr = inc := by simp [connInc, h0, hb]
  have hi : ∀ w, initStep w fr = w := by intro w; simp [initStep, hb]
  refine ⟨⟨⟨h.t.un, h.t.idn, h.t.ile, h.t.ult, h.t.id0, h.t.ringle, h.t.rstle⟩, ?_,
    ⟨(h.b.frame fr (dataInc_conn h0)).bal, h.b.lo, h.b.hi⟩, h.p⟩, h.fwd⟩
  constructor
  · have := h.a.conn
    show r.s.clientWindow + (inc : Int) + (sentC (O ++ r.out) : Int) = _
    simp only [grantC_append, grantC_single, hc]
    omega
  · have := h.a.cpos
    show 0 ≤ r.s.clientWindow + (inc : Int)
    omega
  · rw [initWin_snoc, hi]; exact h.a.cur
  · intro hs st hm
    simpa [strmInc_conn h0] using h.a.led hs st hm
  · intro hs sid a b
    simpa [strmInc_conn h0] using h.a.fresh hs sid a b
  · exact h.a.nosent

end

section
variable {O : List Out} {F : List Frame} {r : R}

/-- the invariant of a step in progress: the frames forwarded before the step, then those of the step so far -/
def FInv (O : List Out) (F : List Frame) (r : R) : Prop := FI O (F ++ r.fwd) r

theorem FInv.quiet {r' : R} (h : FInv O F r) (q : Quiet r r') : FInv O F r' := by
  unfold FInv
  rw [q.fwd]
  exact FI.quiet h q

theorem FW.finv {W : List Frame} (h : FW O (F ++ W) W r) : FInv O F r := by
  unfold FInv
  rw [h.fwd]
  exact h.toFI

theorem slFrame_finv (h : FInv O F r) (fr : Frame) : FInv O F (slFrame r fr) := by
  -- the frame is in `fwd`; it is filed by the function that handles it
  have h1 : FW O (F ++ r.fwd) (r.fwd ++ [fr]) ({ r with fwd := r.fwd ++ [fr] } : R) := ⟨FI.of_eq h rfl rfl, rfl⟩
  have done : ∀ {r' : R}, FW O (F ++ r.fwd ++ [fr]) (r.fwd ++ [fr]) r' → FInv O F r' := fun h' =>
    FW.finv (by rw [← List.append_assoc]; exact h')
  have hts := fun st => h1.quiet (applyTableSize_quiet _ st)
  refine slFrame_outcomes (P := FInv O F) r fr (fun _ => h)
    (fun hz st hb hw _ => done (((withInitWin_fi (hts st) fr hz st hb hw).1).quiet (writeGoAway_quiet _ _ _ _).stopLoop))
    (fun hz st hb hw ho =>
      done ((flushStreams_fi ((withInitWin_fi (hts st) fr hz st hb hw).2 ho)).quiet (closeIfClosing_quiet _)))
    (fun hz st hb hw => ?_)
    (fun hz inc hb => done ((connWU_fi h1 fr hz inc hb).quiet ((writeGoAway_quiet _ _ _ _).trans (stopLoop_quiet _))))
    (fun hz inc hb => done ((flushStreams_fi (connWU_fi h1 fr hz inc hb)).quiet (closeIfClosing_quiet _)))
    (fun hz hs hw => ?_)
    (fun hz => done (slStreamFrame_fi h1 fr hz))
  · refine done (((hts st).frame_conn fr hz (by simp [connInc, hb]) fun w => ?_).quiet (closeIfClosing_quiet _))
    simp [initStep, hz, hb, hw]
  · refine done ((h1.frame_conn fr hz ?_ fun w => ?_).quiet (closeIfClosing_quiet _))
    · unfold connInc
      rw [if_pos (beq_iff_eq.mpr hz)]
      cases hb : fr.body <;> first | rfl | exact absurd hb (hw _)
    · unfold initStep
      rw [if_pos (beq_iff_eq.mpr hz)]
      cases hb : fr.body <;> first | rfl | exact absurd hb (hs _)

/-! ### the read loop, handler completions, the step -/

/-- what `readFrame` guarantees about a SETTINGS frame: MAX_FRAME_SIZE, where stored, is at least 16 384 -/
def FrameOK (fr : Frame) : Prop := ∀ st, fr.body = .settings st → 16384 ≤ st.frameSize

theorem rlFrame_finv (h : FInv O F r) (fr : Frame) (hok : FrameOK fr) : FInv O F (rlFrame r fr) := by
  have h1 := h.quiet (contCheck_quiet r fr)
  exact rlFrame_cases (P := FInv O F) r fr
    (fun _ => h1.quiet (rlStop_quiet _))
    (fun _ _ _ => h1.quiet ((writeGoAway_quiet _ _ _ _).trans (rlStop_quiet _)))
    (fun _ => slFrame_finv h1 fr)
    (fun _ st hb => slFrame_finv (h1.quiet (handleSettings_quiet _ st (hok st hb))) fr)
    (fun _ _ => h1.quiet (emit_quiet _ _ rfl rfl rfl))
    (fun _ => h1)

end

theorem settingsRead_frameSize (p : Bytes) (s s' : Frame.SettingsVal) (h : 16384 ≤ s.frameSize)
    (hr : Frame.settingsRead p s = .inl (some s')) : 16384 ≤ s'.frameSize := by
  fun_induction Frame.settingsRead p s
  all_goals first
    | (rename_i ih; exact ih (by simpa using h) hr)
    | (rename_i hv ih
       refine ih ?_ hr
       simp only [Bool.or_eq_true, decide_eq_true_eq, not_or] at hv
       have := hv.1
       simp only [] 
       omega)
    | (cases hr; done)
    | (simp only [Sum.inl.injEq, Option.some.injEq] at hr; subst hr; exact h)
    | (cases hr; exact h)

theorem readFrame_ok (max : Nat) (b : Bytes) (fr : Frame) (n : Nat) (h : Frame.readFrame max b = .ok fr n) : FrameOK fr := by
  intro st hb
  obtain ⟨p, ack, hs⟩ := H2.Frame.readFrame_settings h hb
  exact settingsRead_frameSize p _ st (Nat.le_refl _) hs

section
variable {O : List Out} {F : List Frame} {r : R}

theorem rlDrain_finv (fuel : Nat) (h : FInv O F r) : FInv O F (rlDrain fuel r) := by
  induction fuel generalizing r with
  | zero => exact h
  | succ n ih =>
    have hin : ∀ k, FInv O F ({ r with s := { r.s with inbuf := r.s.inbuf.drop k } } : R) :=
      fun k => h.quiet { Quiet.refl r with }
    exact rlDrain_cases (P := FInv O F) n r h
      (fun fr k hr => ih (rlFrame_finv (hin k) fr (readFrame_ok _ _ _ _ hr)))
      (fun k => ih (hin k))
      (fun k _ _ => (hin k).quiet ((writeGoAway_quiet _ _ _ _).trans (rlStop_quiet _)))
      (h.quiet (rlStop_quiet _))

theorem slHandlerDone_finv (sid : Nat) (resp : Resp) (h : FInv O F r) : FInv O F (slHandlerDone r sid resp) := by
  have h0 : ∀ r0, (r0 = r ∨ r0 = r.emit .handlerPanicLogged) → FInv O F r0 := by
    rintro r0 (rfl | rfl)
    · exact h
    · exact h.quiet (emit_quiet _ _ rfl rfl rfl)
  refine slHandlerDone_cases (P := FInv O F) r sid resp h0 (fun r0 st hr _ => ?_) (fun r0 st hr _ b => ?_)
  · refine (h0 r0 hr).quiet (Quiet.trans ?_ (releaseStream_quiet _ st))
    exact { Quiet.refl r0 with }
  · have h1 : FW O (F ++ r0.fwd) r0.fwd (r0.updStrm st.uid fun s => { s with handlerRunning := false }) :=
      FW.quiet ⟨h0 r0 hr, rfl⟩ (upd_quiet r0 st.uid _ fun _ _ _ => rfl)
    have h2 := (finishRequest_fi st.uid resp h1).finv
    have h3 : FInv O F (answered r0 st.uid resp) :=
      ite_ind (fun _ => h2.quiet (closeDone_quiet (FI.t h2) st.uid)) (fun _ => h2)
    cases b
    · exact h3
    · exact h3.quiet (stopLoop_quiet _)

theorem stepR_finv (s : Srv) (ev : Event) (h : FI O F { s := s }) : FInv O F (stepR s ev) := by
  have h' : FInv O F ({ s := s } : R) := by
    unfold FInv
    simpa using h
  unfold stepR
  dsimp only
  cases ev with
  | bytes b =>
    refine (rlDrain_finv _ (h'.quiet ?_)).quiet (settle_quiet _)
    exact { Quiet.refl _ with }
  | done sid resp => exact (slHandlerDone_finv sid resp h').quiet (settle_quiet _)
  | cut => exact h'.quiet ((rlStop_quiet _).trans (settle_quiet _))
  | idle => exact h'.quiet (((writeGoAway_quiet _ _ _ _).trans (stopLoop_quiet _)).trans (settle_quiet _))

end


/-! ## runs -/

/-- fold of `stepR` over an event list: the final state, the concatenated outputs, the concatenated lists of frames the
read loop handed to the stream loop -/
def runF (s : Srv) : List Event → Srv × List Out × List Frame
  | [] => (s, [], [])
  | ev :: evs =>
    ((runF (stepR s ev).s evs).1, (stepR s ev).out ++ (runF (stepR s ev).s evs).2.1,
      (stepR s ev).fwd ++ (runF (stepR s ev).s evs).2.2)

def runFwd (cfg : Cfg) (evs : List Event) : List Frame := (runF { cfg := cfg } evs).2.2

theorem runF_eq (s : Srv) (evs : List Event) : ((runF s evs).1, (runF s evs).2.1) = runFrom s evs := by
  induction evs generalizing s with
  | nil => rfl
  | cons ev evs ih =>
    have := ih (stepR s ev).s
    simp only [runF, runFrom, step]
    rw [← this]

theorem runF_state (cfg : Cfg) (evs : List Event) : (runF { cfg := cfg } evs).1 = (run cfg evs).1 := by
  have := runF_eq { cfg := cfg } evs
  exact congrArg Prod.fst this

theorem runF_outs (cfg : Cfg) (evs : List Event) : (runF { cfg := cfg } evs).2.1 = runOuts cfg evs := by
  have := runF_eq { cfg := cfg } evs
  exact congrArg Prod.snd this

theorem runF_append (s : Srv) (a b : List Event) :
    runF s (a ++ b) = ((runF (runF s a).1 b).1, (runF s a).2.1 ++ (runF (runF s a).1 b).2.1,
      (runF s a).2.2 ++ (runF (runF s a).1 b).2.2) := by
  induction a generalizing s with
  | nil => simp [runF]
  | cons ev a ih => simp [runF, ih, List.append_assoc]

def SInv (O : List Out) (F : List Frame) (s : Srv) : Prop := FI O F { s := s }

theorem FI.flush {O : List Out} {F : List Frame} {r : R} (h : FI O F r) : FI (O ++ r.out) F { s := r.s } := by
  have e : ∀ l : List Out, (l ++ ({ s := r.s } : R).out) = l := fun l => List.append_nil l
  refine ⟨⟨h.t.un, h.t.idn, h.t.ile, h.t.ult, h.t.id0, h.t.ringle, h.t.rstle⟩, ⟨?_, h.a.cpos, h.a.cur, ?_, h.a.fresh, ?_⟩,
    ⟨?_, h.b.lo, h.b.hi⟩, ⟨h.p.1, ?_⟩⟩
  · rw [e]; exact h.a.conn
  · intro hs st hm; rw [e]; exact h.a.led hs st hm
  · intro sid hl; rw [e]; exact h.a.nosent sid hl
  · rw [e]; exact h.b.bal
  · rw [e]; exact h.p.2

theorem step_sinv {O : List Out} {F : List Frame} {s : Srv} (ev : Event) (h : SInv O F s) :
    SInv (O ++ (stepR s ev).out) (F ++ (stepR s ev).fwd) (stepR s ev).s :=
  (stepR_finv s ev h).flush

theorem runF_sinv {O : List Out} {F : List Frame} {s : Srv} (evs : List Event) (h : SInv O F s) :
    SInv (O ++ (runF s evs).2.1) (F ++ (runF s evs).2.2) (runF s evs).1 := by
  induction evs generalizing s O F with
  | nil => simpa [runF] using h
  | cons ev evs ih =>
    have := ih (step_sinv ev h)
    simpa [runF, List.append_assoc] using this

theorem init_sinv (cfg : Cfg) : SInv [] [] { cfg := cfg } := by
  refine ⟨⟨by simp, by simp, by simp, by simp, by simp, by simp, by simp⟩, ⟨?_, ?_, rfl, ?_, ?_, ?_⟩, ⟨⟨0, ?_, fun _ => rfl⟩, ?_, ?_⟩, ⟨Or.inl rfl, ?_⟩⟩
  · simp
  · simp
  · intro _ st hm; cases hm
  · intro _ sid _ _; rfl
  · intro sid _; rfl
  · simp
  · show ((Gen.c_serverMaxWindow : Nat) : Int) / 2 ≤ ((Gen.c_serverMaxWindow : Nat) : Int); omega
  · simp
  · intro o ho; cases ho

theorem run_sinv (cfg : Cfg) (evs : List Event) : SInv (runOuts cfg evs) (runFwd cfg evs) (run cfg evs).1 := by
  have := runF_sinv evs (init_sinv cfg)
  simpa [runF_state, runF_outs, runFwd] using this

/-! ## step level: every DATA frame fits both windows as they are just before it -/

/-- what a `sendData` run on the stream `uid` has done when it has got from `r` to `x`: it has appended a list `l` that
fits the connection window and the stream's window as they were in `r`, the connection window has gone down by the
octets of `l`, and so has the window of the stream if it is still in the table -/
def Sent (r : R) (uid : Nat) (x : R) : Prop :=
  ∀ st, r.getStrm uid = some st →
    ∃ l, x.out = r.out ++ l ∧ Fits st.id r.s.clientWindow st.window l ∧
      x.s.clientWindow = r.s.clientWindow - sentC l ∧
      ∀ st', x.getStrm uid = some st' → st'.id = st.id ∧ st'.window = st.window - sentC l

section
variable {r x y : R} {uid : Nat} {st st1 : Strm}

theorem Sent.quiet (t : Tbl r) (hg : r.getStrm uid = some st) (q : Quiet r x) (l : List Out) (ho : x.out = r.out ++ l)
    (hz : sentC l = 0) (hf : ∀ cw w, Fits st.id cw w l) : Sent r uid x := by
  intro st0 hg0
  obtain rfl : st = st0 := Option.some.inj (hg.symm.trans hg0)
  refine ⟨l, ho, hf _ _, by rw [q.cw, hz]; simp, fun st' h' => ?_⟩
  obtain ⟨y, hy, huy, hiy, hwy⟩ := q.was (List.mem_of_find?_eq_some h')
  have hu' : st'.uid = uid := by simpa using List.find?_some h'
  have : y = st := (t.the hg).2.2.1 y hy (by rw [huy, hu'])
  subst this
  rw [hz]
  exact ⟨hiy.symm, by simp [hwy]⟩

theorem Sent.silent (t : Tbl r) (hg : r.getStrm uid = some st) (q : Quiet r x) (ho : x.out = r.out) : Sent r uid x :=
  Sent.quiet t hg q [] (by rw [ho, List.append_nil]) rfl fun _ _ => trivial

theorem Sent.trans (h1 : Sent r uid x) (hx : x.getStrm uid = some st1) (h2 : Sent x uid y) : Sent r uid y := by
  intro st hg
  obtain ⟨l1, o1, f1, c1, s1⟩ := h1 st hg
  obtain ⟨l2, o2, f2, c2, s2⟩ := h2 st1 hx
  obtain ⟨a1, w1⟩ := s1 st1 hx
  refine ⟨l1 ++ l2, by rw [o2, o1, List.append_assoc], (Fits_append ..).mpr ⟨f1, ?_⟩, by rw [c2, c1, sentC_append]; omega,
    fun st' h' => ?_⟩
  · rw [← c1, ← w1, ← a1]; exact f2
  · obtain ⟨a, b⟩ := s2 st' h'
    exact ⟨a.trans a1, by rw [b, w1, sentC_append]; omega⟩

theorem sendFrame_sent (t : Tbl r) (hg : r.getStrm uid = some st) (step : Nat) (h1 : 0 < step)
    (h2 : (step : Int) ≤ r.s.clientWindow) (h3 : (step : Int) ≤ st.window) (h4 : step ≤ 16384) :
    Sent r uid (sendFrame r uid st step).1 ∧
    (sendFrame r uid st step).1.getStrm uid = some (sentStrm st (st.pendLen - step) step) ∧
    Tbl (sendFrame r uid st step).1 := by
  have hg2 : (sendFrame r uid st step).1.getStrm uid = some (sentStrm st (st.pendLen - step) step) :=
    getStrm_upd (r.emit _) uid (fun s => sentStrm s (st.pendLen - step) step) _ (fun _ hx => hx) hg
  refine ⟨fun st0 hg0 => ?_, hg2, t.keys _ (updStrm_keys (r.emit _) uid _ fun _ => ⟨rfl, rfl⟩) rfl rfl rfl rfl rfl⟩
  obtain rfl : st = st0 := Option.some.inj (hg.symm.trans hg0)
  refine ⟨[.data st.id _ step _], rfl, ⟨⟨rfl, Or.inr ⟨h1, h2, h3, h4⟩⟩, trivial⟩, by rw [sentC_single]; rfl, fun st' h' => ?_⟩
  rw [hg2] at h'; cases h'
  exact ⟨rfl, by simp [sentStrm, Out.dataLen]⟩

theorem sendRound_sent (t : Tbl r) (hg : r.getStrm uid = some st) (hx : (refill r uid st).2.2 = false)
    (ha : 0 < availOf (refill r uid st).1 (refill r uid st).2.1) :
    Sent r uid (sendFrame (refill r uid st).1 uid (refill r uid st).2.1 (dataStep (refill r uid st).1 (refill r uid st).2.1)).1 ∧
    (∃ st2, (sendFrame (refill r uid st).1 uid (refill r uid st).2.1
      (dataStep (refill r uid st).1 (refill r uid st).2.1)).1.getStrm uid = some st2) ∧
    Tbl (sendFrame (refill r uid st).1 uid (refill r uid st).2.1 (dataStep (refill r uid st).1 (refill r uid st).2.1)).1 := by
  obtain ⟨q1, _, ⟨l1, ho1, hz1, hf1⟩, hgo⟩ := refill_spec t uid st hg
  obtain ⟨hg1, hp1⟩ := hgo hx
  have hb : 0 < dataStep (refill r uid st).1 (refill r uid st).2.1 ∧
      (dataStep (refill r uid st).1 (refill r uid st).2.1 : Int) ≤ (refill r uid st).1.s.clientWindow ∧
      (dataStep (refill r uid st).1 (refill r uid st).2.1 : Int) ≤ (refill r uid st).2.1.window ∧
      dataStep (refill r uid st).1 (refill r uid st).2.1 ≤ 16384 := by
    have hc : Gen.c_maxDataFrameSize = 16384 := rfl
    have : availOf (refill r uid st).1 (refill r uid st).2.1 ≤ (refill r uid st).1.s.clientWindow ∧
        availOf (refill r uid st).1 (refill r uid st).2.1 ≤ (refill r uid st).2.1.window := by
      unfold availOf; split <;> omega
    unfold dataStep
    omega
  obtain ⟨s2, hg2, t2⟩ := sendFrame_sent (q1.tbl t) hg1 _ hb.1 hb.2.1 hb.2.2.1 hb.2.2.2
  exact ⟨(Sent.quiet t hg q1 l1 ho1 hz1 hf1).trans hg1 s2, ⟨_, hg2⟩, t2⟩

end

section
variable {r : R}

/-- `sendData` never overdraws, from any state with distinct uids and ids -/
theorem sendDataFuel_fits (fuel : Nat) (t : Tbl r) (uid : Nat) : Sent r uid (sendDataFuel fuel r uid).1 :=
  sendDataFuel_ind (P := fun r x => Tbl r → Sent r uid x.1) uid
    (fun _ _ _ hg => Sent.silent ‹_› hg (Quiet.refl _) rfl _ hg)
    (fun _ hn _ _ hg => by rw [hg] at hn; cases hn)
    (fun r st hg _ t => by
      obtain ⟨q1, _, ⟨l1, ho1, hz1, hf1⟩, _⟩ := refill_spec t uid st hg
      exact Sent.quiet t hg (q1.trans (closeBody_quiet _ _)) l1 ho1 hz1 hf1)
    (fun r st hg _ _ t => by
      obtain ⟨q1, _, ⟨l1, ho1, hz1, hf1⟩, _⟩ := refill_spec t uid st hg
      exact Sent.quiet t hg q1 l1 ho1 hz1 hf1)
    (fun r st hg hx ha t => by
      obtain ⟨s2, ⟨st2, hg2⟩, t2⟩ := sendRound_sent t hg hx ha
      exact s2.trans hg2 (Sent.silent t2 hg2 (closeBody_quiet _ _) rfl))
    (fun r st _ hg hx ha ih t => by
      obtain ⟨s2, ⟨st2, hg2⟩, t2⟩ := sendRound_sent t hg hx ha
      exact s2.trans hg2 (ih t2))
    fuel r t

theorem sendData_fits (t : Tbl r) (uid : Nat) (st : Strm) (hg : r.getStrm uid = some st) :
    ∃ l, (sendData r uid).1.out = r.out ++ l ∧ Fits st.id r.s.clientWindow st.window l ∧
      (sendData r uid).1.s.clientWindow = r.s.clientWindow - sentC l ∧
      ∀ st', (sendData r uid).1.getStrm uid = some st' → st'.id = st.id ∧ st'.window = st.window - sentC l := by
  unfold sendData
  rw [hg]
  exact sendDataFuel_fits _ t uid st hg

end


/-! ## the run-level theorems -/

/-- connection send ledger (every configuration, every event list): the connection send window plus the DATA octets
written equals 65 535 plus the increments of the connection-level WINDOW_UPDATE frames the read loop forwarded; the
window is never negative -/
theorem conn_ledger (cfg : Cfg) (evs : List Event) :
    (run cfg evs).1.clientWindow + (sentC (runOuts cfg evs) : Int) = 65535 + (grantC (runFwd cfg evs) : Int) ∧
      0 ≤ (run cfg evs).1.clientWindow := by
  have h := run_sinv cfg evs
  have := h.a.conn
  have e : ((Gen.c_defaultWindowSize : Nat) : Int) = 65535 := rfl
  rw [e] at this
  exact ⟨by simpa using this, h.a.cpos⟩

/-- … so the DATA octets written never exceed what the peer has granted the connection, and this holds for every
prefix of the outputs too (the grants counted are those of the whole run: increments are not negative) -/
theorem conn_never_overdrawn (cfg : Cfg) (evs : List Event) (p : List Out) (hp : p <+: runOuts cfg evs) :
    sentC p ≤ 65535 + grantC (runFwd cfg evs) := by
  obtain ⟨q, hq⟩ := hp
  have h := conn_ledger cfg evs
  rw [← hq, sentC_append] at h
  omega

/-- stream send ledger: while the stream loop runs, for every stream of the table, its send window plus the DATA
octets written on its id equals the peer's SETTINGS_INITIAL_WINDOW_SIZE in force (65 535 or the last value forwarded —
changes reach every stream of the table as `new − old`, possibly driving a window negative) plus the increments of the
WINDOW_UPDATE frames forwarded on that id -/
theorem stream_ledger (cfg : Cfg) (evs : List Event) (hrun : (run cfg evs).1.slStopped = false) :
    ∀ st ∈ (run cfg evs).1.strms,
      st.window + (sentS st.id (runOuts cfg evs) : Int) = initWin (runFwd cfg evs) + (wuS st.id (runFwd cfg evs) : Int) := by
  intro st hm
  have h := run_sinv cfg evs
  have := h.a.led hrun st hm
  rw [h.a.cur] at this
  simpa using this

theorem init_window_in_force (cfg : Cfg) (evs : List Event) :
    (run cfg evs).1.curInitWin = initWin (runFwd cfg evs) := (run_sinv cfg evs).a.cur

theorem reachable_tbl (cfg : Cfg) (evs : List Event) : Tbl { s := (run cfg evs).1 } := (run_sinv cfg evs).t

/-- no DATA frame exceeds the peer's MAX_FRAME_SIZE: every DATA frame of a run carries at most 16 384 octets, and
the peer's SETTINGS_MAX_FRAME_SIZE as the server stores it is unset (0, i.e. 16 384 in force) or at least 16 384 -/
theorem data_frames_small (cfg : Cfg) (evs : List Event) :
    (∀ o ∈ runOuts cfg evs, o.dataLen ≤ 16384) ∧
      ((run cfg evs).1.peerFrameSize = 0 ∨ 16384 ≤ (run cfg evs).1.peerFrameSize) := by
  have h := run_sinv cfg evs
  refine ⟨?_, h.p.1⟩
  intro o ho
  have := h.p.2 o (by simpa using ho)
  cases o <;> simp_all [Out.bad, Out.dataLen]

theorem no_zero_increment (cfg : Cfg) (evs : List Event) (sid inc : Nat) (h : Out.wu sid inc ∈ runOuts cfg evs) : 0 < inc := by
  have := (run_sinv cfg evs).p.2 (.wu sid inc) (by simpa using h)
  simp only [Out.bad, beq_eq_false_iff_ne, ne_eq] at this
  omega

/-- connection receive ledger: the receive window plus the flow-controlled octets of the DATA frames forwarded
equals 4 MiB (what the handshake announces) plus the credit handed back plus `lost`, the octets of DATA frames that
were answered with a connection error; `lost` is 0 as long as no GOAWAY has been written. The window stays between
half of 4 MiB and 4 MiB. -/
theorem recv_ledger (cfg : Cfg) (evs : List Event) :
    (∃ lost : Nat, (run cfg evs).1.recvWin + (dataFwd (runFwd cfg evs) : Int) =
        (Gen.c_serverMaxWindow : Nat) + (cred0 (runOuts cfg evs) : Int) + (lost : Int) ∧
      (cnt .goAway (runOuts cfg evs) = 0 → lost = 0)) ∧
    ((Gen.c_serverMaxWindow : Nat) : Int) / 2 ≤ (run cfg evs).1.recvWin ∧
    (run cfg evs).1.recvWin ≤ ((Gen.c_serverMaxWindow : Nat) : Int) := by
  have h := run_sinv cfg evs
  refine ⟨?_, h.b.lo, h.b.hi⟩
  obtain ⟨lost, h1, h2⟩ := h.b.bal
  exact ⟨lost, by simpa using h1, by simpa using h2⟩

/-- … without a connection error: `recvWin + (received − credited) = serverMaxWindow`, and what is outstanding never
exceeds half the window -/
theorem recv_conservation (cfg : Cfg) (evs : List Event) (hga : cnt .goAway (runOuts cfg evs) = 0) :
    (run cfg evs).1.recvWin + ((dataFwd (runFwd cfg evs) : Int) - (cred0 (runOuts cfg evs) : Int)) = (Gen.c_serverMaxWindow : Nat) ∧
    0 ≤ (dataFwd (runFwd cfg evs) : Int) - (cred0 (runOuts cfg evs) : Int) ∧
    (dataFwd (runFwd cfg evs) : Int) - (cred0 (runOuts cfg evs) : Int) ≤ ((Gen.c_serverMaxWindow : Nat) : Int) - ((Gen.c_serverMaxWindow : Nat) : Int) / 2 := by
  obtain ⟨⟨lost, h1, h2⟩, lo, hi⟩ := recv_ledger cfg evs
  have := h2 hga
  subst this
  refine ⟨by omega, by omega, by omega⟩

theorem recv_never_overcredits (cfg : Cfg) (evs : List Event) : cred0 (runOuts cfg evs) ≤ dataFwd (runFwd cfg evs) := by
  obtain ⟨⟨lost, h1, _⟩, _, hi⟩ := recv_ledger cfg evs
  omega

/-! ### one step from a state that satisfies the invariant -/

/-- the windows only move by what is sent and what is granted: across one event, from any state satisfying the
invariant, the connection window changes by the grants of the step minus the DATA octets of the step; while the stream
loop runs, a stream that stays in the table changes by the SETTINGS delta of the step plus the WINDOW_UPDATE increments
forwarded on its id minus the DATA octets written on its id; a stream that enters the table (its id was above
`lastID` and above every refused id) starts from the initial window in force -/
theorem step_ledger {O : List Out} {F : List Frame} {s : Srv} (h : SInv O F s) (ev : Event) :
    (stepR s ev).s.clientWindow + (sentC (stepR s ev).out : Int) = s.clientWindow + (grantC (stepR s ev).fwd : Int) ∧
    ((stepR s ev).s.slStopped = false → s.slStopped = false →
      ∀ st' ∈ (stepR s ev).s.strms,
        (∀ st ∈ s.strms, st.id = st'.id →
          st'.window + (sentS st'.id (stepR s ev).out : Int) =
            st.window + ((stepR s ev).s.curInitWin - s.curInitWin) + (wuS st'.id (stepR s ev).fwd : Int)) ∧
        (s.lastID < st'.id → s.lastRefused < st'.id →
          st'.window + (sentS st'.id (stepR s ev).out : Int) =
            (stepR s ev).s.curInitWin + (wuS st'.id (stepR s ev).fwd : Int))) := by
  have h' := step_sinv ev h
  have a0 : s.clientWindow + (sentC (O ++ []) : Int) = (Gen.c_defaultWindowSize : Nat) + (grantC F : Int) := h.a.conn
  have b0 : (stepR s ev).s.clientWindow + (sentC ((O ++ (stepR s ev).out) ++ []) : Int) =
      (Gen.c_defaultWindowSize : Nat) + (grantC (F ++ (stepR s ev).fwd) : Int) := h'.a.conn
  constructor
  · simp only [sentC_append, grantC_append, List.append_nil] at a0 b0
    omega
  · intro hs' hs st' hm'
    have b : st'.window + (sentS st'.id ((O ++ (stepR s ev).out) ++ []) : Int) =
        (stepR s ev).s.curInitWin + (wuS st'.id (F ++ (stepR s ev).fwd) : Int) := h'.a.led hs' st' hm'
    simp only [List.append_nil, sentS_append, wuS_append] at b
    constructor
    · intro st hm hid
      have a : st.window + (sentS st.id (O ++ []) : Int) = s.curInitWin + (wuS st.id F : Int) := h.a.led hs st hm
      simp only [List.append_nil] at a
      rw [hid] at a
      omega
    · intro h1 h2
      have a1 : sentS st'.id (O ++ []) = 0 := h.a.nosent st'.id h1
      have a2 : wuS st'.id F = 0 := h.a.fresh hs st'.id h1 h2
      simp only [List.append_nil] at a1
      rw [a1, a2] at b
      omega

theorem reachable_sinv (cfg : Cfg) (evs : List Event) : SInv (runOuts cfg evs) (runFwd cfg evs) (run cfg evs).1 :=
  run_sinv cfg evs

/-! ### where a send window goes up (function level) -/

/-- WINDOW_UPDATE on a stream: `handleFrame` on a frame it lets through (stream not idle, increment not 0) raises
the window of the stream object `uid` by the increment and does nothing else -/
theorem handleFrame_wu (r : R) (uid : Nat) (fr : Frame) (st : Strm) (hg : r.getStrm uid = some st)
    (hv : verifyState st fr = none) (ht : fr.typ = Gen.c_FrameWindowUpdate) (hs : (st.state == .idle) = false)
    (hi : (wuOf fr == 0) = false) :
    (handleFrame r uid fr).1 = r.updStrm uid fun s => { s with window := st.window + wuOf fr } := by
  rw [handleFrame_eq, hg]
  simp only [hv, ht]
  have e1 : (Gen.c_FrameWindowUpdate == Gen.c_FrameHeaders || Gen.c_FrameWindowUpdate == Gen.c_FrameContinuation) = false := rfl
  have e2 : (Gen.c_FrameWindowUpdate == Gen.c_FrameData) = false := rfl
  have e3 : (Gen.c_FrameWindowUpdate == Gen.c_FrameResetStream) = false := rfl
  have e4 : (Gen.c_FrameWindowUpdate == Gen.c_FramePriority) = false := rfl
  simp only [e1, e2, e3, e4, Bool.false_eq_true, if_false, beq_self_eq_true, if_true]
  unfold hfWU
  simp only [hs, hi, Bool.false_eq_true, if_false]
  split <;> rfl

/-- no window moves elsewhere: in a state whose table has distinct uids and ids, none of these functions changes
`clientWindow` or the window of a stream, creates a stream, writes a DATA octet or forwards a frame (`Quiet`: streams
may leave the table, ids may be remembered as closed / reset, GOAWAY / RST_STREAM / HEADERS may be written) -/
theorem quiet_functions {r : R} (t : Tbl r) (uid : Nat) (fr : Frame) (e : SErr) (oe : Option SErr) (st : Strm) (resp : Resp)
    (hb : Bool) (fuel id : Nat) :
    Quiet r (writeError r uid e) ∧ Quiet r (closeStream r uid) ∧ Quiet r (closeDone r uid) ∧
    Quiet r (closeIfClosed r uid) ∧ Quiet r (closeIdleBelow fuel r id) ∧ Quiet r (headersPrelude r fr).1 ∧
    Quiet r (onFrameError r uid oe).1 ∧ Quiet r (dispatch r uid st) ∧ Quiet r (responseHeaders r st resp hb) ∧
    Quiet r (contCheck r fr).1 ∧ Quiet r (closeBody r uid) ∧ Quiet r (settle r) ∧
    (r.getStrm uid = some st → Quiet r (refill r uid st).1 ∧ Quiet r (hfHeaders r uid st fr).1) :=
  ⟨writeError_quiet t uid e, closeStream_quiet t uid, closeDone_quiet t uid, closeIfClosed_quiet t uid,
    closeIdleBelow_quiet fuel t id, headersPrelude_quiet t fr, onFrameError_quiet t uid oe, dispatch_quiet r uid st,
    responseHeaders_quiet r st resp hb, contCheck_quiet r fr, closeBody_quiet r uid, settle_quiet r,
    fun hg => ⟨(refill_spec t uid st hg).1, hfHeaders_quiet t uid st fr hg⟩⟩


end H2.Server
