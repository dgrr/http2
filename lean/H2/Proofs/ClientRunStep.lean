import H2.Proofs.ClientRunRel
/-!
# Full serial client model: `step` event by event, and the invariant `Inv` of its reachable states

`step_req`, `step_bytes`, `step_timeout` restate the branches of `H2.Client.step` with projections; `step_cases` is the
case analysis every step lemma of the `ClientRun*` files goes through (one hypothesis per way a step can end).
`Inv c` is what every run-level theorem of the `ClientRun*` files starts from: the model never marks the
connection `stuck`; every request is settled or waits in the table (`Covered`); a dead connection has an empty
table; stream ids of the table are distinct and below `nextID`; a request's `read`/`done`/`errBuf` are
consistent; a stream id that a request claims is registered for that request's tag.
`step_inv`: `Inv` is preserved by every event; `init_inv`: it holds of the connection the driver creates.
-/
namespace H2.Client

/-! ## the branches of `step` -/

def bytesSplit (c : Conn) (b : Bytes) : List RdFrame × Bytes :=
  splitFrames (b.length + c.rdBuf.length + 1) (c.rdBuf ++ b)

/-- the connection when the read loop has gone through the frames of the event -/
def bytesRead (c : Conn) (b : Bytes) : Conn × Bool :=
  rdFrames (bytesSplit c b).1 { c with rdBuf := (bytesSplit c b).2 }

def bytesOver (c : Conn) (b : Bytes) : Bool :=
  match (bytesRead c b).1.wbudget with
  | some bd => (wireBytes (drain (bytesRead c b).1).1 (drain (bytesRead c b).1).2).2 > bd
  | none => false

def stepBytes (c : Conn) (b : Bytes) : Conn × StepOut :=
  if c.dead then (c, .dead) else
  if (bytesRead c b).1.stuck then ((bytesRead c b).1, .stuck)
  else if bytesOver c b && racyAfterEnqueue (bytesSplit c b).1 { c with rdBuf := (bytesSplit c b).2 } then
    ({ die (bytesRead c b).1 with ambiguous := true }, .dead)
  else if (bytesRead c b).2 then (die (bytesRead c b).1, .dead)
  else afterWrites (drain (bytesRead c b).1).1 (drain (bytesRead c b).1).2

theorem step_bytes (c : Conn) (b : Bytes) : step c (.bytes b) = if c.stuck then (c, .stuck) else stepBytes c b := by
  simp only [step, stepBytes, bytesOver, bytesRead, bytesSplit]
  split
  · rfl
  · split
    · rfl
    · rfl

/-- the request as `Write` registers it with the connection -/
def withReq (c : Conn) (tag : String) : Conn := { c with reqs := c.reqs ++ [{ tag := tag }] }

def stepReq (c : Conn) (r : ReqSpec) : Conn × StepOut :=
  if c.dead then (resolve (withReq c r.tag) r.tag (c.lastErr.getD .connClosed), .dead)
  else afterWrites (drain (writeRequest (withReq c r.tag) r).1).1
    ((writeRequest (withReq c r.tag) r).2 ++ (drain (writeRequest (withReq c r.tag) r).1).2)

theorem step_req (c : Conn) (r : ReqSpec) : step c (.req r) = if c.stuck then (c, .stuck) else stepReq c r := by
  simp only [step, stepReq, withReq]

/-- what a time-out makes of a request that is on stream `sid` -/
def gaveUp (c : Conn) (tag : String) (sid : Nat) : Conn := takeReq (deletePending (resolve c tag .timeout) sid) sid

def stepTimeout (c : Conn) (tag : String) : Conn × StepOut :=
  match getReq c tag with
  | none => (c, .frames [])
  | some r =>
    if !r.hasConn || r.sid == 0 then (resolve c tag .timeout, if c.dead then .dead else .frames [])
    else if c.dead then (gaveUp c tag r.sid, .dead)
    else afterWrites (gaveUp c tag r.sid) [.rst r.sid Gen.c_StreamCanceled]

theorem quiet_gaveUp (c : Conn) (tag : String) (sid : Nat) : Quiet c (gaveUp c tag sid) := by
  have h1 : Quiet c (resolve c tag .timeout) := Quiet.same rfl rfl rfl rfl rfl
  have h2 : Quiet (resolve c tag .timeout) (deletePending (resolve c tag .timeout) sid) :=
    ⟨rfl, List.Sublist.refl _, eraseA_sublist _ _, Int.le_refl _, fun _ hf => .inl hf⟩
  exact (h1.trans h2).trans (quiet_takeReq _ _)

theorem resolve_dead (c : Conn) (tag : String) (e : Err) : (resolve c tag e).dead = c.dead := rfl

theorem step_timeout (c : Conn) (tag : String) :
    step c (.timeout tag) = if c.stuck then (c, .stuck) else stepTimeout c tag := by
  simp only [step, stepTimeout]
  split
  · rfl
  · cases getReq c tag with
    | none => rfl
    | some r =>
      simp only [gaveUp, resolve_dead, (quiet_takeReq _ _).dead, deletePending]
      split <;> rfl

/-- the caller's `read` takes the result out of the request -/
def markRead (q : Req) : Req := { q with errBuf := none, done := true, read := true }

theorem step_read (c : Conn) (tag : String) :
    step c (.read tag) = match getReq c tag with
      | none => (c, .readRes none)
      | some r =>
        if r.read then (c, .readAgain)
        else match r.errBuf with
          | none => (c, .readRes none)
          | some e => (updReq c tag markRead, .readRes (some (e, r))) := by
  simp only [step]
  rfl

theorem step_close (c : Conn) : step c .close = if c.stuck then (c, .stuck) else (die c, .dead) := by
  simp only [step]

theorem step_cut (c : Conn) : step c .cut = if c.stuck then (c, .stuck) else (die c, .dead) := by
  simp only [step]

theorem step_failwrite (c : Conn) (n : Nat) :
    step c (.failwrite n) = if c.stuck then (c, .stuck) else ({ c with wbudget := some n }, .frames []) := by
  simp only [step]

def StepOut.idle : StepOut → Prop
  | .frames fs => fs = []
  | .readRes r => r = none
  | _ => True

theorem ite_cases {α : Sort _} {P : α → Prop} {c : Prop} [Decidable c] {a b : α} (ha : c → P a) (hb : ¬ c → P b) :
    P (if c then a else b) := by
  split
  · exact ha ‹_›
  · exact hb ‹_›

/-- One hypothesis per kind of event. `same`: the state stays and the output carries nothing. `bytes` and `timeout` ask
for `P` at each way the event can end, as a conjunction, so that a caller proves what they share once. -/
@[elab_as_elim]
theorem step_cases {P : Conn × StepOut → Prop} (c : Conn) (ev : Event) (x : Conn × StepOut) (hx : step c ev = x)
    (stuck : c.stuck = true → (∀ t, ev ≠ .read t) → P (c, .stuck))
    (same : ∀ o, o.idle → (∀ r, ev ≠ .req r) → (∀ b, ev = .bytes b → c.dead = true) → P (c, o))
    (read : ∀ tag r e, ev = .read tag → getReq c tag = some r → r.read = false → r.errBuf = some e →
      P (updReq c tag markRead, .readRes (some (e, r))))
    (reqDead : ∀ r, ev = .req r → c.stuck = false → c.dead = true →
      P (resolve (withReq c r.tag) r.tag (c.lastErr.getD .connClosed), .dead))
    (req : ∀ r, ev = .req r → c.stuck = false → c.dead = false →
      P (afterWrites (drain (writeRequest (withReq c r.tag) r).1).1
        ((writeRequest (withReq c r.tag) r).2 ++ (drain (writeRequest (withReq c r.tag) r).1).2)))
    (bytes : ∀ b, ev = .bytes b → c.stuck = false → c.dead = false →
      P ((bytesRead c b).1, .stuck) ∧ P ({ die (bytesRead c b).1 with ambiguous := true }, .dead) ∧
      P (die (bytesRead c b).1, .dead) ∧ P (afterWrites (drain (bytesRead c b).1).1 (drain (bytesRead c b).1).2))
    (timeout : ∀ tag r, ev = .timeout tag → c.stuck = false → getReq c tag = some r →
      P (resolve c tag .timeout, if c.dead then .dead else .frames []) ∧
      (r.hasConn = true → r.sid ≠ 0 →
        P (gaveUp c tag r.sid, .dead) ∧ P (afterWrites (gaveUp c tag r.sid) [.rst r.sid Gen.c_StreamCanceled])))
    (die : ev = .close ∨ ev = .cut → c.stuck = false → P (die c, .dead))
    (failwrite : ∀ n, ev = .failwrite n → c.stuck = false → P ({ c with wbudget := some n }, .frames [])) :
    P x := by
  subst hx
  have live : ∀ {a : Conn × StepOut}, (∀ t, ev ≠ .read t) → (c.stuck = false → P a) →
      P (if c.stuck then (c, .stuck) else a) :=
    fun hr ha => ite_cases (fun hs => stuck hs hr) (fun hs => ha (by simpa using hs))
  cases ev with
  | read tag =>
    have nr : ∀ r, Event.read tag ≠ .req r := fun _ h => nomatch h
    rw [step_read]
    split
    · exact same (.readRes none) rfl nr (fun _ h => nomatch h)
    · rename_i r hq
      refine ite_cases (fun _ => same .readAgain trivial nr (fun _ h => nomatch h)) (fun hrd => ?_)
      split
      · exact same (.readRes none) rfl nr (fun _ h => nomatch h)
      · rename_i e he
        exact read tag r e rfl hq (by simpa using hrd) he
  | req r =>
    rw [step_req]
    refine live (fun _ h => nomatch h) (fun hs => ?_)
    exact ite_cases (fun hd => reqDead r rfl hs hd) (fun hd => req r rfl hs (by simpa using hd))
  | bytes b =>
    have nr : ∀ r, Event.bytes b ≠ .req r := fun _ h => nomatch h
    rw [step_bytes]
    refine live (fun _ h => nomatch h) (fun hs => ?_)
    refine ite_cases (fun hd => same .dead trivial nr (fun _ _ => hd)) (fun hd => ?_)
    obtain ⟨b1, b2, b3, b4⟩ := bytes b rfl hs (by simpa using hd)
    exact ite_cases (fun _ => b1) (fun _ => ite_cases (fun _ => b2) (fun _ => ite_cases (fun _ => b3) (fun _ => b4)))
  | timeout tag =>
    have nr : ∀ r, Event.timeout tag ≠ .req r := fun _ h => nomatch h
    rw [step_timeout]
    refine live (fun _ h => nomatch h) (fun hs => ?_)
    unfold stepTimeout
    split
    · exact same (.frames []) rfl nr (fun _ h => nomatch h)
    · rename_i r hq
      obtain ⟨t1, t2⟩ := timeout tag r rfl hs hq
      refine ite_cases (fun _ => t1) (fun hc => ?_)
      simp only [Bool.or_eq_true, Bool.not_eq_true', beq_iff_eq, not_or, Bool.not_eq_false] at hc
      exact ite_cases (fun _ => (t2 hc.1 hc.2).1) (fun _ => (t2 hc.1 hc.2).2)
  | close => rw [step_close]; exact live (fun _ h => nomatch h) (die (.inl rfl))
  | cut => rw [step_cut]; exact live (fun _ h => nomatch h) (die (.inr rfl))
  | failwrite n => rw [step_failwrite]; exact live (fun _ h => nomatch h) (failwrite n rfl)

/-! ## the invariant -/

def Covered (c : Conn) : Prop := ∀ t r, getReq c t = some r → r.done = true ∨ r.errBuf.isSome = true ∨ InTable c t

/-- `read` and `done` are set together by the caller's read, which also empties `errBuf` -/
def ReqWF (r : Req) : Prop := r.read = r.done ∧ (r.done = true → r.errBuf = none)

structure Inv (c : Conn) : Prop where
  stuck : c.stuck = false
  covered : Covered c
  deadTable : c.dead = true → c.reqQueued = []
  keys : Keys c
  below : ∀ p ∈ c.reqQueued, p.1 < c.nextID
  wf : ∀ t r, getReq c t = some r → ReqWF r
  sidBelow : ∀ t r, getReq c t = some r → r.sid < c.nextID
  claim : ∀ p ∈ c.reqQueued, ∀ t q, getReq c t = some q → q.hasConn = true → q.sid = p.1 → t = p.2
  pos : 0 < c.nextID

theorem init_inv {c : Conn} (h : Init c) : Inv c := by
  have hg : ∀ t, getReq c t = none := by intro t; simp [getReq, h.reqs]
  refine ⟨h.stuck, ?_, fun _ => h.reqQueued, ?_, ?_, ?_, ?_, ?_, by rw [h.nextID]; decide⟩
  · intro t r hr; rw [hg] at hr; cases hr
  · simp [Keys, h.reqQueued]
  · simp [h.reqQueued]
  · intro t r hr; rw [hg] at hr; cases hr
  · intro t r hr; rw [hg] at hr; cases hr
  · simp [h.reqQueued]

/-- what `Inv` needs of the way one request changes -/
structure Req.Le1 (r r' : Req) : Prop where
  sid : r'.sid = r.sid
  hasConn : r'.hasConn = r.hasConn
  wf : ReqWF r → ReqWF r'
  settled : (r.done = true ∨ r.errBuf.isSome = true) → (r'.done = true ∨ r'.errBuf.isSome = true)

theorem Req.Le.le1 {r r' : Req} (h : Req.Le r r') : Req.Le1 r r' := by
  refine ⟨h.sid, h.hasConn, ?_, h.settled⟩
  intro ⟨w1, w2⟩
  refine ⟨by rw [h.read, h.done]; exact w1, ?_⟩
  intro hd
  rw [h.done] at hd
  rw [h.keep (.inl hd)]; exact w2 hd

/-- what `Inv` says of the request found under `t` -/
structure ReqOK (c : Conn) (t : String) (r : Req) : Prop where
  covered : r.done = true ∨ r.errBuf.isSome = true ∨ InTable c t
  wf : ReqWF r
  sidBelow : r.sid < c.nextID
  claim : ∀ p ∈ c.reqQueued, r.hasConn = true → r.sid = p.1 → t = p.2

theorem Inv.reqOK {c : Conn} {t : String} {r : Req} (h : Inv c) (hr : getReq c t = some r) : ReqOK c t r :=
  ⟨h.covered t r hr, h.wf t r hr, h.sidBelow t r hr, fun p hp => h.claim p hp t r hr⟩

theorem Inv.of_reqOK {c : Conn} (hs : c.stuck = false) (hd : c.dead = true → c.reqQueued = []) (hk : Keys c)
    (hb : ∀ p ∈ c.reqQueued, p.1 < c.nextID) (hp : 0 < c.nextID) (hr : ∀ t r, getReq c t = some r → ReqOK c t r) : Inv c :=
  ⟨hs, fun t r h => (hr t r h).covered, hd, hk, hb, fun t r h => (hr t r h).wf, fun t r h => (hr t r h).sidBelow,
    fun p hp t r h => (hr t r h).claim p hp, hp⟩

theorem ReqOK.le1 {c c' : Conn} {t : String} {r r' : Req} (h : ReqOK c t r) (le : Req.Le1 r r')
    (ht : InTable c t → InTable c' t ∨ r'.done = true ∨ r'.errBuf.isSome = true)
    (hs : ∀ p ∈ c'.reqQueued, p ∈ c.reqQueued) (hn : c'.nextID = c.nextID) : ReqOK c' t r' := by
  refine ⟨?_, le.wf h.wf, by rw [le.sid, hn]; exact h.sidBelow, ?_⟩
  · rcases h.covered with x | x | x
    · exact (le.settled (.inl x)).elim .inl (.inr ∘ .inl)
    · exact (le.settled (.inr x)).elim .inl (.inr ∘ .inl)
    · exact (ht x).elim (.inr ∘ .inr) (fun y => y.elim .inl (.inr ∘ .inl))
  · intro p hp hc hsid
    rw [le.hasConn] at hc; rw [le.sid] at hsid
    exact h.claim p (hs p hp) hc hsid

theorem Inv.map {c c' : Conn} (h : Inv c) (g : Req → Req) (hg : ∀ r, (g r).tag = r.tag) (hr : c'.reqs = c.reqs.map g)
    (h1 : ∀ r, First c r → Req.Le1 r (g r)) (ht : TableOK c c') (hs : c'.reqQueued.Sublist c.reqQueued)
    (hstuck : c'.stuck = c.stuck) (hn : c'.nextID = c.nextID) (hd : c'.dead = c.dead ∨ c'.reqQueued = []) : Inv c' := by
  refine Inv.of_reqOK (hstuck.trans h.stuck) ?_ (List.Nodup.sublist (hs.map _) h.keys)
    (fun p hp => by rw [hn]; exact h.below p (hs.subset hp)) (by rw [hn]; exact h.pos) ?_
  · intro hdead
    rcases hd with hd | hd
    · rw [hd] at hdead
      have := h.deadTable hdead
      rw [this] at hs
      exact List.eq_nil_of_sublist_nil hs
    · exact hd
  · intro t r' hr'
    have hm := getReq_map hg hr t
    cases hq : getReq c t with
    | none => rw [hm, hq] at hr'; cases hr'
    | some r =>
      rw [hq] at hm
      obtain rfl : g r = r' := Option.some.inj (hm.symm.trans hr')
      refine (h.reqOK hq).le1 (h1 r (first_of_getReq hq)) (fun hc => ?_) (fun p hp => hs.subset hp) hn
      exact (ht t hc).imp id (fun x => x (g r) hm)

theorem Inv.step' {c c' : Conn} (h : Inv c) (hle : MapLe c c') (ht : TableOK c c') (hs : c'.reqQueued.Sublist c.reqQueued)
    (hstuck : c'.stuck = c.stuck) (hn : c'.nextID = c.nextID) (hd : c'.dead = c.dead ∨ c'.reqQueued = []) : Inv c' := by
  obtain ⟨g, hg, hl, hr⟩ := hle
  exact h.map g hg hr (fun r hf => (hl r hf).le1) ht hs hstuck hn hd

theorem Inv.rdRel {c c' : Conn} (h : Inv c) (r : RdRel c c') : Inv c' :=
  h.step' r.le r.table r.sub r.stuck r.nextID (.inl r.dead)

theorem Inv.of_same {c c' : Conn} (h : Inv c) (h1 : c'.reqs = c.reqs) (h2 : c'.reqQueued = c.reqQueued)
    (h3 : c'.dead = c.dead) (h4 : c'.stuck = c.stuck) (h5 : c'.nextID = c.nextID) : Inv c' :=
  h.step' (MapLe.of_reqs h1) (TableOK.of_eq h2) (by rw [h2]; exact List.Sublist.refl _) h4 h5 (.inl h3)

theorem Inv.dieWith {c : Conn} (h : Inv c) (e : Err) : Inv (dieWith c e) := by
  obtain ⟨l, hs⟩ := dieWith_shape c e
  refine h.step' (mapLe_dieWith c e) (tableOK_dieWith c e) ?_ ?_ ?_ ?_
  all_goals rw [hs]
  · exact List.nil_sublist _
  · exact .inr rfl

theorem Inv.afterWrites {c : Conn} (h : Inv c) (fs : List OutFrame) : Inv (afterWrites c fs).1 := by
  rcases afterWrites_cases c fs with ⟨e, s, b, hh⟩ | ⟨e, s, hh⟩
  · rw [hh]; exact h.of_same rfl rfl rfl rfl rfl
  · rw [hh]; exact (h.of_same (c' := { c with enc := e, encTableSet := s }) rfl rfl rfl rfl rfl).dieWith _

theorem Inv.drain {c : Conn} (h : Inv c) : Inv (drain c).1 := by
  obtain ⟨p, w, a, _, _, hs, -⟩ := drain_shape c
  rw [hs]; exact h.of_same rfl rfl rfl rfl rfl

/-! ### a new request -/

theorem getReq_append_map {c c' : Conn} (new : Req) (g : Req → Req) (hg : ∀ r, (g r).tag = r.tag)
    (hr : c'.reqs = (c.reqs ++ [new]).map g) (t : String) :
    getReq c' t = match getReq c t with
      | some r => some (g r)
      | none => if new.tag == t then some (g new) else none := by
  have h1 : getReq c' t = (getReq { c with reqs := c.reqs ++ [new] } t).map g :=
    getReq_map (c := { c with reqs := c.reqs ++ [new] }) hg hr t
  rw [h1]
  simp only [getReq, List.find?_append]
  cases List.find? (fun r => r.tag == t) c.reqs with
  | some r => rfl
  | none =>
    simp only [Option.none_or, List.find?_cons, List.find?_nil]
    cases new.tag == t <;> rfl

theorem Inv.newResolved {c c' : Conn} (h : Inv c) (tag : String) (e : Err)
    (hr : c'.reqs = (c.reqs ++ [({ tag := tag } : Req)]).map fun (q : Req) => if q.tag == tag then q.resolve e else q)
    (hq : c'.reqQueued = c.reqQueued) (hn : c'.nextID = c.nextID) (hstuck : c'.stuck = c.stuck) (hdead : c'.dead = c.dead) :
    Inv c' := by
  have get := getReq_append_map (c := c) (c' := c') { tag := tag } _ (updReq_tag fun r h => (resolve_tag r e).trans h) hr
  refine Inv.of_reqOK (hstuck.trans h.stuck) (fun hd => by rw [hq]; exact h.deadTable (hdead ▸ hd))
    (by unfold Keys; rw [hq]; exact h.keys) (by rw [hq, hn]; exact h.below) (by rw [hn]; exact h.pos) ?_
  intro t r' hr'
  rw [get] at hr'
  cases hq' : getReq c t with
  | some r =>
    rw [hq'] at hr'
    obtain rfl := Option.some.inj hr'
    refine (h.reqOK hq').le1 ?_ (fun x => .inl (by unfold InTable; rw [hq]; exact x)) (by rw [hq]; exact fun _ => id) hn
    split
    · exact (Req.resolve_le r e).le1
    · exact (Req.Le.refl r).le1
  | none =>
    rw [hq'] at hr'
    simp only at hr'
    split at hr'
    · obtain rfl := Option.some.inj hr'
      simp only [beq_self_eq_true, if_true]
      exact ⟨.inr (.inl rfl), ⟨rfl, fun hd => nomatch hd⟩, by rw [hn]; exact h.pos, fun _ _ hc => nomatch hc⟩
    · cases hr'

/-- `updReq` rewrites every request carrying the tag, so all of them go with the new stream -/
theorem Inv.newOpened {c c' : Conn} (h : Inv c) (tag : String) (s : Bool)
    (hr : c'.reqs = (c.reqs ++ [({ tag := tag } : Req)]).map fun (q : Req) =>
      if q.tag == tag then { q with sid := c.nextID, hasConn := true, streamed := s } else q)
    (hq : c'.reqQueued = c.reqQueued ++ [(c.nextID, tag)]) (hn : c'.nextID = c.nextID + 2) (hstuck : c'.stuck = c.stuck)
    (hdead : c'.dead = c.dead) (hlive : c.dead = false) : Inv c' := by
  have get := getReq_append_map (c := c) (c' := c') { tag := tag } _
    (updReq_tag (f := fun q => { q with sid := c.nextID, hasConn := true, streamed := s }) fun _ h => h) hr
  have mem : ∀ p, p ∈ c'.reqQueued ↔ p ∈ c.reqQueued ∨ p = (c.nextID, tag) := by
    intro p; rw [hq]; simp
  have hpos := h.pos
  -- a request moved to the new stream is covered by it and claims no other
  have moved : ∀ r : Req, ReqWF r → ReqOK c' tag { r with sid := c.nextID, hasConn := true, streamed := s } := by
    intro r hw
    refine ⟨.inr (.inr ⟨c.nextID, (mem _).mpr (.inr rfl)⟩), hw, by rw [hn]; exact Nat.lt_add_of_pos_right (by decide), ?_⟩
    intro p hp _ hsid
    rcases (mem p).mp hp with hp | rfl
    · have := h.below p hp
      simp only at hsid; omega
    · rfl
  refine Inv.of_reqOK (hstuck.trans h.stuck) (fun hd => by rw [hdead, hlive] at hd; cases hd) ?_ ?_ (by rw [hn]; omega) ?_
  · unfold Keys
    rw [hq, List.map_append, List.nodup_append]
    refine ⟨h.keys, by simp, ?_⟩
    intro a ha b hb
    simp only [List.map_cons, List.map_nil, List.mem_singleton] at hb
    simp only [List.mem_map] at ha
    obtain ⟨p, hp, rfl⟩ := ha
    have := h.below p hp
    omega
  · intro p hp
    rw [hn]
    rcases (mem p).mp hp with hp | rfl
    · have := h.below p hp; omega
    · simp
  · intro t r' hr'
    rw [get] at hr'
    cases hq' : getReq c t with
    | some r =>
      rw [hq'] at hr'
      obtain rfl := Option.some.inj hr'
      have ok := h.reqOK hq'
      split
      · rename_i ht
        obtain rfl : t = tag := (getReq_tag hq').symm.trans (beq_iff_eq.mp ht)
        exact moved r ok.wf
      · refine ⟨ok.covered.imp id (Or.imp id fun ⟨sid, hm⟩ => ⟨sid, (mem _).mpr (.inl hm)⟩), ok.wf, by rw [hn]; have := ok.sidBelow; omega, ?_⟩
        intro p hp hc hsid
        rcases (mem p).mp hp with hp | rfl
        · exact ok.claim p hp hc hsid
        · have := ok.sidBelow; simp only at hsid; omega
    | none =>
      rw [hq'] at hr'
      simp only at hr'
      split at hr'
      · rename_i ht
        obtain rfl := Option.some.inj hr'
        obtain rfl : tag = t := beq_iff_eq.mp ht
        simp only [beq_self_eq_true, if_true]
        exact moved { tag := tag } ⟨rfl, fun hd => nomatch hd⟩
      · cases hr'

/-! ### every event keeps the invariant -/

theorem rdRel_takeReq (c : Conn) (sid : Nat) (tag : String) (hu : ∀ t, (sid, t) ∈ c.reqQueued → t = tag)
    (hs : SettledAt c tag) : RdRel c (takeReq c sid) :=
  (quiet_takeReq c sid).rdRel (MapLe.of_reqs (takeReq_reqs c sid))
    (tableOK_erase hu (fun r hr => hs r ((getReq_congr (takeReq_reqs c sid) tag).symm.trans hr)) (takeReq_reqQueued c sid))

theorem rdRel_resolve (c : Conn) (tag : String) (e : Err) : RdRel c (resolve c tag e) :=
  rdRel_updReq c tag _ (fun r h => (Req.resolve_le r e).tag.trans h) (fun r _ => Req.resolve_le r e)

theorem rdRel_bytesRead {c : Conn} (hk : Keys c) (b : Bytes) : RdRel c (bytesRead c b).1 :=
  (RdRel.of_fields (c := c) (c' := { c with rdBuf := (bytesSplit c b).2 }) rfl rfl rfl rfl rfl id Or.inl
    fun _ h => .inl h).trans (rdRel_rdFrames _ _ hk)

theorem Inv.readEvent {c : Conn} (h : Inv c) (tag : String) : Inv (updReq c tag markRead) := by
  refine h.map (fun q => if q.tag == tag then markRead q else q) ?_ rfl ?_
    (TableOK.of_eq rfl) (List.Sublist.refl _) rfl rfl (.inl rfl)
  · intro r; split <;> rfl
  · intro r _
    split
    · exact ⟨rfl, rfl, fun _ => ⟨rfl, fun _ => rfl⟩, fun _ => .inl rfl⟩
    · exact ⟨rfl, rfl, id, id⟩

theorem writeRequest_inv {c : Conn} (h : Inv c) (r : ReqSpec) (hd : c.dead = false) :
    Inv (writeRequest (withReq c r.tag) r).1 := by
  rcases writeRequest_shape (withReq c r.tag) r with ⟨_, e⟩ | ⟨_, p, w, q, ds, e, _, _⟩ <;> rw [e]
  · exact h.newResolved r.tag .noStreams rfl rfl rfl rfl rfl
  · exact (h.newOpened (c' := wrOpen (withReq c r.tag) r) r.tag (reqStreamed r) rfl (insertA_append _ _ _ h.below) rfl rfl rfl
      hd).of_same rfl rfl rfl rfl rfl

theorem step_inv (c : Conn) (ev : Event) (h : Inv c) : Inv (step c ev).1 := by
  refine step_cases c ev (step c ev) rfl (fun _ _ => h) (fun _ _ _ _ => h) (fun tag _ _ _ _ _ _ => h.readEvent tag)
    ?_ ?_ ?_ ?_ (fun _ _ => h.dieWith .eof) (fun _ _ _ => h.of_same rfl rfl rfl rfl rfl)
  · intro r _ _ _
    exact h.newResolved r.tag (c.lastErr.getD .connClosed) rfl rfl rfl rfl rfl
  · intro r _ _ hd
    exact ((writeRequest_inv h r hd).drain).afterWrites _
  · intro b _ _ _
    have h1 : Inv (bytesRead c b).1 := h.rdRel (rdRel_bytesRead h.keys b)
    exact ⟨h1, (h1.dieWith .eof).of_same rfl rfl rfl rfl rfl, h1.dieWith .eof, h1.drain.afterWrites _⟩
  · intro tag r _ _ hr
    have h1 : Inv (resolve c tag .timeout) := h.rdRel (rdRel_resolve c tag _)
    refine ⟨h1, fun hc hs => ?_⟩
    have h3 : Inv (gaveUp c tag r.sid) := by
      refine (h1.of_same (c' := deletePending (resolve c tag .timeout) r.sid) rfl rfl rfl rfl rfl).rdRel
        (rdRel_takeReq _ r.sid tag ?_ (settledAt_resolve_self c tag .timeout))
      intro t ht
      exact (h.claim (r.sid, t) ht tag r hr hc rfl).symm
    exact ⟨h3, h3.afterWrites _⟩

theorem run_invariant {c : Conn} (h : Inv c) (evs : List Event) : Inv (run c evs).1 :=
  run_inv (I := Inv) step_inv evs c h

end H2.Client
