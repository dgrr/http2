import H2.Proofs.HpackDec
/-! Header blocks: the loop of `handleHeaderFrame` (`Block.feed`) against the specification's decoding of the block,
whether the block arrives cut into frames anywhere (`loop_gen`, `frames_gen`) or whole (`feed_whole`, `blocks_sync`).
What the parsers and the step make of a prefix carries over to the whole. -/
namespace H2.Hpack
open H2

/-! ### what a step yields -/

theorem apply_cases (st : DecState) (k : Nat) (r : Spec.Repr) (st' : DecState) (o : Option Field)
    (h : Spec.apply st k r = some (st', o)) :
    (o.isSome ∧ st'.maxSize = st.maxSize ∧ st'.limit = st.limit) ∨
    (o = none ∧ k = 0 ∧ ∃ n, r = .sizeUpdate n ∧ n ≤ st.limit ∧ st'.maxSize = n ∧ st'.limit = st.limit) := by
  cases r with
  | indexed i =>
    simp only [Spec.apply, Option.map_eq_some_iff, Prod.mk.injEq] at h
    obtain ⟨e, _, rfl, rfl⟩ := h
    exact .inl ⟨rfl, rfl, rfl⟩
  | literal m nr v vh =>
    simp only [apply_literal, Option.map_eq_some_iff, Prod.mk.injEq] at h
    obtain ⟨n, _, rfl, rfl⟩ := h
    exact .inl ⟨rfl, by split <;> rfl, by split <;> rfl⟩
  | sizeUpdate n =>
    simp only [Spec.apply] at h
    split at h
    · rename_i hk
      cases h
      exact .inr ⟨rfl, hk.1, n, rfl, hk.2, rfl, rfl⟩
    · cases h

/-- only the octets `001xxxxx` start a size update -/
theorem parse_sizeUpdate (valid : Nat → Bool) (c : Nat) (cs : Bytes) (n : Nat) (rest : Bytes)
    (h : Spec.parse valid (c :: cs) = .ok (.sizeUpdate n) rest) : 32 ≤ c ∧ c < 64 := by
  rcases first_octet c with hc | hc | ⟨m, hc⟩
  · rw [parse_indexed _ _ _ hc] at h
    cases hi : readInt 7 (c :: cs) <;> simp [hi] at h
  · exact hc
  · rw [parse_literal _ m _ _ hc] at h
    obtain ⟨_, _, _, hr⟩ := parseLiteral_shape _ _ _ _ _ h
    cases hr

/-- only a size update at the very start of a block (HEADERS frame, no field yet) is skipped without a field -/
theorem step_none_start (st : DecState) (bs : Bool) (fp c : Nat) (cs : Bytes) (st' : DecState) (rest : Bytes)
    (h : Spec.step st bs fp (c :: cs) = .ok st' none rest) : bs = true ∧ fp = 0 ∧ 32 ≤ c ∧ c < 64 := by
  rw [step_cons] at h
  cases hp : Spec.parse (Spec.validIn st) (c :: cs) with
  | ok r rest1 =>
    simp only [hp] at h
    rcases ha : Spec.apply st (if bs then fp else fp + 1) r with _ | ⟨st1, _ | f⟩
    · simp [ha] at h
    · rcases apply_cases _ _ _ _ _ ha with ⟨hs, _⟩ | ⟨_, hk, n, rfl, _⟩
      · cases hs
      · cases bs
        · simp at hk
        · exact ⟨rfl, hk, parse_sizeUpdate _ _ _ _ _ hp⟩
    · simp [ha] at h
  | _ => simp [hp] at h

theorem step_progress (st : DecState) (bs : Bool) (fp : Nat) (b : Bytes) (st' : DecState) (f : Field) (rest : Bytes)
    (h : Spec.step st bs fp b = .ok st' (some f) rest) : rest.length < b.length := by
  obtain ⟨w, hb, hw, _⟩ := stepFuel_suffix _ _ _ _ _ _ _ _ h
  exact length_lt_of_suffix (hw rfl) hb

/-! ### prefix stability of the parsers -/

theorem readCont_append (m : Nat) : ∀ (b : Bytes) (i acc : Nat) (q : Bytes),
    (∀ v r, readCont m b i acc = .ok v r → readCont m (b ++ q) i acc = .ok v (r ++ q)) ∧
    (readCont m b i acc = .overflow → readCont m (b ++ q) i acc = .overflow) := by
  intro b
  induction b with
  | nil => intro i acc q; simp [readCont]
  | cons c cs ih =>
    intro i acc q
    simp only [List.cons_append]
    unfold readCont
    by_cases h1 : 7 * i ≥ 64
    · simp [h1]
    · by_cases h2 : acc + c % 128 * 2 ^ (7 * i) + m ≥ 2 ^ 64
      · simp [h1, h2]
      · by_cases h3 : c < 128
        · simp [h1, h2, h3]
        · simp only [h1, h2, h3, if_false]
          exact ih _ _ q

theorem readInt_append (n : Nat) (b q : Bytes) :
    (∀ v r, readInt n b = .ok v r → readInt n (b ++ q) = .ok v (r ++ q)) ∧
    (readInt n b = .overflow → readInt n (b ++ q) = .overflow) := by
  cases b with
  | nil => simp [readInt]
  | cons b0 rest =>
    simp only [List.cons_append, readInt]
    split
    · exact ⟨fun v r h => by cases h; rfl, fun h => by cases h⟩
    · exact readCont_append _ _ _ _ q

theorem readString_append (b q : Bytes) :
    (∀ s r, readString b = .ok s r → readString (b ++ q) = .ok s (r ++ q)) ∧
    (readString b = .err → readString (b ++ q) = .err) := by
  cases b with
  | nil => simp [readString]
  | cons b0 rest =>
    have hI := readInt_append 7 (b0 :: rest) q
    simp only [List.cons_append] at hI ⊢
    unfold readString
    cases hi : readInt 7 (b0 :: rest) with
    | needMore => simp [hi]
    | overflow => simp [hi, hI.2 hi]
    | ok n r' =>
      simp only [hi, hI.1 _ _ hi]
      by_cases h1 : r'.length < n
      · simp [h1]
      · -- the string lies within `r'`
        have h1' : ¬ (r' ++ q).length < n := by simp; omega
        have ht : (r' ++ q).take n = r'.take n := List.take_append_of_le_length (by omega)
        have hd : (r' ++ q).drop n = r'.drop n ++ q := List.drop_append_of_le_length (by omega)
        simp only [h1, h1', if_false, ht, hd]
        split
        · cases Huffman.decode (r'.take n) <;> simp
        · simp

theorem parseLiteral_append (valid : Nat → Bool) (m : Spec.Mode) (b q : Bytes) :
    (∀ r rest, Spec.parseLiteral valid m b = .ok r rest → Spec.parseLiteral valid m (b ++ q) = .ok r (rest ++ q)) ∧
    (Spec.parseLiteral valid m b = .invalid → Spec.parseLiteral valid m (b ++ q) = .invalid) := by
  rw [parseLiteral_eq, parseLiteral_eq]
  cases hi : readInt m.prefixBits b with
  | needMore => simp
  | overflow => simp [(readInt_append _ _ q).2 hi]
  | ok i r1 =>
    simp only [(readInt_append _ _ q).1 _ _ hi]
    -- the H bit of a string that is read is in its first octet, which is there
    have hd : ∀ (x : Bytes) s r, readString x = .ok s r → (x ++ q).headD 0 = x.headD 0 := fun x s r h => by
      cases x with
      | nil => cases h
      | cons a t => rfl
    split
    · cases hs : readString r1 with
      | needMore => simp
      | err => simp [(readString_append _ q).2 hs]
      | ok n r2 =>
        simp only [(readString_append _ q).1 _ _ hs, hd _ _ _ hs]
        cases hs2 : readString r2 with
        | needMore => simp
        | err => simp [(readString_append _ q).2 hs2]
        | ok v r3 => simp only [(readString_append _ q).1 _ _ hs2, hd _ _ _ hs2]; simp
    · split
      · simp
      · cases hs : readString r1 with
        | needMore => simp
        | err => simp [(readString_append _ q).2 hs]
        | ok v r3 => simp only [(readString_append _ q).1 _ _ hs, hd _ _ _ hs]; simp

theorem parse_append (valid : Nat → Bool) (b q : Bytes) :
    (∀ r rest, Spec.parse valid b = .ok r rest → Spec.parse valid (b ++ q) = .ok r (rest ++ q)) ∧
    (Spec.parse valid b = .invalid → Spec.parse valid (b ++ q) = .invalid) := by
  cases b with
  | nil => simp [Spec.parse]
  | cons c cs =>
    have hI := fun n => readInt_append n (c :: cs) q
    simp only [List.cons_append] at hI ⊢
    rcases first_octet c with hc | hc | ⟨m, hc⟩
    · rw [parse_indexed _ _ _ hc, parse_indexed _ _ _ hc]
      cases hi : readInt 7 (c :: cs) with
      | needMore => simp
      | overflow => simp [(hI 7).2 hi]
      | ok i r => simp [(hI 7).1 _ _ hi]
    · rw [parse_update _ _ _ hc, parse_update _ _ _ hc]
      cases hi : readInt 5 (c :: cs) with
      | needMore => simp
      | overflow => simp [(hI 5).2 hi]
      | ok i r => simp [(hI 5).1 _ _ hi]
    · rw [parse_literal _ m _ _ hc, parse_literal _ m _ _ hc]
      exact parseLiteral_append valid m (c :: cs) q

/-! ### what a suffix behind its input changes for the RFC step -/

theorem apply_congr (st : DecState) (k k' : Nat) (r : Spec.Repr) (h : k = 0 ↔ k' = 0) :
    Spec.apply st k r = Spec.apply st k' r := by
  cases r with
  | indexed i => rfl
  | literal m nr v vh => rfl
  | sizeUpdate n => simp only [Spec.apply, h]

theorem step_congr (bs bs' : Bool) (fp fp' : Nat)
    (h : (if bs then fp else fp + 1) = 0 ↔ (if bs' then fp' else fp' + 1) = 0) :
    ∀ (n : Nat) (st : DecState) (b : Bytes), b.length ≤ n → Spec.step st bs fp b = Spec.step st bs' fp' b := by
  intro n
  induction n with
  | zero =>
    intro st b hb
    have : b = [] := List.eq_nil_of_length_eq_zero (by omega)
    subst this; simp [step_nil]
  | succ n ih =>
    intro st b hb
    cases b with
    | nil => simp [step_nil]
    | cons c cs =>
      rw [step_cons, step_cons]
      cases hp : Spec.parse (Spec.validIn st) (c :: cs) with
      | incomplete => rfl
      | invalid => rfl
      | ok r rest =>
        have hlt := parse_progress _ _ _ _ hp
        simp only [List.length_cons] at hlt hb
        simp only
        rw [apply_congr st _ _ r h]
        cases ha : Spec.apply st (if bs' then fp' else fp' + 1) r with
        | none => rfl
        | some p =>
          obtain ⟨st', o⟩ := p
          cases o with
          | some f => rfl
          | none => exact ih st' rest (by omega)

/-- what the step makes of `x` it makes of `x ++ y`, except that it goes on into `y` where `x` ran out -/
theorem step_append (bs : Bool) (fp : Nat) (y : Bytes) : ∀ (n : Nat) (st : DecState) (x : Bytes), x.length ≤ n →
    match Spec.step st bs fp x with
    | .err => Spec.step st bs fp (x ++ y) = .err
    | .ok st' (some f) rest => Spec.step st bs fp (x ++ y) = .ok st' (some f) (rest ++ y)
    | .ok st' none rest => rest = [] ∧ Spec.step st bs fp (x ++ y) = Spec.step st' bs fp y
    | .needMore => True := by
  intro n
  induction n with
  | zero =>
    intro st x hx
    have : x = [] := List.eq_nil_of_length_eq_zero (by omega)
    subst this; simp [step_nil]
  | succ n ih =>
    intro st x hx
    cases x with
    | nil => simp [step_nil]
    | cons c cs =>
      simp only [List.cons_append]
      rw [step_cons, step_cons]
      have hpa := parse_append (Spec.validIn st) (c :: cs) y
      simp only [List.cons_append] at hpa
      cases hp : Spec.parse (Spec.validIn st) (c :: cs) with
      | incomplete => simp
      | invalid => simp [hpa.2 hp]
      | ok r rest =>
        have hlt := parse_progress _ _ _ _ hp
        simp only [List.length_cons] at hlt hx
        rw [hpa.1 _ _ hp]
        simp only
        cases ha : Spec.apply st (if bs then fp else fp + 1) r with
        | none => simp
        | some p =>
          obtain ⟨st', o⟩ := p
          cases o with
          | some f => simp
          | none => exact ih st' rest (by omega)

/-! ### the octets a cut-short `nextField` call hands back -/

theorem skipFuel_fuel : ∀ (fuel : Nat) (st : DecState) (bs : Bool) (fp : Nat) (b : Bytes),
    b.length + 1 ≤ fuel → skipFuel fuel st bs fp b = skipFuel (b.length + 1) st bs fp b := by
  intro fuel
  induction fuel using Nat.strongRecOn with
  | _ fuel ih =>
    intro st bs fp b h
    cases fuel with
    | zero => omega
    | succ fuel =>
      cases b with
      | nil => simp [skipFuel]
      | cons c cs =>
        simp only [List.length_cons]
        unfold skipFuel
        by_cases hc : 32 ≤ c ∧ c < 64
        · simp only [hc, and_self, if_true]
          cases hi : readInt 5 (c :: cs) with
          | needMore => rfl
          | overflow => rfl
          | ok n r =>
            have hlt := readInt_progress _ _ _ _ hi
            simp only [List.length_cons] at hlt h
            simp only
            split
            · rfl
            · split
              · rfl
              · rw [ih fuel (by omega) _ bs fp r (by omega), ih (cs.length + 1) (by omega) _ bs fp r (by omega)]
        · simp [hc]

theorem skip_nil (st : DecState) (bs : Bool) (fp : Nat) : Dec.skipUpdates st bs fp [] = (st, []) := by
  simp [Dec.skipUpdates, skipFuel]

theorem skip_cons (st : DecState) (bs : Bool) (fp c : Nat) (cs : Bytes) :
    Dec.skipUpdates st bs fp (c :: cs) =
      if 32 ≤ c ∧ c < 64 then
        match readInt 5 (c :: cs) with
        | .ok n r =>
          if !bs || fp > 0 then (st, c :: cs)
          else if n > st.limit then (st, c :: cs)
          else Dec.skipUpdates { st with maxSize := n, dyn := evict st.dyn n } bs fp r
        | _ => (st, c :: cs)
      else (st, c :: cs) := by
  show skipFuel (cs.length + 1 + 1) st bs fp (c :: cs) = _
  simp only [skipFuel]
  by_cases hc : 32 ≤ c ∧ c < 64
  · simp only [hc, and_self, if_true]
    cases hi : readInt 5 (c :: cs) with
    | needMore => rfl
    | overflow => rfl
    | ok n r =>
      have hlt := readInt_progress _ _ _ _ hi
      simp only [List.length_cons] at hlt
      simp only
      split
      · rfl
      · split
        · rfl
        · exact skipFuel_fuel (cs.length + 1) _ bs fp r (by omega)
  · simp [hc]

/-- the step on the whole remaining block is the step from where the cut-short call left off: the size
updates it consumed were applied once, and what it hands back starts behind them -/
theorem skip_step (bs : Bool) (fp : Nat) (y : Bytes) : ∀ (n : Nat) (st : DecState) (x : Bytes), x.length ≤ n →
    Spec.step st bs fp (x ++ y) =
      Spec.step (Dec.skipUpdates st bs fp x).1 bs fp ((Dec.skipUpdates st bs fp x).2 ++ y) := by
  intro n
  induction n with
  | zero =>
    intro st x hx
    have : x = [] := List.eq_nil_of_length_eq_zero (by omega)
    subst this; simp [skip_nil]
  | succ n ih =>
    intro st x hx
    cases x with
    | nil => simp [skip_nil]
    | cons c cs =>
      rw [skip_cons]
      by_cases hc : 32 ≤ c ∧ c < 64
      · simp only [hc, and_self, if_true]
        cases hi : readInt 5 (c :: cs) with
        | needMore => rfl
        | overflow => rfl
        | ok v r =>
          simp only
          by_cases hk : (!bs || decide (fp > 0)) = true
          · simp [hk]
          · simp only [hk, Bool.false_eq_true, if_false]
            by_cases hl : v > st.limit
            · simp [hl]
            · simp only [hl, if_false]
              have hlt := readInt_progress _ _ _ _ hi
              simp only [List.length_cons] at hlt hx
              rw [← ih _ r (by omega)]
              -- the step on `c :: cs ++ y` takes the size update and goes on behind it
              have hbs : bs = true ∧ fp = 0 := by
                cases bs
                · simp at hk
                · simp at hk; exact ⟨rfl, hk⟩
              obtain ⟨rfl, rfl⟩ := hbs
              simp only [List.cons_append]
              rw [step_cons, parse_update _ _ _ hc]
              have hia := (readInt_append 5 _ y).1 _ _ hi
              simp only [List.cons_append] at hia
              simp only [hia]
              have hle : v ≤ st.limit := by omega
              simp [Spec.apply, hle, evict_eq]
      · simp [hc]

/-! ### the block decoder in terms of the step -/

theorem blockFuel_fuel : ∀ (n : Nat) (st : DecState) (fp : Nat) (b : Bytes),
    b.length < n → Spec.blockFuel n st fp b = Spec.blockFuel (b.length + 1) st fp b := by
  intro n
  induction n using Nat.strongRecOn with
  | _ n ih =>
    intro st fp b h
    cases n with
    | zero => omega
    | succ n =>
      cases b with
      | nil => simp [Spec.blockFuel]
      | cons c cs =>
        simp only [List.length_cons, Spec.blockFuel]
        cases hs : Spec.step st true fp (c :: cs) with
        | needMore => rfl
        | err => rfl
        | ok st' o rest =>
          cases o with
          | none => rfl
          | some f =>
            have hlt := step_progress _ _ _ _ _ _ _ hs
            simp only [List.length_cons] at hlt h
            simp only
            rw [ih n (by omega) st' (fp + 1) rest (by omega), ih (cs.length + 1) (by omega) st' (fp + 1) rest (by omega)]

/-- the specification's decoding of what is left of a block, `fp` fields in -/
def blk (st : DecState) (fp : Nat) (b : Bytes) : Option (DecState × List Field) :=
  Spec.blockFuel (b.length + 1) st fp b

theorem blk_step (st : DecState) (fp : Nat) (b : Bytes) :
    blk st fp b =
      match Spec.step st true fp b with
      | .ok st' (some f) rest => (blk st' (fp + 1) rest).map fun p => (p.1, f :: p.2)
      | .ok st' none _ => some (st', [])
      | _ => none := by
  unfold blk
  cases b with
  | nil => simp [Spec.blockFuel, step_nil]
  | cons c cs =>
    simp only [List.length_cons, Spec.blockFuel]
    cases hs : Spec.step st true fp (c :: cs) with
    | needMore => rfl
    | err => rfl
    | ok st' o rest =>
      cases o with
      | none => rfl
      | some f =>
        have hlt := step_progress _ _ _ _ _ _ _ hs
        simp only [List.length_cons] at hlt
        simp only
        rw [blockFuel_fuel _ _ _ _ (by omega)]

theorem blk_congr (st st' : DecState) (fp : Nat) (b b' : Bytes)
    (h : Spec.step st true fp b = Spec.step st' true fp b') : blk st fp b = blk st' fp b' := by
  rw [blk_step, blk_step, h]

theorem map_prepend_nil (o : Option (DecState × List Field)) :
    o.map (fun p => (p.1, ([] : List Field) ++ p.2)) = o := by
  cases o <;> simp

/-- `strm.fieldSeen` after a loop that started a block with `fp` fields behind it and decoded `fs` more -/
def seenAfter (fp : Nat) (fs : List Field) : Bool := decide (0 < fp + fs.length)

theorem seenAfter_zero (fs : List Field) : seenAfter 0 fs = !fs.isEmpty := by
  cases fs <;> simp [seenAfter]

/-- `strm.fieldSeen` as the loop leaves it, from what it was when the frame started -/
theorem seen_eq (bs : Bool) (fpF fpW : Nat) (h : (bs = true ∧ fpF = 0) ↔ fpW = 0) :
    (!bs || decide (fpF > 0)) = seenAfter fpW [] := by
  simp only [seenAfter, List.length_nil, Nat.add_zero]
  cases bs
  · have : fpW ≠ 0 := fun h0 => by have := h.2 h0; simp at this
    have : 0 < fpW := by omega
    simp [this]
  · by_cases hf : fpF = 0
    · have : fpW = 0 := h.1 ⟨rfl, hf⟩
      simp [hf, this]
    · have : fpW ≠ 0 := fun h0 => hf (h.2 h0).2
      have h1 : 0 < fpW := by omega
      have h2 : fpF > 0 := by omega
      simp [h1, h2]

/-- the loop of `handleHeaderFrame` over the octets at hand (`x`: carry-over plus this frame) against the
specification's decoding of the whole remaining block (`x ++ y`). `fpW` counts the fields of the block so
far; the loop knows `bs` (no field in earlier frames) and `fpF` (fields in this frame). -/
theorem loop_gen : ∀ (m : Nat) (dec : DecState) (bs eh : Bool) (fpF fpW : Nat) (x y : Bytes) (acc : List Field),
    x.length ≤ m → (eh = true → y = []) → ((bs = true ∧ fpF = 0) ↔ fpW = 0) →
    match Block.loop m dec bs eh fpF x acc with
    | .ok ⟨dec', r, sn⟩ acc' => ∃ fs, acc' = acc ++ fs ∧ (eh = true → r = []) ∧ sn = seenAfter fpW fs ∧
        blk dec fpW (x ++ y) = (blk dec' (fpW + fs.length) (r ++ y)).map (fun p => (p.1, fs ++ p.2))
    | .err _ => blk dec fpW (x ++ y) = none := by
  intro m
  induction m with
  | zero =>
    intro dec bs eh fpF fpW x y acc hm hy hI
    have : x = [] := List.eq_nil_of_length_eq_zero (by omega)
    subst this
    simp only [Block.loop]
    exact ⟨[], by simp, by simp, seen_eq bs fpF fpW hI, by simp⟩
  | succ m ih =>
    intro dec bs eh fpF fpW x y acc hm hy hI
    cases x with
    | nil =>
      simp only [Block.loop, List.isEmpty_nil, if_true]
      exact ⟨[], by simp, by simp, seen_eq bs fpF fpW hI, by simp⟩
    | cons c cs =>
      have hK : (if bs = true then fpF else fpF + 1) = 0 ↔ (if (true : Bool) = true then fpW else fpW + 1) = 0 := by
        cases bs
        · simp only [Bool.false_eq_true, if_false, if_true]
          constructor
          · intro h; omega
          · intro h; have := hI.2 h; simp at this
        · simp only [if_true]
          constructor
          · intro h; exact hI.1 ⟨rfl, h⟩
          · intro h; exact (hI.2 h).2
      have hcg : ∀ (st : DecState) (b : Bytes), Spec.step st bs fpF b = Spec.step st true fpW b :=
        fun st b => step_congr bs true fpF fpW hK b.length st b (Nat.le_refl _)
      have hF : Dec.next dec bs fpF (c :: cs) = Spec.step dec true fpW (c :: cs) := by
        rw [next_eq_step, hcg]
      simp only [Block.loop, List.isEmpty_cons, Bool.false_eq_true, if_false, hF]
      have hA := step_append true fpW y (c :: cs).length dec (c :: cs) (Nat.le_refl _)
      cases hs : Spec.step dec true fpW (c :: cs) with
      | err =>
        simp only [hs] at hA ⊢
        rw [blk_step, hA]
      | needMore =>
        simp only
        cases eh with
        | true =>
          simp only [if_true]
          have := hy rfl
          subst this
          rw [List.append_nil, blk_step, hs]
        | false =>
          simp only [Bool.false_eq_true, if_false]
          refine ⟨[], by simp, (fun h => by cases h), seen_eq bs fpF fpW hI, ?_⟩
          have e : blk dec fpW (c :: cs ++ y) =
              blk (Dec.skipUpdates dec bs fpF (c :: cs)).1 fpW ((Dec.skipUpdates dec bs fpF (c :: cs)).2 ++ y) := by
            apply blk_congr
            rw [← hcg, skip_step bs fpF y (c :: cs).length dec (c :: cs) (Nat.le_refl _), hcg]
          rw [e]
          simp
      | ok dec1 o rest =>
        cases o with
        | none =>
          simp only [hs] at hA ⊢
          obtain ⟨_, hA⟩ := hA
          refine ⟨[], by simp, by simp, seen_eq bs fpF fpW hI, ?_⟩
          rw [blk_congr _ _ _ _ _ hA]
          simp
        | some f =>
          simp only [hs] at hA ⊢
          have hlt := step_progress _ _ _ _ _ _ _ hs
          simp only [List.length_cons] at hlt hm
          have hI' : (bs = true ∧ fpF + 1 = 0) ↔ fpW + 1 = 0 := by
            constructor
            · intro h; omega
            · intro h; omega
          have := ih dec1 bs eh (fpF + 1) (fpW + 1) rest y (acc ++ [f]) (by omega) hy hI'
          rw [blk_step, hA]
          simp only
          cases hl : Block.loop m dec1 bs eh (fpF + 1) rest (acc ++ [f]) with
          | err fs => simp only [hl] at this; rw [this]; rfl
          | ok s acc' =>
            obtain ⟨dec', r, sn⟩ := s
            simp only [hl] at this
            obtain ⟨fs', hacc, hr, hsn, hb⟩ := this
            refine ⟨f :: fs', by simp [hacc], hr, ?_, ?_⟩
            · rw [hsn]
              have : fpW + 1 + fs'.length = fpW + (fs'.length + 1) := by omega
              simp only [seenAfter, List.length_cons, this]
            · rw [hb]
              simp only [List.length_cons, Option.map_map]
              have e : fpW + 1 + fs'.length = fpW + (fs'.length + 1) := by omega
              rw [e]
              congr 1

/-- the frames of one header block: a HEADERS frame, then CONTINUATION frames; END_HEADERS on the last -/
def feedFrames : Block.State → Bool → List Bytes → List Field → Block.Res
  | st, _, [], acc => .ok st acc
  | st, first, [p], acc =>
    match Block.feed st (!first) true p with
    | .ok s fs => .ok s (acc ++ fs)
    | .err fs => .err (acc ++ fs)
  | st, first, p :: q :: ps, acc =>
    match Block.feed st (!first) false p with
    | .ok s fs => feedFrames s false (q :: ps) (acc ++ fs)
    | .err fs => .err (acc ++ fs)

/-- **reassembly**: the frames of a block, fed one by one with the carry-over between them, against the
specification's decoding of the concatenation — `fpW` fields of the block already decoded, `prev` carried
over, `sn` what `strm.fieldSeen` says -/
theorem frames_gen : ∀ (frames : List Bytes) (dec : DecState) (prev : Bytes) (sn first : Bool) (fpW : Nat) (acc : List Field),
    frames ≠ [] → (first = true → fpW = 0) → (first = false → sn = seenAfter fpW []) →
    match feedFrames ⟨dec, prev, sn⟩ first frames acc with
    | .ok ⟨dec', r, sn'⟩ acc' => r = [] ∧ ∃ fs, acc' = acc ++ fs ∧ sn' = seenAfter fpW fs ∧
        blk dec fpW (prev ++ frames.flatten) = some (dec', fs)
    | .err _ => blk dec fpW (prev ++ frames.flatten) = none := by
  intro frames
  induction frames with
  | nil => intro dec prev sn first fpW acc h; exact absurd rfl h
  | cons p ps ih =>
    intro dec prev sn first fpW acc _ hfirst hcont
    -- what the frame loop knows about the block so far
    have hI : ((!(!first && sn)) = true ∧ 0 = 0) ↔ fpW = 0 := by
      cases first with
      | true => simp [hfirst rfl]
      | false =>
        have := hcont rfl
        subst this
        simp only [seenAfter, List.length_nil, Nat.add_zero, Bool.not_false, Bool.true_and]
        by_cases h0 : fpW = 0
        · simp [h0]
        · have : 0 < fpW := by omega
          simp [this, h0]
    cases ps with
    | nil =>
      have hg := loop_gen (prev ++ p).length dec (!(!first && sn)) true 0 fpW (prev ++ p) [] []
        (Nat.le_refl _) (fun _ => rfl) hI
      simp only [feedFrames, Block.feed, List.flatten_cons, List.flatten_nil, List.append_nil] at hg ⊢
      cases hl : Block.loop (prev ++ p).length dec (!(!first && sn)) true 0 (prev ++ p) [] with
      | err fs => simp only [hl] at hg ⊢; exact hg
      | ok s fs =>
        obtain ⟨dec', r, sn'⟩ := s
        simp only [hl] at hg ⊢
        obtain ⟨fs', hfs, hr, hsn, hb⟩ := hg
        have hr' : r = [] := by simpa using hr
        subst hr'
        simp only [List.nil_append] at hfs
        subst hfs
        refine ⟨rfl, fs, rfl, hsn, ?_⟩
        rw [hb]
        simp [blk, Spec.blockFuel]
    | cons q qs =>
      have hg := loop_gen (prev ++ p).length dec (!(!first && sn)) false 0 fpW (prev ++ p) (q :: qs).flatten []
        (Nat.le_refl _) (fun h => by cases h) hI
      have hflat : prev ++ (p :: q :: qs).flatten = (prev ++ p) ++ (q :: qs).flatten := by simp
      rw [hflat]
      simp only [feedFrames, Block.feed]
      cases hl : Block.loop (prev ++ p).length dec (!(!first && sn)) false 0 (prev ++ p) [] with
      | err fs => simp only [hl] at hg ⊢; exact hg
      | ok s fs =>
        obtain ⟨dec', r, sn'⟩ := s
        simp only [hl] at hg ⊢
        obtain ⟨fs', hfs, _, hsn, hb⟩ := hg
        simp only [List.nil_append] at hfs
        subst hfs
        have hsn' : sn' = seenAfter (fpW + fs.length) [] := by
          rw [hsn]; simp [seenAfter]
        have := ih dec' r sn' false (fpW + fs.length) (acc ++ fs) (by simp) (fun h => by cases h) (fun _ => hsn')
        rw [hb]
        cases hrec : feedFrames ⟨dec', r, sn'⟩ false (q :: qs) (acc ++ fs) with
        | err e => simp only [hrec] at this ⊢; rw [this]; rfl
        | ok s2 acc2 =>
          obtain ⟨dec2, r2, sn2⟩ := s2
          simp only [hrec] at this ⊢
          obtain ⟨hr2, fs2, hacc2, hsn2, hb2⟩ := this
          refine ⟨hr2, fs ++ fs2, by simp [hacc2], ?_, ?_⟩
          · rw [hsn2]; simp [seenAfter, Nat.add_assoc]
          · rw [hb2]; rfl

/-! ### blocks delivered whole, one after the other -/

theorem decodeBlock_eq (dec : DecState) (b : Bytes) (hle : dec.maxSize ≤ dec.limit) :
    Spec.decodeBlock dec b = blk dec 0 b := by
  have : ¬ dec.maxSize > dec.limit := by omega
  simp [Spec.decodeBlock, blk, this]

/-- the HEADERS frame that carries a whole block: the loop of `handleHeaderFrame` yields what the specification
assigns to the block, and rejects exactly the blocks it rejects -/
theorem feed_whole (dec : DecState) (b : Bytes) (sn : Bool) (hle : dec.maxSize ≤ dec.limit) :
    match Spec.decodeBlock dec b with
    | some (st', fs) => Block.feed ⟨dec, [], sn⟩ false true b = .ok ⟨st', [], !fs.isEmpty⟩ fs
    | none => ∃ fs, Block.feed ⟨dec, [], sn⟩ false true b = .err fs := by
  have hg := loop_gen b.length dec true true 0 0 b [] [] (Nat.le_refl _) (fun _ => rfl) (by simp)
  rw [decodeBlock_eq dec b hle]
  simp only [Block.feed, Bool.false_and, Bool.not_false, List.nil_append]
  rw [List.append_nil] at hg
  cases hl : Block.loop b.length dec true true 0 b [] with
  | err fs =>
    rw [hl] at hg
    simp only at hg
    rw [hg]
    exact ⟨fs, rfl⟩
  | ok s acc' =>
    obtain ⟨dec', r, sn'⟩ := s
    rw [hl] at hg
    obtain ⟨fs, hacc, hr, hsn, hb⟩ := hg
    obtain rfl := hr rfl
    simp only [List.nil_append] at hacc
    subst hacc hsn
    rw [hb]
    simp [blk, Spec.blockFuel, seenAfter_zero]

/-- decoder model over a connection: each block in one frame -/
def decodeBlocks (dec : DecState) : List Bytes → Option (DecState × List (List Field))
  | [] => some (dec, [])
  | b :: bs =>
    match Block.feed ⟨dec, [], false⟩ false true b with
    | .ok s fs => (decodeBlocks s.dec bs).map fun (d, fss) => (d, fs :: fss)
    | .err _ => none

/-- specification over a connection -/
def specBlocks (dec : DecState) : List Bytes → Option (DecState × List (List Field))
  | [] => some (dec, [])
  | b :: bs =>
    match Spec.decodeBlock dec b with
    | some (d, fs) => (specBlocks d bs).map fun (d', fss) => (d', fs :: fss)
    | none => none

theorem step_le (st : DecState) (bs : Bool) (fp : Nat) (b : Bytes) (st' : DecState) (o : Option Field) (rest : Bytes)
    (hle : st.maxSize ≤ st.limit) (h : Spec.step st bs fp b = .ok st' o rest) : st'.maxSize ≤ st'.limit := by
  unfold Spec.step at h
  generalize b.length + 1 = fuel at h
  induction fuel generalizing st b with
  | zero => simp [Spec.stepFuel] at h
  | succ fuel ih =>
    cases b with
    | nil => simp only [Spec.stepFuel] at h; injection h with h1; subst h1; exact hle
    | cons c cs =>
      unfold Spec.stepFuel at h
      cases hp : Spec.parse (Spec.validIn st) (c :: cs) with
      | incomplete => simp [hp] at h
      | invalid => simp [hp] at h
      | ok r rest1 =>
        simp only [hp] at h
        cases ha : Spec.apply st (if bs then fp else fp + 1) r with
        | none => simp [ha] at h
        | some p =>
          obtain ⟨st1, o1⟩ := p
          have h1 : st1.maxSize ≤ st1.limit := by
            rcases apply_cases _ _ _ _ _ ha with ⟨_, hm, hl⟩ | ⟨_, _, n, _, hn, hm, hl⟩ <;> omega
          cases o1 with
          | some f =>
            simp only [ha] at h
            injection h with h2
            subst h2; exact h1
          | none =>
            simp only [ha] at h
            exact ih st1 rest1 h1 h

theorem blockFuel_le : ∀ (n : Nat) (st : DecState) (fp : Nat) (b : Bytes) (st' : DecState) (fs : List Field),
    st.maxSize ≤ st.limit → Spec.blockFuel n st fp b = some (st', fs) → st'.maxSize ≤ st'.limit := by
  intro n
  induction n with
  | zero => intro st fp b st' fs _ h; simp [Spec.blockFuel] at h
  | succ n ih =>
    intro st fp b st' fs hle h
    cases b with
    | nil => simp only [Spec.blockFuel] at h; injection h with h; injection h with h1; subst h1; exact hle
    | cons c cs =>
      simp only [Spec.blockFuel] at h
      cases hs : Spec.step st true fp (c :: cs) with
      | needMore => simp [hs] at h
      | err => simp [hs] at h
      | ok st1 o rest =>
        have h1 := step_le _ _ _ _ _ _ _ hle hs
        cases o with
        | none => simp only [hs] at h; injection h with h; injection h with h2; subst h2; exact h1
        | some f =>
          simp only [hs] at h
          cases hb : Spec.blockFuel n st1 (fp + 1) rest with
          | none => simp [hb] at h
          | some p =>
            obtain ⟨s, fs'⟩ := p
            simp only [hb, Option.map_some] at h
            injection h with h; injection h with h2
            subst h2
            exact ih _ _ _ _ _ h1 hb

/-- **history_sync** (blocks delivered whole): over any sequence of header blocks the model of the decoder
accepts exactly the histories RFC 7541 makes valid and yields the same header lists and the same table after
every block -/
theorem blocks_sync : ∀ (blocks : List Bytes) (dec : DecState), dec.maxSize ≤ dec.limit →
    decodeBlocks dec blocks = specBlocks dec blocks := by
  intro blocks
  induction blocks with
  | nil => intro dec _; rfl
  | cons b bs ih =>
    intro dec hle
    have hw := feed_whole dec b false hle
    simp only [decodeBlocks, specBlocks]
    cases hd : Spec.decodeBlock dec b with
    | none =>
      simp only [hd] at hw
      obtain ⟨fs, hfs⟩ := hw
      simp [hfs]
    | some p =>
      obtain ⟨d, fs⟩ := p
      simp only [hd] at hw
      simp only [hw]
      have hle' : d.maxSize ≤ d.limit := by
        unfold Spec.decodeBlock at hd
        split at hd
        · cases hd
        · exact blockFuel_le _ _ _ _ _ _ hle hd
      rw [ih d hle']

end H2.Hpack
