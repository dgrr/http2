import H2.Huffman.Rfc
/-! Lemmas for C15 about the table generated from `huffman.go` (`Gen.huffCodes`, `Gen.huffLens`): it is the canonical
code of the lengths in RFC 7541 Appendix B, the trie built from it decodes exactly the encoder's output followed by
fewer than 8 one-bits, and octets and bits convert both ways. Facts about the table itself are checked by kernel
evaluation; everything else is by induction. -/
namespace H2.Huffman

/-! ### the table without lookups

`table` finds the code of a symbol with `List.getD`, and the kernel pays for a pass over a 256-entry list at every
lookup. The facts about the trie that are checked by evaluation are therefore stated about the same table and trie
built by zipping the two lists. -/

theorem map_range_getD {β : Type} (f : Nat → Nat → β) (as bs : List Nat) (n : Nat)
    (ha : as.length = n) (hb : bs.length = n) :
    (List.range n).map (fun i => (i, f (as.getD i 0) (bs.getD i 0))) = (List.range n).zip (List.zipWith f as bs) := by
  apply List.ext_getElem
  · simp [ha, hb]
  · intro i h1 h2
    simp only [List.length_map, List.length_range] at h1
    simp [List.getD_eq_getElem?_getD, ha, hb, h1]

def zipTable : List (Nat × List Bool) := (List.range 256).zip (List.zipWith bitsOf Gen.huffCodes Gen.huffLens)

def zipTrie : Tree := zipTable.foldl (fun t (s, bs) => t.insert bs s) .empty

theorem huffCodes_length : Gen.huffCodes.length = 256 := by decide +kernel
theorem huffLens_length : Gen.huffLens.length = 256 := by decide +kernel

theorem table_eq : table = zipTable := map_range_getD bitsOf _ _ 256 huffCodes_length huffLens_length

theorem trie_eq : trie = zipTrie := by rw [trie, table_eq, zipTrie]

theorem decode_eq (b : Bytes) : decode b = decGo zipTrie zipTrie 0 true (unpack b) [] := by rw [decode, trie_eq]

/-! ### the canonical code without lookups

`canonicalGo` finds the symbols of each length by looking every length up, and `canonicalCodeOf` then searches the
resulting list for each symbol; evaluated by the kernel that is a pass over a 257-entry list per symbol, twice.
So `canonical` is shown to list, length by length, the symbols of that length with consecutive codes
(`canonicalRounds`), and that list is compared once with the table sorted the same way (`byLength`). -/

def symsOf (lens : List Nat) (len : Nat) : List Nat := (lens.zipIdx.filter (·.1 == len)).map (·.2)

theorem symsOf_eq (lens : List Nat) (len : Nat) :
    (List.range lens.length).filter (fun s => lens.getD s 0 == len) = symsOf lens len := by
  have h : lens.zipIdx = (List.range lens.length).map (fun i => (lens.getD i 0, i)) := by
    apply List.ext_getElem
    · simp
    · intro i h1 h2
      simp only [List.length_zipIdx] at h1
      simp [List.getD_eq_getElem?_getD, h1]
  rw [symsOf, h, List.filter_map, List.map_map]
  exact (List.map_id' _).symm

def canonicalRounds (lens : List Nat) : Nat → Nat → Nat → List (Nat × Nat)
  | 0, _, _ => []
  | fuel + 1, len, next =>
    (symsOf lens len).zipIdx.map (fun (s, i) => (s, next + i)) ++
      canonicalRounds lens fuel (len + 1) ((next + (symsOf lens len).length) * 2)

theorem canonicalGo_eq (lens : List Nat) (fuel len next : Nat) (acc : List (Nat × Nat)) :
    canonicalGo lens fuel len next acc = acc ++ canonicalRounds lens fuel len next := by
  induction fuel generalizing len next acc with
  | zero => simp [canonicalGo, canonicalRounds]
  | succ fuel ih => simp only [canonicalGo, canonicalRounds, symsOf_eq, ih, List.append_assoc]

/-- the table in the order of `canonical`: by length (1 to 30, the length of EOS, the longest code), then by symbol -/
def byLength (lens codes : List Nat) : List (Nat × Nat) :=
  (List.range' 1 30).flatMap fun len => ((lens.zip codes).zipIdx.filter (·.1.1 == len)).map fun p => (p.2, p.1.2)

/-- The search in `canonicalCodeOf` finds an entry for the symbol (`hin`), and every entry carries the table's code
(`hmem`). -/
theorem canonicalCodeOf_eq (lens codes : List Nat) (hl : codes.length = lens.length)
    (hr : lens.all (fun l => 1 ≤ l && l ≤ 30) = true)
    (hc : canonicalRounds lens 30 1 0 = byLength lens codes) (s : Nat) (hs : s < lens.length) :
    canonicalCodeOf lens s = codes.getD s 0 := by
  have hmem : ∀ p ∈ byLength lens codes, p.2 = codes.getD p.1 0 := by
    intro p hp
    simp only [byLength, List.mem_flatMap, List.mem_map, List.mem_filter] at hp
    obtain ⟨len, _, ⟨⟨l, c⟩, i⟩, ⟨hq, _⟩, rfl⟩ := hp
    rw [List.mem_zipIdx_iff_getElem?, List.getElem?_zip_eq_some] at hq
    simp [List.getD_eq_getElem?_getD, hq.2]
  have hin : (s, codes.getD s 0) ∈ byLength lens codes := by
    have hlen := List.all_eq_true.mp hr _ (List.getElem_mem hs)
    simp only [Bool.and_eq_true, decide_eq_true_eq] at hlen
    simp only [byLength, List.mem_flatMap, List.mem_map, List.mem_filter, List.mem_range'_1]
    refine ⟨lens[s], ⟨hlen.1, by omega⟩, ((lens[s], codes[s]), s), ⟨?_, by simp⟩, by simp [List.getD_eq_getElem?_getD, hl, hs]⟩
    rw [List.mem_zipIdx_iff_getElem?, List.getElem?_zip_eq_some]
    simp [hs, hl]
  rw [canonicalCodeOf, canonical, canonicalGo_eq, List.nil_append, hc]
  cases hf : (byLength lens codes).find? (fun p => p.1 == s) with
  | none => exact absurd (List.find?_eq_none.mp hf _ hin) (by simp)
  | some p =>
    have h1 : p.1 = s := by simpa using List.find?_some hf
    show p.2 = _
    rw [hmem p (List.mem_of_find?_eq_some hf), h1]

/-! ### table facts, by kernel evaluation -/

/-- seven one-bits: the longest padding -/
theorem fact_trie :
    zipTable.all (fun (s, bs) => zipTrie.walk bs == some (s, [])) = true ∧
    (List.range 8).all (fun k => (zipTrie.descend (List.replicate k true)).isNode) = true := by decide +kernel
theorem fact_lens : Gen.huffLens = rfcLens := by decide +kernel
/-- `2 ^ 30 - 1`: EOS, thirty one-bits -/
theorem fact_canonical :
    canonicalRounds rfcLensWithEos 30 1 0 = byLength rfcLensWithEos (Gen.huffCodes ++ [2 ^ 30 - 1]) := by decide +kernel
theorem fact_lens_range : rfcLensWithEos.all (fun l => 1 ≤ l && l ≤ 30) = true := by decide +kernel
theorem fact_byte_roundtrip : ∀ x, x < 256 → natOfBits (bitsOf x 8) = x := by decide +kernel
theorem fact_bits_roundtrip : ∀ b0 b1 b2 b3 b4 b5 b6 b7 : Bool,
    bitsOf (natOfBits [b0, b1, b2, b3, b4, b5, b6, b7]) 8 = [b0, b1, b2, b3, b4, b5, b6, b7] := by decide +kernel
theorem fact_byte_lt : ∀ b0 b1 b2 b3 b4 b5 b6 b7 : Bool,
    natOfBits [b0, b1, b2, b3, b4, b5, b6, b7] < 256 := by decide +kernel

theorem canonical_table (s : Nat) (hs : s < 257) :
    canonicalCodeOf rfcLensWithEos s = (Gen.huffCodes ++ [2 ^ 30 - 1]).getD s 0 :=
  have hl : rfcLensWithEos.length = 257 := by simp [rfcLensWithEos, ← fact_lens, huffLens_length]
  canonicalCodeOf_eq _ _ (by simp [hl, huffCodes_length]) fact_lens_range fact_canonical s (hl ▸ hs)

theorem canonical_code (s : Nat) (hs : s < 256) : canonicalCodeOf rfcLensWithEos s = Gen.huffCodes.getD s 0 := by
  rw [canonical_table s (by omega)]
  simp [List.getD_eq_getElem?_getD, List.getElem?_append_left, huffCodes_length, hs]

theorem canonical_eos : canonicalCodeOf rfcLensWithEos 256 = 2 ^ 30 - 1 := by
  rw [canonical_table 256 (by omega)]
  simp [List.getD_eq_getElem?_getD, huffCodes_length]

/-! ### decoding what the encoder wrote -/

theorem walk_append (t : Tree) (bs rest : List Bool) (s : Nat) :
    t.walk bs = some (s, []) → t.walk (bs ++ rest) = some (s, rest) := by
  induction bs generalizing t with
  | nil => cases t <;> simp [Tree.walk]
  | cons b bs ih =>
    cases t with
    | empty => simp [Tree.walk]
    | leaf x => simp [Tree.walk]
    | node l r =>
      simp only [Tree.walk, List.cons_append]
      cases b <;> simp <;> exact ih _

theorem trie_walk_code (s : Nat) (hs : s < 256) (rest : List Bool) :
    trie.walk (code s ++ rest) = some (s, rest) := by
  apply walk_append
  have hm : (s, code s) ∈ zipTable := by
    rw [← table_eq]
    simp only [table, List.mem_map, List.mem_range]
    exact ⟨s, hs, rfl⟩
  rw [trie_eq]
  simpa using List.all_eq_true.mp fact_trie.1 _ hm

theorem trie_ones (j : Nat) (hj : j ≤ 7) : (trie.descend (List.replicate j true)).isNode = true := by
  rw [trie_eq]
  exact List.all_eq_true.mp fact_trie.2 j (by simp; omega)

theorem trie_node : ∃ l r, trie = .node l r := by
  have h := trie_ones 0 (by omega)
  cases ht : trie with
  | node l r => exact ⟨l, r, rfl⟩
  | _ => rw [ht] at h; cases h

theorem decGo_walk (root : Tree) (l r : Tree) (bits rest : List Bool) (s pend : Nat) (ones : Bool) (acc : List Nat) :
    (Tree.node l r).walk bits = some (s, rest) →
    decGo root (.node l r) pend ones bits acc = decGo root root 0 true rest (s :: acc) := by
  induction bits generalizing l r pend ones with
  | nil => simp [Tree.walk]
  | cons b bs ih =>
    intro h
    simp only [Tree.walk] at h
    simp only [decGo, Tree.child]
    cases b
    · simp only [Bool.false_eq_true, if_false] at h ⊢
      cases l with
      | empty => simp [Tree.walk] at h
      | leaf x => simp only [Tree.walk, Option.some.injEq, Prod.mk.injEq] at h; obtain ⟨rfl, rfl⟩ := h; rfl
      | node l' r' => exact ih _ _ _ _ h
    · simp only [if_true] at h ⊢
      cases r with
      | empty => simp [Tree.walk] at h
      | leaf x => simp only [Tree.walk, Option.some.injEq, Prod.mk.injEq] at h; obtain ⟨rfl, rfl⟩ := h; rfl
      | node l' r' => exact ih _ _ _ _ h

theorem decGo_encBits (s : List Nat) (hs : ∀ x ∈ s, x < 256) (rest : List Bool) (acc : List Nat) :
    decGo trie trie 0 true (encBits s ++ rest) acc = decGo trie trie 0 true rest (s.reverse ++ acc) := by
  induction s generalizing acc with
  | nil => simp [encBits]
  | cons x xs ih =>
    have hx : x < 256 := hs x (by simp)
    have hxs : ∀ y ∈ xs, y < 256 := fun y hy => hs y (by simp [hy])
    obtain ⟨l, r, htr⟩ := trie_node
    have hw := trie_walk_code x hx (encBits xs ++ rest)
    have : encBits (x :: xs) ++ rest = code x ++ (encBits xs ++ rest) := by
      simp [encBits, List.flatMap_cons, List.append_assoc]
    rw [this]
    have step := decGo_walk trie l r (code x ++ (encBits xs ++ rest)) (encBits xs ++ rest) x 0 true acc (by rw [← htr]; exact hw)
    rw [← htr] at step
    rw [step, ih hxs]
    simp [List.append_assoc]

theorem decGo_ones (root cur : Tree) (k pend : Nat) (acc : List Nat)
    (h : ∀ j, j ≤ k → (cur.descend (List.replicate j true)).isNode = true) :
    decGo root cur pend true (List.replicate k true) acc =
      if pend + k < 8 then some acc.reverse else none := by
  induction k generalizing cur pend with
  | zero => simp [decGo]
  | succ k ih =>
    have h1 := h 1 (by omega)
    simp only [List.replicate, Tree.descend] at h1
    simp only [List.replicate_succ, decGo]
    cases hc : cur.child true with
    | empty => rw [hc] at h1; simp [Tree.isNode] at h1
    | leaf x => rw [hc] at h1; simp [Tree.isNode] at h1
    | node l r =>
      simp only [Bool.and_self]
      rw [ih]
      · have : pend + 1 + k = pend + (k + 1) := by omega
        rw [this]
      · intro j hj
        have := h (j + 1) (by omega)
        simpa [List.replicate_succ, Tree.descend, hc] using this

theorem dec_enc (s : List Nat) (hs : ∀ x ∈ s, x < 256) (k : Nat) (hk : k < 8) :
    decGo trie trie 0 true (encBits s ++ List.replicate k true) [] = some s := by
  rw [decGo_encBits s hs]
  rw [decGo_ones trie trie k 0 _ (fun j hj => trie_ones j (by omega))]
  simp [hk]

/-! ### what the decoder accepts -/

theorem descend_append (t : Tree) (p q : List Bool) : t.descend (p ++ q) = (t.descend p).descend q := by
  induction p generalizing t with
  | nil => rfl
  | cons b bs ih => simp [Tree.descend, ih]

theorem empty_descend (q : List Bool) : Tree.empty.descend q = .empty := by
  induction q with
  | nil => rfl
  | cons b bs ih => simpa [Tree.descend, Tree.child] using ih

theorem descend_leaf_mem (t : Tree) (p pre : List Bool) (s : Nat) :
    t.descend p = .leaf s → (s, pre.reverse ++ p) ∈ t.leaves pre := by
  induction p generalizing t pre with
  | nil =>
    intro h
    simp only [Tree.descend] at h
    subst h
    simp [Tree.leaves]
  | cons b bs ih =>
    intro h
    cases t with
    | empty =>
      simp only [Tree.descend, Tree.child, empty_descend] at h
      cases h
    | leaf x =>
      simp only [Tree.descend, Tree.child, empty_descend] at h
      cases h
    | node l r =>
      simp only [Tree.descend, Tree.child] at h
      simp only [Tree.leaves, List.mem_append]
      cases b
      · left
        have := ih l (false :: pre) (by simpa using h)
        simpa [List.reverse_cons, List.append_assoc] using this
      · right
        have := ih r (true :: pre) (by simpa using h)
        simpa [List.reverse_cons, List.append_assoc] using this

theorem leaves_insert (t : Tree) (bs : List Bool) (s : Nat) (pre : List Bool) (x : Nat × List Bool)
    (h : x ∈ (t.insert bs s).leaves pre) : x ∈ t.leaves pre ∨ x = (s, pre.reverse ++ bs) := by
  fun_induction Tree.insert t bs s generalizing pre with
  | case1 t s => right; simpa [Tree.leaves] using h
  | case2 bs s ih =>
    simp only [Tree.leaves, List.nil_append] at h
    exact (ih _ h).imp id (by simp)
  | case3 b bs s hb ih =>
    obtain rfl : b = false := by simpa using hb
    simp only [Tree.leaves, List.append_nil] at h
    exact (ih _ h).imp id (by simp)
  | case4 => left; exact h
  | case5 l r bs s ih =>
    simp only [Tree.leaves, List.mem_append] at h ⊢
    rcases h with h | h
    · exact .inl (.inl h)
    · exact (ih _ h).imp .inr (by simp)
  | case6 l r b bs s hb ih =>
    obtain rfl : b = false := by simpa using hb
    simp only [Tree.leaves, List.mem_append] at h ⊢
    rcases h with h | h
    · exact (ih _ h).imp .inl (by simp)
    · exact .inl (.inr h)

theorem leaves_foldl (tb : List (Nat × List Bool)) (t : Tree) (x : Nat × List Bool)
    (h : x ∈ (tb.foldl (fun t (s, bs) => t.insert bs s) t).leaves []) : x ∈ t.leaves [] ∨ x ∈ tb := by
  induction tb generalizing t with
  | nil => exact .inl h
  | cons e tb ih =>
    rcases ih _ h with h' | h'
    · rcases leaves_insert _ _ _ _ _ h' with h'' | h''
      · exact .inl h''
      · exact .inr (by simp [h''])
    · exact .inr (List.mem_cons_of_mem _ h')

/-- the trie has no leaves but the table's: a path that ends in a leaf is the code of the leaf's symbol -/
theorem leaf_path (pth : List Bool) (s : Nat) (h : trie.descend pth = .leaf s) : pth = code s ∧ s < 256 := by
  rcases leaves_foldl table .empty _ (descend_leaf_mem trie pth [] s h) with hm | hm
  · cases hm
  · simp only [table, List.mem_map, List.mem_range, List.reverse_nil, List.nil_append, Prod.mk.injEq] at hm
    obtain ⟨i, hi, rfl, rfl⟩ := hm
    exact ⟨rfl, hi⟩

theorem decGo_sound (bits : List Bool) : ∀ (pth : List Bool) (cur : Tree) (acc out : List Nat),
    trie.descend pth = cur →
    decGo trie cur pth.length (pth.all id) bits acc = some out →
    ∃ s' p, out = acc.reverse ++ s' ∧ pth ++ bits = encBits s' ++ p ∧ p.length < 8 ∧
      p.all id = true ∧ ∀ x ∈ s', x < 256 := by
  induction bits with
  | nil =>
    intro pth cur acc out _ h
    simp only [decGo] at h
    split at h
    · rename_i hc
      simp only [Bool.and_eq_true, decide_eq_true_eq] at hc
      refine ⟨[], pth, ?_, ?_, hc.1, hc.2, ?_⟩
      · simpa using (Option.some.inj h).symm
      · simp [encBits]
      · simp
    · simp at h
  | cons b bs ih =>
    intro pth cur acc out hcur h
    simp only [decGo] at h
    cases hc : cur.child b with
    | empty => rw [hc] at h; simp at h
    | leaf s =>
      rw [hc] at h
      simp only at h
      have hd : trie.descend (pth ++ [b]) = .leaf s := by
        rw [descend_append, hcur]; simp [Tree.descend, hc]
      obtain ⟨hp, hs⟩ := leaf_path _ _ hd
      obtain ⟨s'', p, ho, hb, hl, ha, hx⟩ := ih [] trie (s :: acc) out rfl (by simpa using h)
      refine ⟨s :: s'', p, ?_, ?_, hl, ha, ?_⟩
      · simp [ho]
      · have : pth ++ b :: bs = (pth ++ [b]) ++ bs := by simp
        rw [this, hp]
        simp only [List.nil_append] at hb
        rw [hb]
        simp [encBits, List.flatMap_cons, List.append_assoc]
      · intro x hx'
        cases hx' with
        | head => exact hs
        | tail _ hm => exact hx x hm
    | node l r =>
      rw [hc] at h
      simp only at h
      have hd : trie.descend (pth ++ [b]) = .node l r := by
        rw [descend_append, hcur]; simp [Tree.descend, hc]
      have h' : decGo trie (.node l r) (pth ++ [b]).length ((pth ++ [b]).all id) bs acc = some out := by
        simpa [List.all_append, Bool.and_comm] using h
      obtain ⟨s', p, ho, hb, hl, ha, hx⟩ := ih (pth ++ [b]) (.node l r) acc out hd h'
      exact ⟨s', p, ho, by simpa using hb, hl, ha, hx⟩

/-- RFC 7541 §5.2 on bits: accepted exactly when the input is codes followed by fewer than 8 bits of EOS -/
theorem dec_iff (bits : List Bool) (s : List Nat) :
    decGo trie trie 0 true bits [] = some s ↔
      ∃ k, k < 8 ∧ bits = encBits s ++ List.replicate k true ∧ ∀ x ∈ s, x < 256 := by
  constructor
  · intro h
    obtain ⟨s', p, ho, hb, hl, ha, hx⟩ := decGo_sound bits [] trie [] s rfl (by simpa using h)
    simp only [List.reverse_nil, List.nil_append] at ho hb
    subst ho
    refine ⟨p.length, hl, ?_, hx⟩
    rw [hb]
    congr 1
    apply List.ext_getElem (by simp)
    intro i h1 h2
    rw [List.all_eq_true] at ha
    have := ha p[i] (List.getElem_mem h1)
    simpa using this
  · rintro ⟨k, hk, rfl, hx⟩
    exact dec_enc s hx k hk

/-! ### octets and bits -/

theorem bitsOf_length (v n : Nat) : (bitsOf v n).length = n := by simp [bitsOf]

theorem unpack_length (b : Bytes) : (unpack b).length = 8 * b.length := by
  induction b with
  | nil => rfl
  | cons x xs ih => simp [unpack, List.flatMap_cons, bitsOf_length] at ih ⊢; omega

theorem pack_unpack (b : Bytes) (h : WF b) : pack (unpack b) = b := by
  induction b with
  | nil => rfl
  | cons x xs ih =>
    have hx : x < 256 := h x (by simp)
    have hxs : WF xs := fun y hy => h y (by simp [hy])
    have h8 : (bitsOf x 8).length = 8 := bitsOf_length x 8
    have e : unpack (x :: xs) = bitsOf x 8 ++ unpack xs := by simp [unpack, List.flatMap_cons]
    rw [e]
    match hb : bitsOf x 8, h8 with
    | [b0, b1, b2, b3, b4, b5, b6, b7], _ =>
      simp only [List.cons_append, List.nil_append, pack]
      rw [← hb, fact_byte_roundtrip x hx, ih hxs]

theorem unpack_pack (bits : List Bool) (n : Nat) (h : bits.length = 8 * n) : unpack (pack bits) = bits := by
  induction n generalizing bits with
  | zero =>
    have : bits = [] := List.eq_nil_of_length_eq_zero (by omega)
    subst this; rfl
  | succ n ih =>
    match bits, h with
    | b0 :: b1 :: b2 :: b3 :: b4 :: b5 :: b6 :: b7 :: rest, h =>
      have hr : rest.length = 8 * n := by simp at h; omega
      simp only [pack]
      have e : unpack (natOfBits [b0, b1, b2, b3, b4, b5, b6, b7] :: pack rest)
          = bitsOf (natOfBits [b0, b1, b2, b3, b4, b5, b6, b7]) 8 ++ unpack (pack rest) := by
        simp [unpack, List.flatMap_cons]
      rw [e, fact_bits_roundtrip, ih rest hr]
      rfl

theorem pack_wf (bits : List Bool) : WF (pack bits) := by
  induction bits using pack.induct with
  | case1 b0 b1 b2 b3 b4 b5 b6 b7 rest ih =>
    intro x hx
    simp only [pack, List.mem_cons] at hx
    rcases hx with rfl | hx
    · exact fact_byte_lt _ _ _ _ _ _ _ _
    · exact ih x hx
  | case2 t h =>
    intro x hx
    rw [pack] at hx
    · cases hx
    · exact h

theorem padLen_lt (n : Nat) : padLen n < 8 := by unfold padLen; omega
theorem padLen_spec (n : Nat) : (n + padLen n) % 8 = 0 := by unfold padLen; omega
theorem padLen_unique (n k : Nat) (hk : k < 8) (h : (n + k) % 8 = 0) : k = padLen n := by
  unfold padLen; omega

end H2.Huffman
