import H2.Server.Abs.Limits
/-! Helper lemmas for C13 (abstract request-size limits `H2.Server.Abs.Limits`). -/
namespace H2.Server.Abs.Limits

/-- a stream that has broken no limit is within both -/
def Within (st : St) (s : Strm) : Prop :=
  s.dead = false → (st.maxBody > 0 → s.body ≤ st.maxBody) ∧ (st.maxHdr > 0 → (s.hdr : Int) ≤ st.maxHdr) ∧ s.body ≤ s.recv

/-- the octets of an unfinished field a stream holds are within `heldFactor` times the list limit -/
def HeldOK (st : St) (s : Strm) : Prop := st.maxHdr > 0 → (s.held : Int) ≤ (heldFactor : Int) * st.maxHdr

structure Inv (st : St) : Prop where
  tbl : ∀ s ∈ st.tbl, Within st s
  held : ∀ s ∈ st.tbl, HeldOK st s
  handed : ∀ id b h, Rec.handed id b h ∈ st.trace →
    (st.maxBody > 0 → b ≤ st.maxBody) ∧ (st.maxHdr > 0 → (h : Int) ≤ st.maxHdr)

theorem get_mem {id : Nat} : ∀ {l : List Strm} {s : Strm}, get id l = some s → s ∈ l := by
  intro l
  induction l with
  | nil => intro s h; cases h
  | cons x xs ih =>
    intro s h
    simp only [get] at h
    split at h
    · injection h with h; subst h; exact List.mem_cons_self
    · exact List.mem_cons_of_mem _ (ih h)

theorem mem_upd {f : Strm → Strm} {id : Nat} : ∀ {l : List Strm} {y : Strm}, y ∈ upd f id l →
    y ∈ l ∨ ∃ s, get id l = some s ∧ y = f s := by
  intro l
  induction l with
  | nil => intro y h; cases h
  | cons x xs ih =>
    intro y h
    simp only [upd] at h
    simp only [get]
    split at h
    · rename_i hx
      simp only [hx, if_true]
      rcases List.mem_cons.mp h with h | h
      · exact Or.inr ⟨x, rfl, h⟩
      · exact Or.inl (List.mem_cons_of_mem _ h)
    · rename_i hx
      simp only [hx, if_false]
      rcases List.mem_cons.mp h with h | h
      · exact Or.inl (h ▸ List.mem_cons_self)
      · rcases ih h with h | ⟨z, hz, e⟩
        · exact Or.inl (List.mem_cons_of_mem _ h)
        · exact Or.inr ⟨z, hz, e⟩

theorem mem_del {id : Nat} : ∀ {l : List Strm} {y : Strm}, y ∈ del id l → y ∈ l := by
  intro l
  induction l with
  | nil => intro y h; cases h
  | cons x xs ih =>
    intro y h
    simp only [del] at h
    split at h
    · exact List.mem_cons_of_mem _ h
    · rcases List.mem_cons.mp h with h | h
      · exact h ▸ List.mem_cons_self
      · exact List.mem_cons_of_mem _ (ih h)

theorem forall_upd {f : Strm → Strm} {id : Nat} {l : List Strm} {q : Strm → Prop} (h : ∀ s ∈ l, q s)
    (hf : ∀ s, get id l = some s → q s → q (f s)) : ∀ y ∈ upd f id l, q y := by
  intro y hy
  rcases mem_upd hy with hy | ⟨x, hx, rfl⟩
  · exact h y hy
  · exact hf x hx (h x (get_mem hx))

theorem handed_append_other {st : St} {r : Rec} (hr : ∀ id b h, r ≠ .handed id b h)
    (hh : ∀ id b h, Rec.handed id b h ∈ st.trace → (st.maxBody > 0 → b ≤ st.maxBody) ∧ (st.maxHdr > 0 → (h : Int) ≤ st.maxHdr)) :
    ∀ id b h, Rec.handed id b h ∈ st.trace ++ [r] → (st.maxBody > 0 → b ≤ st.maxBody) ∧ (st.maxHdr > 0 → (h : Int) ≤ st.maxHdr) := by
  intro id b h hm
  rcases List.mem_append.mp hm with hm | hm
  · exact hh id b h hm
  · exact absurd (List.mem_singleton.mp hm).symm (hr id b h)

theorem step_inv {st : St} (e : Ev) (hi : Inv st) : Inv (step st e) := by
  obtain ⟨ht, hk, hh⟩ := hi
  -- a stream that breaks a limit is marked dead (nothing is asked of it any more), and the rejection is recorded
  have dead : ∀ {f : Strm → Strm} {id : Nat} {r : Rec}, (∀ x, (f x).dead = true) → (∀ x, HeldOK st x → HeldOK st (f x)) →
      (∀ i b h, r ≠ .handed i b h) → Inv { st with tbl := upd f id st.tbl, trace := st.trace ++ [r] } :=
    fun hd hf hr => ⟨forall_upd ht fun x _ _ h => (by rw [hd x] at h; cases h), forall_upd hk fun x _ => hf x,
      handed_append_other hr hh⟩
  cases e with
  | opened id =>
    refine ⟨fun s hs => ?_, fun s hs => ?_, hh⟩ <;> rcases List.mem_append.mp hs with hs | hs
    · exact ht s hs
    · rw [List.mem_singleton.mp hs]; exact fun _ => ⟨fun _ => Nat.zero_le _, fun h => (by simp only []; omega), Nat.le_refl _⟩
    · exact hk s hs
    · rw [List.mem_singleton.mp hs]; intro h; simp only [heldFactor]; omega
  | hdrBytes id n =>
    simp only [step]
    split
    · exact ⟨ht, hk, hh⟩
    · rename_i s hg
      split
      · exact dead (fun _ => rfl) (fun _ h => h) (fun _ _ _ e => by cases e)
      · rename_i hlim
        refine ⟨forall_upd ht fun x hx hw hd => ?_, forall_upd hk fun _ _ h => h, hh⟩
        rw [hg] at hx; cases hx
        exact ⟨(hw hd).1, fun hpos => (by simp only [not_and, Int.not_lt] at hlim; exact hlim hpos), (hw hd).2.2⟩
  | hdrTail id n =>
    simp only [step]
    split
    · exact ⟨ht, hk, hh⟩
    · split
      · exact dead (fun _ => rfl) (fun _ _ h => by simp only [heldFactor]; omega) (fun _ _ _ e => by cases e)
      · rename_i hlim
        refine ⟨forall_upd ht fun _ _ h => h, forall_upd hk fun _ _ _ hpos => ?_, hh⟩
        simp only [fieldTooLong, Bool.and_eq_true, decide_eq_true_eq, not_and, Int.not_lt] at hlim
        exact hlim hpos
  | data id n =>
    simp only [step]
    split
    · exact ⟨ht, hk, hh⟩
    · rename_i s hg
      split
      · exact dead (fun _ => rfl) (fun _ h => h) (fun _ _ _ e => by cases e)
      · rename_i hlim
        refine ⟨forall_upd ht fun x hx hw hd => ?_, forall_upd hk fun _ _ h => h, hh⟩
        rw [hg] at hx; cases hx
        simp only [not_and, Nat.not_lt] at hlim
        have := (hw hd).2.2
        exact ⟨fun hpos => (by have := hlim hpos; simp only []; omega), (hw hd).2.1, by simp only []; omega⟩
  | dispatch id =>
    simp only [step]
    split
    · exact ⟨ht, hk, hh⟩
    · rename_i s hg
      split
      · exact ⟨ht, hk, hh⟩
      · rename_i hd
        refine ⟨ht, hk, fun i b h hm => ?_⟩
        rcases List.mem_append.mp hm with hm | hm
        · exact hh i b h hm
        · cases List.mem_singleton.mp hm
          have hw := ht s (get_mem hg) (by simpa using hd)
          exact ⟨hw.1, hw.2.1⟩
  | close id => exact ⟨fun s hs => ht s (mem_del hs), fun s hs => hk s (mem_del hs), hh⟩

theorem run_inv (evs : List Ev) : ∀ st, Inv st → Inv (run st evs) := by
  induction evs with
  | nil => intro st h; exact h
  | cons e es ih => intro st h; exact ih _ (step_inv e h)

theorem init_inv (mb : Nat) (mh : Int) : Inv (init mb mh) := by
  constructor <;> simp [init]

theorem step_max (st : St) (e : Ev) : (step st e).maxBody = st.maxBody ∧ (step st e).maxHdr = st.maxHdr := by
  cases e <;> simp only [step] <;> repeat' split
  all_goals first | exact ⟨rfl, rfl⟩ | exact ⟨trivial, trivial⟩

theorem run_max (evs : List Ev) : ∀ st, (run st evs).maxBody = st.maxBody ∧ (run st evs).maxHdr = st.maxHdr := by
  induction evs with
  | nil => intro st; exact ⟨rfl, rfl⟩
  | cons e es ih =>
    intro st
    have h1 := ih (step st e)
    have h2 := step_max st e
    exact ⟨h1.1.trans h2.1, h1.2.trans h2.2⟩

end H2.Server.Abs.Limits
