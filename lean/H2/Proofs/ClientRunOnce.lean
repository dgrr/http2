import H2.Proofs.ClientRunStep
/-!
# C12 on the full serial client model: every request resolves exactly once, in every run

* `deliveries_le_one`, `no_more_deliveries`, `read_again_after_delivery`: a request's result is handed to its caller at most
  once (after it `read` answers `readAgain`).
* `Req.resolve_cases` (in `ClientSerial.lean`), `result_kept`, `first_result_is_delivered`: a result that waits is never
  replaced; what the caller gets is the first result the request was given.
* `dead_all_settled`, `dead_all_settled_mem`, `req_on_dead_settled`: nothing is left stranded.
* `run_tags`, `run_tags_nodup`: the requests are the `req` events, in order; distinct tags stay distinct.
-/
namespace H2.Client

/-! ## requests evolve (weak form, also across `writeRequest`) -/

abbrev MapLe0 (c c' : Conn) : Prop := MapRel Req.Le0 c c'

theorem MapLe.le0 {c c' : Conn} (h : MapLe c c') : MapLe0 c c' := MapRel.imp (fun _ _ => Req.Le.le0) h

theorem MapLe0.of_reqs {c c' : Conn} (h : c'.reqs = c.reqs) : MapLe0 c c' := MapRel.of_reqs Req.Le0.refl h

theorem MapLe0.trans {a b c : Conn} (h1 : MapLe0 a b) (h2 : MapLe0 b c) : MapLe0 a c :=
  MapRel.trans (R := Req.Le0) Req.Le0.trans h1 h2

def Grows (c c' : Conn) : Prop := ∀ t r, getReq c t = some r → ∃ r', getReq c' t = some r' ∧ Req.Le0 r r'

theorem MapLe0.grows {c c' : Conn} (h : MapLe0 c c') : Grows c c' := by
  intro t r hr
  rcases MapRel.get h t with ⟨h1, _⟩ | ⟨r1, r', h1, h2, le⟩
  · rw [hr] at h1; cases h1
  · rw [hr] at h1; cases h1; exact ⟨r', h2, le⟩

theorem Grows.trans {a b c : Conn} (h1 : Grows a b) (h2 : Grows b c) : Grows a c := by
  intro t r hr
  obtain ⟨r1, e1, l1⟩ := h1 t r hr
  obtain ⟨r2, e2, l2⟩ := h2 t r1 e1
  exact ⟨r2, e2, l1.trans l2⟩

theorem grows_withReq (c : Conn) (tag : String) : Grows c (withReq c tag) := by
  intro t r hr
  refine ⟨r, ?_, Req.Le0.refl r⟩
  simp only [getReq, withReq, List.find?_append]
  simp only [getReq] at hr
  rw [hr]; rfl

theorem mapLe0_updReq (c : Conn) (tag : String) (f : Req → Req) (hf : ∀ r, Req.Le0 r (f r)) : MapLe0 c (updReq c tag f) :=
  mapRel_updReq Req.Le0.refl c tag f (fun r h => (hf r).tag.trans h) (fun r _ => hf r)

theorem mapLe0_writeRequest (c : Conn) (r : ReqSpec) : MapLe0 c (writeRequest c r).1 := by
  rcases writeRequest_shape c r with ⟨_, h⟩ | ⟨_, p, w, q, ds, h, _, _⟩ <;> rw [h]
  · exact (mapLe_resolve c r.tag _).le0
  · have h1 : MapLe0 c (wrOpen c r) := by
      unfold wrOpen
      exact (MapLe0.of_reqs (c := c) (c' := { c with nextID := c.nextID + 2, reqQueued := _, openStreams := _ }) rfl).trans
        (mapLe0_updReq _ _ _ (fun _ => ⟨rfl, rfl, rfl, fun _ => rfl⟩))
    exact h1.trans (MapLe0.of_reqs rfl)

theorem mapLe0_drain (c : Conn) : MapLe0 c (drain c).1 := by
  obtain ⟨p, w, a, _, _, hs, -⟩ := drain_shape c
  rw [hs]; exact MapLe0.of_reqs rfl

/-- the connection with the request of a `req` event registered; the connection itself for every other event -/
def pre (c : Conn) : Event → Conn
  | .req r => withReq c r.tag
  | _ => c

theorem pre_eq (c : Conn) {ev : Event} (h : ∀ r, ev ≠ .req r) : pre c ev = c := by
  cases ev <;> first | rfl | exact absurd rfl (h _)

/-- the output hands the result of the request `tag` to its caller -/
def deliveredTo (tag : String) : StepOut → Bool
  | .readRes (some (_, r)) => r.tag == tag
  | _ => false

theorem afterWrites_delivered (c : Conn) (fs : List OutFrame) (tag : String) : deliveredTo tag (afterWrites c fs).2 = false := by
  rcases afterWrites_cases c fs with ⟨e, s, b, hh⟩ | ⟨e, s, hh⟩ <;> rw [hh] <;> rfl

theorem step_not_delivered (c : Conn) (ev : Event) (hne : ∀ t, ev ≠ .read t) (tag : String) :
    deliveredTo tag (step c ev).2 = false := by
  refine step_cases c ev (step c ev) rfl (fun _ _ => rfl) ?_ (fun t _ _ he => absurd he (hne t))
    (fun _ _ _ _ => rfl) (fun _ _ _ _ => afterWrites_delivered _ _ _)
    (fun _ _ _ _ => ⟨rfl, rfl, rfl, afterWrites_delivered _ _ _⟩)
    (fun _ _ _ _ _ => ⟨by split <;> rfl, fun _ _ => ⟨rfl, afterWrites_delivered _ _ _⟩⟩) (fun _ _ => rfl) (fun _ _ _ => rfl)
  intro o ho _ _
  cases o <;> first | rfl | (cases ho; rfl)

theorem step_mapLe0 (c : Conn) (h : Inv c) (ev : Event) (hne : ∀ tag, ev ≠ .read tag) : MapLe0 (pre c ev) (step c ev).1 := by
  refine step_cases c ev (step c ev) rfl ?_ ?_ (fun tag _ _ he => absurd he (hne tag)) ?_ ?_ ?_ ?_ ?_ ?_
  · intro hs; rw [h.stuck] at hs; cases hs
  · intro o _ hr _
    rw [pre_eq c hr]; exact MapLe0.of_reqs rfl
  · intro r he _ _; subst he
    exact (mapLe_resolve _ _ _).le0
  · intro r he _ _; subst he
    exact ((mapLe0_writeRequest _ r).trans (mapLe0_drain _)).trans (mapLe_afterWrites _ _).1.le0
  · intro b he _ _; subst he
    have h1 : MapLe0 c (bytesRead c b).1 := (rdRel_bytesRead h.keys b).le.le0
    have hdie : MapLe0 c (die (bytesRead c b).1) := h1.trans (mapLe_dieWith _ _).le0
    exact ⟨h1, hdie.trans (MapLe0.of_reqs rfl), hdie, (h1.trans (mapLe0_drain _)).trans (mapLe_afterWrites _ _).1.le0⟩
  · intro tag r he _ _; subst he
    have h1 : MapLe0 c (resolve c tag .timeout) := (mapLe_resolve c tag _).le0
    have h2 : MapLe0 c (gaveUp c tag r.sid) := h1.trans (MapLe0.of_reqs (by rw [gaveUp, takeReq_reqs]; rfl))
    exact ⟨h1, fun _ _ => ⟨h2, h2.trans (mapLe_afterWrites _ _).1.le0⟩⟩
  · intro he _
    rw [pre_eq c (by rcases he with he | he <;> subst he <;> exact fun _ h => nomatch h)]
    exact (mapLe_dieWith _ _).le0
  · intro n he _; subst he
    exact MapLe0.of_reqs rfl

theorem grows_pre (c : Conn) (ev : Event) : Grows c (pre c ev) := by
  cases ev with
  | req r => exact grows_withReq c r.tag
  | _ => exact fun t r hr => ⟨r, hr, Req.Le0.refl r⟩

theorem step_grows (c : Conn) (h : Inv c) (ev : Event) (hne : ∀ tag, ev ≠ .read tag) : Grows c (step c ev).1 :=
  (grows_pre c ev).trans (step_mapLe0 c h ev hne).grows

/-! ## (a) at most one delivery -/

def ReadDone (c : Conn) (tag : String) : Prop := ∃ r, getReq c tag = some r ∧ r.read = true

theorem event_read_or (ev : Event) : (∃ t, ev = .read t) ∨ ∀ t, ev ≠ .read t := by
  cases ev <;> first | (left; exact ⟨_, rfl⟩) | (right; intro t h; cases h)

theorem step_read_cases (c : Conn) (t : String) :
    (step c (.read t) = (c, .readRes none)) ∨ (step c (.read t) = (c, .readAgain) ∧ ReadDone c t) ∨
    (∃ q e, getReq c t = some q ∧ q.read = false ∧ q.errBuf = some e ∧
      step c (.read t) = (updReq c t markRead, .readRes (some (e, q)))) := by
  rw [step_read]
  cases hq : getReq c t with
  | none => left; rfl
  | some q =>
    cases hrd : q.read with
    | true => right; left; exact ⟨by simp [hrd], q, hq, hrd⟩
    | false =>
      cases he : q.errBuf with
      | none => left; simp [hrd, he]
      | some e => right; right; exact ⟨q, e, rfl, hrd, he, by simp [hrd, he]⟩

theorem readDone_step (c : Conn) (h : Inv c) (tag : String) (hr : ReadDone c tag) (ev : Event) :
    ReadDone (step c ev).1 tag ∧ deliveredTo tag (step c ev).2 = false ∧ (ev = .read tag → (step c ev).2 = .readAgain) := by
  obtain ⟨r, hq, hrd⟩ := hr
  rcases event_read_or ev with ⟨t, rfl⟩ | hne
  rotate_left
  · obtain ⟨r', h1, le⟩ := step_grows c h ev hne tag r hq
    exact ⟨⟨r', h1, by rw [le.read]; exact hrd⟩, step_not_delivered c ev hne tag, fun he => absurd he (hne tag)⟩
  · by_cases ht : t = tag
    · subst ht
      have hs : step c (.read t) = (c, .readAgain) := by
        rw [step_read, hq]; simp [hrd]
      rw [hs]
      exact ⟨⟨r, hq, hrd⟩, rfl, fun _ => rfl⟩
    · have hne' : tag ≠ t := fun e => ht e.symm
      have hx : Event.read t = Event.read tag → False := by intro e; cases e; exact ht rfl
      rcases step_read_cases c t with hs | ⟨hs, _⟩ | ⟨q, e, hq2, _, _, hs⟩
      · rw [hs]; exact ⟨⟨r, hq, hrd⟩, rfl, fun e => absurd e hx⟩
      · rw [hs]; exact ⟨⟨r, hq, hrd⟩, rfl, fun e => absurd e hx⟩
      · rw [hs]
        refine ⟨⟨r, ?_, hrd⟩, ?_, fun e => absurd e hx⟩
        · exact (getReq_updReq_other c t tag markRead (fun _ h => h) hne').trans hq
        · simp only [deliveredTo, getReq_tag hq2]
          simpa using ht

theorem deliveredTo_marks (c : Conn) (ev : Event) (tag : String) (hd : deliveredTo tag (step c ev).2 = true) :
    ev = .read tag ∧ ReadDone (step c ev).1 tag := by
  rcases event_read_or ev with ⟨t, rfl⟩ | hne
  rotate_left
  · rw [step_not_delivered c ev hne tag] at hd; cases hd
  · rcases step_read_cases c t with hs | ⟨hs, _⟩ | ⟨q, e, hq, _, _, hs⟩
    · rw [hs] at hd; cases hd
    · rw [hs] at hd; cases hd
    · rw [hs] at hd ⊢
      simp only [deliveredTo, beq_iff_eq] at hd
      have ht : t = tag := (getReq_tag hq).symm.trans hd
      subst ht
      refine ⟨rfl, markRead q, ?_, rfl⟩
      rw [getReq_updReq_self c t markRead (fun _ h => h), hq]; rfl

theorem no_more_deliveries (tag : String) : ∀ (evs : List Event) (c : Conn), Inv c → ReadDone c tag →
    (run c evs).2.filter (deliveredTo tag) = [] := by
  intro evs
  induction evs with
  | nil => intros; rfl
  | cons e es ih =>
    intro c h hr
    obtain ⟨h1, h2, _⟩ := readDone_step c h tag hr e
    simp only [run_cons, List.filter_cons, h2, Bool.false_eq_true, if_false]
    exact ih _ (step_inv c e h) h1

theorem deliveries_le_one (tag : String) : ∀ (evs : List Event) (c : Conn), Inv c →
    ((run c evs).2.filter (deliveredTo tag)).length ≤ 1 := by
  intro evs
  induction evs with
  | nil => intros; simp
  | cons e es ih =>
    intro c h
    simp only [run_cons, List.filter_cons]
    split
    · rename_i hd
      obtain ⟨_, hr⟩ := deliveredTo_marks c e tag hd
      rw [List.length_cons, no_more_deliveries tag es _ (step_inv c e h) hr]
      simp
    · exact ih _ (step_inv c e h)

theorem read_again_after_delivery (tag : String) (c : Conn) (h : Inv c) (hr : ReadDone c tag) (evs : List Event) :
    AllSteps (fun _ e _ o => deliveredTo tag o = false ∧ (e = .read tag → o = .readAgain)) c evs := by
  refine allSteps_of_inv (I := fun c => Inv c ∧ ReadDone c tag) ?_ ?_ evs c ⟨h, hr⟩
  · intro c e ⟨h, hr⟩; exact ⟨step_inv c e h, (readDone_step c h tag hr e).1⟩
  · intro c e ⟨h, hr⟩; exact (readDone_step c h tag hr e).2

/-! ## (b) a waiting result is never replaced -/

def isReadOf (tag : String) : Event → Bool
  | .read t => t == tag
  | _ => false

theorem result_kept (tag : String) (e : Err) : ∀ (evs : List Event) (c : Conn), Inv c →
    (∃ r, getReq c tag = some r ∧ r.errBuf = some e) → (∀ ev ∈ evs, isReadOf tag ev = false) →
    ∃ r', getReq (run c evs).1 tag = some r' ∧ r'.errBuf = some e := by
  intro evs
  induction evs with
  | nil => intro c _ h _; exact h
  | cons ev es ih =>
    intro c h ⟨r, hq, he⟩ hno
    have hev := hno ev (List.mem_cons_self ..)
    refine ih _ (step_inv c ev h) ?_ (fun x hx => hno x (List.mem_cons_of_mem _ hx))
    rcases event_read_or ev with ⟨t, rfl⟩ | hne
    rotate_left
    · obtain ⟨r', h1, le⟩ := step_grows c h ev hne tag r hq
      exact ⟨r', h1, by rw [le.keep (.inr (by rw [he]; rfl))]; exact he⟩
    · have ht : tag ≠ t := by
        intro e; subst e; simp [isReadOf] at hev
      refine ⟨r, ?_, he⟩
      rcases step_read_cases c t with hs | ⟨hs, _⟩ | ⟨q, e, _, _, _, hs⟩
      · rw [hs]; exact hq
      · rw [hs]; exact hq
      · rw [hs]; exact (getReq_updReq_other c t tag markRead (fun _ h => h) ht).trans hq

theorem first_result_is_delivered (tag : String) (e : Err) (evs : List Event) (c : Conn) (h : Inv c)
    (hr : ∃ r, getReq c tag = some r ∧ r.errBuf = some e) (hno : ∀ ev ∈ evs, isReadOf tag ev = false) :
    ∃ r', (step (run c evs).1 (.read tag)).2 = .readRes (some (e, r')) := by
  obtain ⟨r', hq, he⟩ := result_kept tag e evs c h hr hno
  have hw := (run_invariant h evs).wf tag r' hq
  have hrd : r'.read = false := by
    cases hd : r'.read with
    | false => rfl
    | true =>
      have : r'.done = true := by rw [← hw.1]; exact hd
      have := hw.2 this
      rw [this] at he; cases he
  refine ⟨r', ?_⟩
  rw [step_read, hq]
  simp only [hrd, Bool.false_eq_true, if_false, he]

/-! ## (c) nothing is left stranded -/

theorem dead_all_settled (c : Conn) (h : Inv c) (hd : c.dead = true) :
    ∀ t r, getReq c t = some r → r.done = true ∨ r.errBuf.isSome = true := by
  intro t r hq
  rcases h.covered t r hq with x | x | ⟨sid, hm⟩
  · exact .inl x
  · exact .inr x
  · rw [h.deadTable hd] at hm; cases hm

theorem find_of_mem_nodup (l : List Req) (hn : (l.map (·.tag)).Nodup) (r : Req) (hr : r ∈ l) :
    l.find? (fun q => q.tag == r.tag) = some r := by
  induction l with
  | nil => cases hr
  | cons x xs ih =>
    simp only [List.map_cons, List.nodup_cons, List.mem_map, not_exists, not_and] at hn
    simp only [List.mem_cons] at hr
    rw [List.find?_cons]
    rcases hr with rfl | hr
    · simp
    · have : (x.tag == r.tag) = false := by
        have := hn.1 r hr
        simpa using fun e => this e.symm
      rw [this]
      exact ih hn.2 hr

theorem dead_all_settled_mem (c : Conn) (h : Inv c) (hd : c.dead = true) (hn : (c.reqs.map (·.tag)).Nodup) :
    ∀ r ∈ c.reqs, r.done = true ∨ r.errBuf.isSome = true :=
  fun r hr => dead_all_settled c h hd r.tag r (find_of_mem_nodup c.reqs hn r hr)

theorem req_on_dead_settled (c : Conn) (r : ReqSpec) (hs : c.stuck = false) (hd : c.dead = true) :
    (step c (.req r)).2 = .dead ∧
    ∀ q ∈ (step c (.req r)).1.reqs, q.tag = r.tag → q.done = true ∨ q.errBuf.isSome = true := by
  rw [step_req]
  simp only [hs, Bool.false_eq_true, if_false, stepReq, hd, if_true, true_and]
  intro q hq ht
  simp only [resolve, updReq, List.mem_map] at hq
  obtain ⟨q0, _, rfl⟩ := hq
  split at ht
  · split
    · exact (Req.resolve_settled q0 _).symm
    · rename_i h1 h2; exact absurd h1 h2
  · rename_i h1
    exact absurd (by simpa using ht) h1

/-! ## (d) the requests are the `req` events -/

def reqTag : Event → Option String
  | .req r => some r.tag
  | _ => none

theorem step_tags (c : Conn) (h : Inv c) (ev : Event) :
    (step c ev).1.reqs.map (·.tag) = c.reqs.map (·.tag) ++ (reqTag ev).toList := by
  rcases event_read_or ev with ⟨t, rfl⟩ | hne
  rotate_left
  · rw [MapRel.tags (step_mapLe0 c h ev hne)]
    cases ev <;> simp [pre, reqTag, withReq]
  · simp only [reqTag, Option.toList_none, List.append_nil]
    rcases step_read_cases c t with hs | ⟨hs, _⟩ | ⟨q, e, _, _, _, hs⟩ <;> rw [hs]
    exact MapRel.tags (mapRel_updReq (R := fun _ _ => True) (fun _ => trivial) c t markRead (fun _ h => h) fun _ _ => trivial)

theorem run_tags : ∀ (evs : List Event) (c : Conn), Inv c →
    (run c evs).1.reqs.map (·.tag) = c.reqs.map (·.tag) ++ evs.filterMap reqTag := by
  intro evs
  induction evs with
  | nil => intro c _; simp
  | cons e es ih =>
    intro c h
    rw [run_cons]
    simp only
    rw [ih _ (step_inv c e h), step_tags c h e, List.append_assoc]
    congr 1
    cases hr : reqTag e <;> simp [hr]

theorem run_tags_nodup (evs : List Event) (c : Conn) (h : Inv c)
    (hn : (c.reqs.map (·.tag) ++ evs.filterMap reqTag).Nodup) : ((run c evs).1.reqs.map (·.tag)).Nodup := by
  rw [run_tags evs c h]; exact hn

end H2.Client
