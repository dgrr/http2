import H2.Server.Abs.Slots
/-! Helper lemmas for C13 / C17 (abstract slot accounting `H2.Server.Abs.Slots`): an induction principle for runs, by the
six moves an event is made of, and the invariants proved with it — counting, the ring of closed ids, ownership of the
request contexts, ids in the table. -/
namespace H2.Server.Abs.Slots

theorem mem_setRunning {l : List Strm} {u : Nat} {b : Bool} {y : Strm} :
    y ∈ setRunning l u b ↔ ∃ x ∈ l, (if x.uid = u then { x with running := b } else x) = y := by
  simp [setRunning]

theorem setRunning_length (l : List Strm) (u : Nat) (b : Bool) : (setRunning l u b).length = l.length := by
  simp [setRunning]

theorem setRunning_map {β} (f : Strm → β) (hf : ∀ x b, f { x with running := b } = f x) (l : List Strm) (u : Nat) (b : Bool) :
    (setRunning l u b).map f = l.map f := by
  simp only [setRunning, List.map_map]
  apply List.map_congr_left
  intro x _
  simp only [Function.comp]
  split
  · exact hf x b
  · rfl

/-- What an event can do to the state, move by move: a property kept by each of the six moves holds along every run.
(`.done` with `fin` is the handler reporting back followed by `closeEntry`.) -/
theorem run_ind {P : St → Prop}
    (refuse : ∀ st id, P st → P { st with lastRefused := max st.lastRefused id, trace := st.trace ++ [.refused id] })
    (opn : ∀ st id, P st → knows st id = false → st.opn < (st.max : Int) → st.lastID < id → st.lastRefused < id →
      P { st with tbl := st.tbl ++ [⟨id, st.nextUid, false⟩], nextUid := st.nextUid + 1, opn := st.opn + 1, lastID := id })
    (dispatch : ∀ st id s, P st → s ∈ st.tbl → s.running = false →
      P { st with tbl := setRunning st.tbl s.uid true, handlers := st.handlers ++ [s.uid],
                  trace := st.trace ++ [.dispatched id s.uid] })
    (close : ∀ st s, P st → s ∈ st.tbl → P (closeEntry st s))
    (returned : ∀ st s, P st → s ∈ st.tbl →
      P { st with tbl := setRunning st.tbl s.uid false, handlers := st.handlers.erase s.uid,
                  trace := st.trace ++ [.returned s.uid] })
    (returnedAb : ∀ st s, P st → s ∈ st.abandoned →
      P (release { st with abandoned := st.abandoned.erase s, handlers := st.handlers.erase s.uid,
                           trace := st.trace ++ [.returned s.uid] } { s with running := false }))
    (evs : List Ev) : ∀ st, P st → P (run st evs) := by
  induction evs with
  | nil => intro st h; exact h
  | cons e es ih =>
    intro st h
    refine ih _ ?_
    cases e with
    | hdrNew id closing =>
      simp only [step]
      by_cases hk : knows st id = true
      · rw [if_pos hk]; exact h
      rw [if_neg hk]
      by_cases hf : st.opn ≥ (st.max : Int) ∨ closing = true
      · rw [if_pos hf]; exact refuse st id h
      rw [if_neg hf]
      by_cases hu : id ≤ st.lastID ∨ id ≤ st.lastRefused
      · rw [if_pos hu]; exact h
      rw [if_neg hu]; exact opn st id h (Bool.eq_false_iff.mpr hk) (by omega) (by omega) (by omega)
    | dispatch id =>
      simp only [step]
      split
      · exact h
      · rename_i s hf
        by_cases hr : s.running = true
        · rw [if_pos hr]; exact h
        · rw [if_neg hr]; exact dispatch st id s h (List.mem_of_find?_eq_some hf) (Bool.eq_false_iff.mpr hr)
    | close id =>
      simp only [step, closeStream]
      split
      · exact h
      · rename_i s hf; exact close st s h (List.mem_of_find?_eq_some hf)
    | done id fin =>
      simp only [step]
      split
      · rename_i s hf
        have hs := List.mem_of_find?_eq_some hf
        have h1 := returned st s h hs
        cases fin
        · exact h1
        · exact close _ { s with running := false } h1 (mem_setRunning.mpr ⟨s, hs, by simp⟩)
      · split
        · exact h
        · rename_i s hf; exact returnedAb st s h (List.mem_of_find?_eq_some hf)

/-! ## counting: `openStreams` is the number of live stream objects and never passes the limit -/

structure Cnt (st : St) : Prop where
  cnt : st.opn = (st.tbl.length : Int) + st.abandoned.length
  lim : st.opn ≤ (st.max : Int)

theorem closeEntry_cnt {st : St} {s : Strm} (h : Cnt st) (hs : s ∈ st.tbl) : Cnt (closeEntry st s) := by
  have hl := List.length_erase_of_mem hs
  have hpos : 0 < st.tbl.length := List.length_pos_of_mem hs
  obtain ⟨c, l⟩ := h
  unfold closeEntry release
  split <;> constructor <;> simp only [List.length_append, List.length_cons, List.length_nil] <;> omega

theorem run_cnt (evs : List Ev) : ∀ st, Cnt st → Cnt (run st evs) := by
  refine run_ind ?_ ?_ ?_ (fun _ _ h hs => closeEntry_cnt h hs) ?_ ?_ evs
  · intro st id h; exact ⟨h.cnt, h.lim⟩
  · intro st id ⟨c, l⟩ _ hlt _ _
    constructor <;> simp only [List.length_append, List.length_cons, List.length_nil] <;> omega
  · intro st id s ⟨c, l⟩ _ _; exact ⟨by simpa only [setRunning_length] using c, l⟩
  · intro st s ⟨c, l⟩ _; exact ⟨by simpa only [setRunning_length] using c, l⟩
  · intro st s ⟨c, l⟩ hs
    have hl := List.length_erase_of_mem hs
    have hpos : 0 < st.abandoned.length := List.length_pos_of_mem hs
    constructor <;> simp only [release] <;> omega

theorem init_cnt (max : Nat) : Cnt (init max) := by
  constructor <;> simp [init]

theorem closeEntry_max (st : St) (s : Strm) : (closeEntry st s).max = st.max := by
  unfold closeEntry release; split <;> rfl

theorem run_max (evs : List Ev) (st : St) : (run st evs).max = st.max :=
  run_ind (P := fun s => s.max = st.max) (fun _ _ h => h) (fun _ _ h _ _ _ _ => h) (fun _ _ _ h _ _ => h)
    (fun s x h _ => (closeEntry_max s x).trans h) (fun _ _ h _ => h) (fun _ _ h _ => h) evs st rfl

theorem runningCount_le (st : St) : runningCount st ≤ st.tbl.length + st.abandoned.length := by
  unfold runningCount
  have := List.length_filter_le (fun s : Strm => s.running) st.tbl
  omega

/-! ## the ring of closed ids -/

theorem markClosed_length (ring : List Nat) (id : Nat) (h : ring.length ≤ 256) : (markClosed ring id).length ≤ 256 := by
  unfold markClosed
  have hc : ringCap = 256 := rfl
  split
  · exact h
  · split
    · simp only [List.length_append, List.length_cons, List.length_nil]; omega
    · simp only [List.length_append, List.length_drop, List.length_cons, List.length_nil]; omega

theorem closeEntry_ring {st : St} (s : Strm) (h : st.ring.length ≤ 256) : (closeEntry st s).ring.length ≤ 256 := by
  unfold closeEntry release
  split <;> exact markClosed_length _ _ h

theorem run_ring (evs : List Ev) : ∀ st, st.ring.length ≤ 256 → (run st evs).ring.length ≤ 256 :=
  run_ind (P := fun s => s.ring.length ≤ 256) (fun _ _ h => h) (fun _ _ h _ _ _ _ => h) (fun _ _ _ h _ _ => h)
    (fun _ s h _ => closeEntry_ring s h) (fun _ _ h _ => h) (fun _ _ h _ => h) evs

/-! ## ownership of request contexts -/

def live (st : St) : List Strm := st.tbl ++ st.abandoned

def relUid : Rec → Option Nat
  | .released u _ => some u
  | _ => none

/-! `Own`: every request context handed out so far (`uid < nextUid`) is in one place — with a live stream (in the table, or
abandoned with its handler running) or in the pool; `handlers` lists the contexts of the live streams whose flag is up;
the pool is what the trace records as released, each time as not in use. -/

structure Own (st : St) : Prop where
  nodup : ((live st).map (·.uid)).Nodup
  lt : ∀ s ∈ live st, s.uid < st.nextUid
  poolLt : ∀ u ∈ st.pool, u < st.nextUid
  poolNodup : st.pool.Nodup
  disj : ∀ s ∈ live st, s.uid ∉ st.pool
  hand : ∀ u, u ∈ st.handlers ↔ ∃ s ∈ live st, s.uid = u ∧ s.running = true
  handNodup : st.handlers.Nodup
  abRun : ∀ s ∈ st.abandoned, s.running = true
  relOK : ∀ u b, Rec.released u b ∈ st.trace → b = false
  poolTrace : st.pool = st.trace.filterMap relUid

theorem uid_inj : ∀ {l : List Strm}, (l.map (·.uid)).Nodup → ∀ {a b : Strm}, a ∈ l → b ∈ l → a.uid = b.uid → a = b := by
  intro l
  induction l with
  | nil => intro _ a b ha; cases ha
  | cons x xs ih =>
    intro hn a b ha hb he
    simp only [List.map_cons, List.nodup_cons, List.mem_map, not_exists, not_and] at hn
    rcases List.mem_cons.mp ha with ha' | ha' <;> rcases List.mem_cons.mp hb with hb' | hb'
    · rw [ha', hb']
    · subst ha'; exact absurd he.symm (hn.1 b hb')
    · subst hb'; exact absurd he (hn.1 a ha')
    · exact ih hn.2 ha' hb' he

theorem Own.not_handler {st : St} {s : Strm} (h : Own st) (hs : s ∈ live st) (hr : s.running = false) :
    s.uid ∉ st.handlers := fun hc => by
  obtain ⟨x, hx, e1, e2⟩ := (h.hand _).mp hc
  rw [uid_inj h.nodup hx hs e1, hr] at e2; cases e2

theorem filterMap_relUid_append (t : List Rec) (r : Rec) :
    (t ++ [r]).filterMap relUid = t.filterMap relUid ++ (match relUid r with | some u => [u] | none => []) := by
  rw [List.filterMap_append]
  cases r <;> simp [relUid]

theorem trace_own {st : St} {r : Rec} (hr : relUid r = none) (lr : Nat) (h : Own st) :
    Own { st with lastRefused := lr, trace := st.trace ++ [r] } := by
  obtain ⟨h1,h2,h3,h4,h5,h6,h7,h8,h9,h10⟩ := h
  refine ⟨h1,h2,h3,h4,h5,h6,h7,h8,?_,?_⟩
  · intro u b hm
    rcases List.mem_append.mp hm with hm | hm
    · exact h9 u b hm
    · obtain rfl := List.mem_singleton.mp hm; cases hr
  · rw [filterMap_relUid_append, h10, hr]; simp

/-- the table and the abandoned streams are rearranged (a closed stream whose handler runs moves from one to the other) -/
theorem perm_own {st : St} {tbl' ab' : List Strm} (ring : List Nat) (h : Own st) (hp : (tbl' ++ ab').Perm (live st))
    (hab : ∀ x ∈ ab', x.running = true) : Own { st with ring := ring, tbl := tbl', abandoned := ab' } := by
  obtain ⟨h1,h2,h3,h4,h5,h6,h7,h8,h9,h10⟩ := h
  have hm : ∀ x, x ∈ tbl' ++ ab' ↔ x ∈ live st := fun x => hp.mem_iff
  refine ⟨(hp.map _).nodup_iff.mpr h1, fun x hx => h2 x ((hm x).mp hx), h3, h4, fun x hx => h5 x ((hm x).mp hx),
    fun u => (h6 u).trans ⟨fun ⟨x, hx, e⟩ => ⟨x, (hm x).mpr hx, e⟩, fun ⟨x, hx, e⟩ => ⟨x, (hm x).mp hx, e⟩⟩,
    h7, hab, h9, h10⟩

/-- the stream object `s` leaves the live set (what is left is `tbl'`, `ab'`); its context is then nobody's -/
theorem drop_own {st : St} {s : Strm} {tbl' ab' : List Strm} (ring : List Nat) (h : Own st)
    (hp : (s :: (tbl' ++ ab')).Perm (live st)) (hab : ∀ x ∈ ab', x ∈ st.abandoned) :
    let st' : St := { st with ring := ring, tbl := tbl', abandoned := ab', handlers := st.handlers.erase s.uid }
    Own st' ∧ s.uid < st.nextUid ∧ s.uid ∉ st.pool ∧ (∀ x ∈ live st', x.uid ≠ s.uid) ∧ s.uid ∉ st'.handlers := by
  obtain ⟨h1,h2,h3,h4,h5,h6,h7,h8,h9,h10⟩ := h
  have hm : ∀ x, x ∈ live st ↔ x = s ∨ x ∈ tbl' ++ ab' := fun x => hp.mem_iff.symm.trans List.mem_cons
  obtain ⟨hnot, hnd⟩ := List.nodup_cons.mp ((hp.map (·.uid)).nodup_iff.mpr h1)
  have hne : ∀ x ∈ tbl' ++ ab', x.uid ≠ s.uid := fun x hx e => hnot (List.mem_map.mpr ⟨x, hx, e⟩)
  have hsl : s ∈ live st := (hm s).mpr (.inl rfl)
  refine ⟨⟨hnd, fun x hx => h2 x ((hm x).mpr (.inr hx)), h3, h4, fun x hx => h5 x ((hm x).mpr (.inr hx)), fun u => ?_,
    h7.erase _, fun x hx => h8 x (hab x hx), h9, h10⟩, h2 s hsl, h5 s hsl, hne, h7.not_mem_erase⟩
  rw [h7.mem_erase_iff, h6 u]
  constructor
  · rintro ⟨hu, x, hx, e1, e2⟩
    rcases (hm x).mp hx with rfl | hx
    · exact absurd e1 hu.symm
    · exact ⟨x, hx, e1, e2⟩
  · rintro ⟨x, hx, e1, e2⟩
    exact ⟨e1 ▸ hne x hx, x, (hm x).mpr (.inr hx), e1, e2⟩

/-- `releaseStream` for a context that is nobody's: it goes to the pool, recorded as not in use -/
theorem put_own {st : St} (s : Strm) (h : Own st) (hlt : s.uid < st.nextUid) (hnp : s.uid ∉ st.pool)
    (hnl : ∀ x ∈ live st, x.uid ≠ s.uid) (hnh : s.uid ∉ st.handlers) : Own (release st s) := by
  obtain ⟨h1,h2,h3,h4,h5,h6,h7,h8,h9,h10⟩ := h
  refine ⟨h1, h2, fun u hu => ?_, ?_, fun x hx hc => ?_, h6, h7, h8, fun u b hm => ?_, ?_⟩
  · rcases List.mem_append.mp hu with hu | hu
    · exact h3 u hu
    · rw [List.mem_singleton.mp hu]; exact hlt
  · exact List.nodup_append.mpr ⟨h4, by simp, fun a ha b hb e => hnp (by rw [List.mem_singleton.mp hb] at e; exact e ▸ ha)⟩
  · rcases List.mem_append.mp hc with hc | hc
    · exact h5 x hx hc
    · exact hnl x hx (List.mem_singleton.mp hc)
  · rcases List.mem_append.mp hm with hm | hm
    · exact h9 u b hm
    · cases List.mem_singleton.mp hm; simpa using hnh
  · simp only [release]; rw [filterMap_relUid_append, h10]; rfl

theorem closeEntry_own {st : St} {s : Strm} (h : Own st) (hs : s ∈ st.tbl) : Own (closeEntry st s) := by
  unfold closeEntry
  have hp : (s :: (st.tbl.erase s ++ st.abandoned)).Perm (live st) := ((List.perm_cons_erase hs).symm.append_right _)
  cases hr : s.running
  · -- the handler is not running: the stream leaves, its context goes back to the pool
    have hnh := h.not_handler (List.mem_append_left _ hs) hr
    obtain ⟨d, hlt, hnp, hnl, hnh'⟩ := drop_own (markClosed st.ring s.id) h hp fun _ hx => hx
    simp only [List.erase_of_not_mem hnh] at d hnh'
    exact put_own s d hlt hnp hnl hnh'
  · -- it is running: the stream is abandoned, slot and context kept
    refine perm_own (st := st) (tbl' := st.tbl.erase s) (ab' := st.abandoned ++ [s]) (markClosed st.ring s.id) h ?_
      fun x hx => (List.mem_append.mp hx).elim (h.abRun x) fun e => List.mem_singleton.mp e ▸ hr
    rw [← List.append_assoc]
    exact (List.perm_append_singleton _ _).trans hp

theorem mem_live_setRunning {tbl ab : List Strm} {s : Strm} (hn : ((tbl ++ ab).map (·.uid)).Nodup) (hs : s ∈ tbl)
    (b : Bool) (y : Strm) :
    y ∈ setRunning tbl s.uid b ++ ab ↔ ((y ∈ tbl ++ ab ∧ y.uid ≠ s.uid) ∨ y = { s with running := b }) := by
  have hsl : s ∈ tbl ++ ab := List.mem_append_left _ hs
  have hdis : ∀ x ∈ ab, x.uid ≠ s.uid := by
    intro x hx e
    rw [List.map_append, List.nodup_append] at hn
    exact hn.2.2 s.uid (List.mem_map.mpr ⟨s, hs, rfl⟩) x.uid (List.mem_map.mpr ⟨x, hx, rfl⟩) e.symm
  simp only [List.mem_append, mem_setRunning]
  constructor
  · rintro (⟨x, hx, e⟩ | hy)
    · by_cases hu : x.uid = s.uid
      · have : x = s := uid_inj hn (List.mem_append_left _ hx) hsl hu
        subst this
        simp only [if_true] at e
        exact Or.inr e.symm
      · simp only [hu, if_false] at e
        subst e
        exact Or.inl ⟨Or.inl hx, hu⟩
    · exact Or.inl ⟨Or.inr hy, hdis y hy⟩
  · rintro (⟨hy | hy, hu⟩ | e)
    · exact Or.inl ⟨y, hy, by simp [hu]⟩
    · exact Or.inr hy
    · exact Or.inl ⟨s, hs, by simp [e]⟩

/-- the flag of the table entry `s` is set to `b`, and the handlers' ledger follows -/
theorem setRunning_own {st : St} {s : Strm} (b : Bool) {hd : List Nat} (h : Own st) (hs : s ∈ st.tbl) (hnd : hd.Nodup)
    (hmem : ∀ u, u ∈ hd ↔ (u ∈ st.handlers ∧ u ≠ s.uid) ∨ (b = true ∧ u = s.uid)) :
    Own { st with tbl := setRunning st.tbl s.uid b, handlers := hd } := by
  obtain ⟨h1,h2,h3,h4,h5,h6,h7,h8,h9,h10⟩ := h
  simp only [live] at *
  have hsl : s ∈ st.tbl ++ st.abandoned := List.mem_append_left _ hs
  have hm := mem_live_setRunning h1 hs b
  have old : ∀ {q : Strm → Prop}, (∀ x ∈ st.tbl ++ st.abandoned, q x) → q { s with running := b } →
      ∀ y ∈ setRunning st.tbl s.uid b ++ st.abandoned, q y :=
    fun h0 hb y hy => ((hm y).mp hy).elim (fun hy => h0 y hy.1) (fun e => e ▸ hb)
  refine ⟨?_, old h2 (h2 s hsl), h3, h4, old h5 (h5 s hsl), fun u => ?_, hnd, h8, h9, h10⟩
  · simp only [live]; rw [List.map_append, setRunning_map _ (fun _ _ => rfl), ← List.map_append]; exact h1
  · simp only [live]; rw [hmem u]
    constructor
    · rintro (⟨hu, hne⟩ | ⟨hb, rfl⟩)
      · obtain ⟨x, hx, e1, e2⟩ := (h6 u).mp hu
        exact ⟨x, (hm x).mpr (.inl ⟨hx, e1 ▸ hne⟩), e1, e2⟩
      · exact ⟨{ s with running := b }, (hm _).mpr (.inr rfl), rfl, hb⟩
    · rintro ⟨y, hy, e1, e2⟩
      rcases (hm y).mp hy with ⟨hy', hne⟩ | e
      · exact .inl ⟨(h6 u).mpr ⟨y, hy', e1, e2⟩, e1 ▸ hne⟩
      · subst e; exact .inr ⟨e2, e1.symm⟩

theorem dispatch_own {st : St} {s : Strm} (h : Own st) (hs : s ∈ st.tbl) (hr : s.running = false) :
    Own { st with tbl := setRunning st.tbl s.uid true, handlers := st.handlers ++ [s.uid] } := by
  have hnh := h.not_handler (List.mem_append_left _ hs) hr
  refine setRunning_own true h hs (List.nodup_append.mpr ⟨h.handNodup, by simp, fun a ha b hb e => ?_⟩) fun u => ?_
  · rw [List.mem_singleton.mp hb] at e; exact hnh (e ▸ ha)
  · simp only [List.mem_append, List.mem_singleton, true_and]
    exact ⟨fun hu => hu.elim (fun hu => .inl ⟨hu, fun e => hnh (e ▸ hu)⟩) .inr, fun hu => hu.elim (fun hu => .inl hu.1) .inr⟩

theorem returned_own {st : St} {s : Strm} (h : Own st) (hs : s ∈ st.tbl) :
    Own { st with tbl := setRunning st.tbl s.uid false, handlers := st.handlers.erase s.uid } :=
  setRunning_own false h hs (h.handNodup.erase _) fun u => by
    rw [h.handNodup.mem_erase_iff]
    exact ⟨fun hu => .inl ⟨hu.2, hu.1⟩, fun hu => hu.elim (fun hu => ⟨hu.2, hu.1⟩) fun hu => by cases hu.1⟩

/-- the handler of an abandoned stream reports back: the slot and the context are released now -/
theorem returned_abandoned_own {st : St} {s : Strm} (h : Own st) (hs : s ∈ st.abandoned) :
    Own (release { st with abandoned := st.abandoned.erase s, handlers := st.handlers.erase s.uid,
                           trace := st.trace ++ [.returned s.uid] } { s with running := false }) := by
  have hp : (s :: (st.tbl ++ st.abandoned.erase s)).Perm (live st) :=
    List.perm_middle.symm.trans ((List.perm_cons_erase hs).symm.append_left _)
  obtain ⟨d, hlt, hnp, hnl, hnh⟩ := drop_own st.ring h hp fun _ hx => List.mem_of_mem_erase hx
  exact put_own { s with running := false } (trace_own (r := .returned s.uid) rfl st.lastRefused d) hlt hnp hnl hnh

/-- a new stream takes a context nobody has had -/
theorem open_own {st : St} (id : Nat) (h : Own st) :
    Own { st with tbl := st.tbl ++ [⟨id, st.nextUid, false⟩], nextUid := st.nextUid + 1, opn := st.opn + 1, lastID := id } := by
  obtain ⟨h1,h2,h3,h4,h5,h6,h7,h8,h9,h10⟩ := h
  have hm : ∀ x, x ∈ (st.tbl ++ [⟨id, st.nextUid, false⟩]) ++ st.abandoned ↔ x ∈ live st ∨ x = ⟨id, st.nextUid, false⟩ := by
    intro x; simp only [live, List.mem_append, List.mem_singleton]
    constructor
    · rintro ((h | h) | h)
      · exact .inl (.inl h)
      · exact .inr h
      · exact .inl (.inr h)
    · rintro ((h | h) | h)
      · exact .inl (.inl h)
      · exact .inr h
      · exact .inl (.inr h)
  have hp : ((st.tbl ++ [(⟨id, st.nextUid, false⟩ : Strm)]) ++ st.abandoned).Perm (⟨id, st.nextUid, false⟩ :: live st) := by
    rw [List.append_assoc]; exact (List.perm_middle).trans (List.Perm.refl _)
  refine ⟨?_, ?_, fun u hu => Nat.lt_succ_of_lt (h3 u hu), h4, ?_, ?_, h7, h8, h9, h10⟩
  · refine (hp.map _).nodup_iff.mpr (List.nodup_cons.mpr ⟨fun hc => ?_, h1⟩)
    obtain ⟨x, hx, e⟩ := List.mem_map.mp hc
    exact Nat.lt_irrefl _ (e ▸ h2 x hx)
  · intro x hx
    rcases (hm x).mp hx with hx | rfl
    · exact Nat.lt_succ_of_lt (h2 x hx)
    · exact Nat.lt_succ_self _
  · intro x hx
    rcases (hm x).mp hx with hx | rfl
    · exact h5 x hx
    · exact fun hc => Nat.lt_irrefl _ (h3 _ hc)
  · intro u; rw [h6 u]
    constructor
    · rintro ⟨x, hx, e⟩; exact ⟨x, (hm x).mpr (.inl hx), e⟩
    · rintro ⟨x, hx, e⟩
      rcases (hm x).mp hx with hx | rfl
      · exact ⟨x, hx, e⟩
      · cases e.2

theorem init_own (max : Nat) : Own (init max) := by
  constructor <;> simp [init, live]

theorem run_own (evs : List Ev) : ∀ st, Own st → Own (run st evs) :=
  run_ind (fun _ _ h => trace_own rfl _ h)
    (fun _ id h _ _ _ _ => open_own id h) (fun _ _ _ h hs hr => trace_own rfl _ (dispatch_own h hs hr))
    (fun _ _ h hs => closeEntry_own h hs) (fun _ _ h hs => trace_own rfl _ (returned_own h hs))
    (fun _ _ h hs => returned_abandoned_own h hs) evs

/-! ## ids in the table -/

structure Ids (st : St) : Prop where
  le : ∀ s ∈ st.tbl, s.id ≤ st.lastID
  nodup : (st.tbl.map (·.id)).Nodup

theorem setRunning_ids {st : St} (u : Nat) (b : Bool) (h : Ids st) (hd tr : _) :
    Ids { st with tbl := setRunning st.tbl u b, handlers := hd, trace := tr } := by
  obtain ⟨h1, h2⟩ := h
  refine ⟨?_, by simp only [setRunning_map (·.id) (fun _ _ => rfl)]; exact h2⟩
  intro y hy
  obtain ⟨x, hx, e⟩ := mem_setRunning.mp hy
  have := h1 x hx
  split at e <;> (subst e; simpa using this)

theorem closeEntry_ids {st : St} (s : Strm) (h : Ids st) : Ids (closeEntry st s) := by
  obtain ⟨h1, h2⟩ := h
  have hle : ∀ x ∈ st.tbl.erase s, x.id ≤ st.lastID := fun x hx => h1 x (List.mem_of_mem_erase hx)
  have hnd : ((st.tbl.erase s).map (·.id)).Nodup := h2.sublist ((List.erase_sublist).map _)
  unfold closeEntry release
  split <;> exact ⟨hle, hnd⟩

theorem open_ids {st : St} {id : Nat} (h : Ids st) (hgt : st.lastID < id) :
    Ids { st with tbl := st.tbl ++ [⟨id, st.nextUid, false⟩], nextUid := st.nextUid + 1, opn := st.opn + 1, lastID := id } := by
  obtain ⟨h1, h2⟩ := h
  constructor
  · intro x hx
    rcases List.mem_append.mp hx with hx | hx
    · exact Nat.le_of_lt (Nat.lt_of_le_of_lt (h1 x hx) hgt)
    · rw [List.mem_singleton.mp hx]; exact Nat.le_refl _
  · rw [List.map_append, List.nodup_append]
    refine ⟨h2, by simp, ?_⟩
    intro a ha b hb
    obtain ⟨x, hx, e⟩ := List.mem_map.mp ha
    rw [List.mem_singleton.mp hb, ← e]
    exact fun e => Nat.lt_irrefl _ (e ▸ Nat.lt_of_le_of_lt (h1 x hx) hgt)

theorem run_ids (evs : List Ev) : ∀ st, Ids st → Ids (run st evs) :=
  run_ind (fun _ _ h => ⟨h.1, h.2⟩) (fun _ _ h _ _ hgt _ => open_ids h hgt) (fun _ _ _ h _ _ => setRunning_ids _ _ h _ _)
    (fun _ s h _ => closeEntry_ids s h) (fun _ _ h _ => setRunning_ids _ _ h _ _) (fun _ _ h _ => ⟨h.1, h.2⟩) evs

theorem init_ids (max : Nat) : Ids (init max) := by
  constructor <;> simp [init]

end H2.Server.Abs.Slots
