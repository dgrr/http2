import H2.Proofs.StreamSMRefine.Rl
import H2.Proofs.ServerFlowFull
/-!
# C08 refinement — run level: which hypotheses of `frame_refines` hold in every reachable state

`Local u g r r'`: `r'` comes from `r` by steps that touch the tables only at the stream object `u`, and there leave uid, id,
state and the sign of `contentLength` alone — what `handleFrame`, `sendData` and `finishRequest` do. It is generated by
its primitive steps, so each invariant is carried over them once (`Local.pq` here, `Local.kl`, `Local.rb`, `Local.fe` later).

`PQ`: every stream of the table has `0 ≤ contentLength` and is not `reserved` — preserved by every function of the model
(`…_pq`), so it holds after every run (`run_pq`). Table ids / uids distinct, `uid < nextUid`, `id ≤ lastID` come from
`reachable_tbl` (`ServerFlowFull.lean`).
-/
namespace H2.Server.Lock.Refine
open H2.Frame (Frame Body)
open H2.Server

def PS (st : Strm) : Prop := 0 ≤ st.contentLength ∧ st.state ≠ .reserved
def PQ (r : R) : Prop := ∀ st ∈ r.s.strms, PS st

section
variable {r r' : R}

theorem PQ.congr (h : PQ r) (e : r'.s.strms = r.s.strms) : PQ r' := by intro st hm; rw [e] at hm; exact h st hm
theorem PQ.sub (h : PQ r) (hs : ∀ x ∈ r'.s.strms, x ∈ r.s.strms) : PQ r' := fun st hm => h st (hs st hm)
theorem mem_updStrm {u : Nat} {f : Strm → Strm} {x' : Strm} (h : x' ∈ (r.updStrm u f).s.strms) :
    ∃ x ∈ r.s.strms, (x.uid ≠ u ∧ x' = x) ∨ (x.uid = u ∧ x' = f x) := by
  obtain ⟨x, hx, rfl⟩ := List.mem_map.mp h
  refine ⟨x, hx, ?_⟩
  by_cases hxu : x.uid = u
  · exact Or.inr ⟨hxu, by simp [hxu]⟩
  · exact Or.inl ⟨hxu, by simp [hxu]⟩

theorem mem_updStrm_of_ne {u : Nat} {f : Strm → Strm} {x : Strm} (hx : x ∈ r.s.strms) (hu : x.uid ≠ u) :
    x ∈ (r.updStrm u f).s.strms :=
  List.mem_map.mpr ⟨x, hx, by simp [hu]⟩

theorem PQ.upd (h : PQ r) (u : Nat) (f : Strm → Strm) (hf : ∀ x, PS x → PS (f x)) : PQ (r.updStrm u f) := by
  intro st hm
  obtain ⟨x, hx, ⟨_, e⟩ | ⟨_, e⟩⟩ := mem_updStrm hm
  · exact e ▸ h x hx
  · exact e ▸ hf x (h x hx)
theorem PQ.get (h : PQ r) {u : Nat} {st : Strm} (hg : r.getStrm u = some st) : PS st := h st (List.mem_of_find?_eq_some hg)
theorem PQ.close (h : PQ r) (u : Nat) : PQ (r.updStrm u fun s => { s with state := .closed }) := h.upd _ _ fun _ hx => ⟨hx.1, by simp⟩

/-! ## steps that touch the tables at one stream object only, and leave its uid, id and state alone -/

def KeepsKey (x y : Strm) : Prop :=
  y.uid = x.uid ∧ y.id = x.id ∧ y.state = x.state ∧ (0 ≤ x.contentLength → 0 ≤ y.contentLength)

theorem KeepsKey.ps {x y : Strm} (k : KeepsKey x y) (h : PS x) : PS y := ⟨k.2.2.2 h.1, by rw [k.2.2.1]; exact h.2⟩

/-- generated by: a step that leaves the tables alone; an update of the object `u`, or its replacement, under `KeepsKey`;
RST_STREAM on the id of the object `u`. `g`: whether an RST_STREAM may have been among the steps. -/
inductive Local (u : Nat) : Bool → R → R → Prop
  | refl (r : R) : Local u false r r
  | trans {g₁ g₂ : Bool} {r₁ r₂ r₃ : R} : Local u g₁ r₁ r₂ → Local u g₂ r₂ r₃ → Local u (g₁ || g₂) r₁ r₃
  | weak {g g' : Bool} {r r' : R} : Local u g r r' → (g = true → g' = true) → Local u g' r r'
  | inert {r r' : R} : r'.s.strms = r.s.strms → r'.s.resetByUs = r.s.resetByUs → r'.s.closing = r.s.closing →
      r'.s.ring = r.s.ring → r'.s.lastID = r.s.lastID → r'.s.lastRefused = r.s.lastRefused → Local u false r r'
  | upd (r : R) (f : Strm → Strm) : (∀ x, KeepsKey x (f x)) → Local u false r (r.updStrm u f)
  | set (r : R) {st : Strm} (st' : Strm) : r.getStrm u = some st → KeepsKey st st' → Local u false r (r.updStrm u fun _ => st')
  | reset (r : R) {st : Strm} (sid code : Nat) : r.getStrm u = some st → st.id = sid → Local u true r (writeReset r sid code)

theorem Local.emit (u : Nat) (r : R) (o : Out) : Local u false r (r.emit o) := .inert rfl rfl rfl rfl rfl rfl

/-- an update of the object `u` in fields other than uid, id, state, contentLength. The side condition is discharged at the
end of elaboration, when `f` is known: written out as `fun _ => ⟨rfl, rfl, rfl, id⟩` before that, the `rfl`s would fix `f`
to the identity. -/
theorem Local.field (u : Nat) (r : R) (f : Strm → Strm) (hf : ∀ x, KeepsKey x (f x) := by exact fun _ => ⟨rfl, rfl, rfl, id⟩) :
    Local u false r (r.updStrm u f) := .upd r f hf

/-- `trans` when the first part writes no RST_STREAM -/
theorem Local.then {u : Nat} {g : Bool} {r₁ r₂ r₃ : R} (a : Local u false r₁ r₂) (b : Local u g r₂ r₃) : Local u g r₁ r₃ :=
  a.trans b

theorem Local.pq {u : Nat} {g : Bool} (q : Local u g r r') : PQ r → PQ r' := by
  induction q with
  | refl => exact id
  | trans _ _ ih₁ ih₂ => exact fun h => ih₂ (ih₁ h)
  | weak _ _ ih => exact ih
  | inert e => exact fun h => h.congr e
  | upd r f hf => exact fun h => h.upd u f fun x => (hf x).ps
  | set r st' hg hk => exact fun h => h.upd u _ fun _ _ => hk.ps (h.get hg)
  | reset => exact fun h => h.congr rfl

theorem local_ccw (u : Nat) (r : R) (n : Nat) : Local u false r (consumeConnWindow r n) :=
  consumeConnWindow_cases r n (fun _ => .inert rfl rfl rfl rfl rfl rfl) fun _ _ => .inert rfl rfl rfl rfl rfl rfl

theorem local_crw (u : Nat) (r : R) (x : Strm) (fr : Frame) (n : Nat) : Local u false r (consumeRecvWindow r x fr n) :=
  consumeRecvWindow_cases r x fr n (.refl r) (local_ccw u r n) ((Local.emit u r _).then (local_ccw u _ n))

theorem hdrTrailer_cl (st : Strm) (eh : Bool) : (hdrTrailer st eh).contentLength = st.contentLength := by
  unfold hdrTrailer
  split
  · rfl
  · split <;> rfl

theorem handleHeaderFrame_keepsKey (s : Srv) (st : Strm) (fr : Frame) : KeepsKey st (handleHeaderFrame s st fr).2.1 := by
  have hc := (handleHeaderFrame_keeps s st fr).2
  refine ⟨congrArg Strm.Core.uid hc, congrArg Strm.Core.id hc, congrArg Strm.Core.state hc, fun h => ?_⟩
  rw [handleHeaderFrame_eq]
  split
  · exact h
  · split
    · rw [hdrTrailer_cl]; exact h
    · have hl := fieldLoop_cl ((st.prevHdr ++ (hdrParts fr.body).2.2.2).length + 1) s
        (hdrPre st (hdrParts fr.body).1 (Frame.hasFlag fr.flags Gen.c_FlagEndHeaders))
        (!(hdrPre st (hdrParts fr.body).1 (Frame.hasFlag fr.flags Gen.c_FlagEndHeaders)).fieldSeen)
        (hdrParts fr.body).2.1 0 (st.prevHdr ++ (hdrParts fr.body).2.2.2)
        (by cases (hdrParts fr.body).1 <;> exact (hdrTrailer_cl st _).symm ▸ h)
      dsimp only
      split <;> exact hl

theorem local_hdrUpd {u : Nat} {st : Strm} (hg : r.getStrm u = some st) (fr : Frame) : Local u false r (hdrUpd r u st fr) := by
  unfold hdrUpd
  rw [(handleHeaderFrame_keeps r.s st fr).1]
  exact (Local.inert (r := r) (r' := { r with s := { r.s with dec := (handleHeaderFrame r.s st fr).1.dec } }) rfl rfl rfl rfl rfl rfl).then
    (.set _ _ hg (handleHeaderFrame_keepsKey r.s st fr))

theorem handleFrame_local (u : Nat) (fr : Frame) : Local u false r (handleFrame r u fr).1 := by
  refine handleFrame_cases (P := fun x => Local u false r x.1) r u fr ?_ ?_ ?_ ?_ ?_ ?_
  · exact fun _ => .refl r
  · exact fun _ hg _ => local_hdrUpd hg fr
  · intro st hg _ _
    exact (local_hdrUpd hg fr).then (.field u _ _)
  · intro st hg _
    exact (Local.set r (recvd st fr) hg ⟨rfl, rfl, rfl, id⟩).then (local_ccw u _ _)
  · intro st hg _
    exact ((Local.set r (recvd st fr) hg ⟨rfl, rfl, rfl, id⟩).then (.field u _ _)).then (local_crw u _ _ _ _)
  · intro st hg _
    exact .field u _ _

theorem getStrm_set {u : Nat} {st : Strm} (hg : r.getStrm u = some st) (st' : Strm) (hu : st'.uid = st.uid) :
    (r.updStrm u fun _ => st').getStrm u = some st' :=
  getStrm_upd r u (fun _ => st') st (fun _ _ => hu.trans (by simpa using List.find?_some hg)) hg

theorem refillRead_keepsKey (st : Strm) (bs : BodyStream) : KeepsKey st (refillRead st bs) := by
  unfold refillRead
  dsimp only
  split <;> exact ⟨rfl, rfl, rfl, id⟩

theorem refill_local {u : Nat} {st : Strm} (hg : r.getStrm u = some st) : Local u (refill r u st).2.2 r (refill r u st).1 :=
  refill_cases (P := fun x => Local u x.2.2 r x.1) r u st
    (fun _ => (Local.refl r).weak fun h => nomatch h)
    (fun _ _ _ => (Local.set r { st with stream := none } hg ⟨rfl, rfl, rfl, id⟩).then
      (.reset _ _ _ (getStrm_set hg { st with stream := none } rfl) rfl))
    (fun bs _ _ _ => ((Local.set r (refillRead st bs) hg (refillRead_keepsKey st bs)).then (Local.emit u _ _)).weak fun h => nomatch h)
    (fun bs _ _ _ => (Local.set r (refillRead st bs) hg (refillRead_keepsKey st bs)).weak fun h => nomatch h)

theorem sendFrame_local (u : Nat) (st : Strm) (n : Nat) : Local u false r (sendFrame r u st n).1 := by
  rw [sendFrame_eq]
  exact (Local.field u r _).then (.inert rfl rfl rfl rfl rfl rfl)

theorem sendDataFuel_local (fuel : Nat) (u : Nat) : Local u (sendDataFuel fuel r u).2 r (sendDataFuel fuel r u).1 := by
  induction fuel generalizing r with
  | zero => exact .refl r
  | succ n ih =>
    rw [sendDataFuel_succ]
    cases hg : r.getStrm u with
    | none => exact (Local.refl r).weak fun _ => rfl
    | some st0 =>
      have q := refill_local hg
      dsimp only
      cases hfin : (refill r u st0).2.2
      · rw [hfin] at q
        rw [if_neg Bool.false_ne_true]
        split
        · exact q
        · split
          · exact ((q.then (sendFrame_local u _ _)).then (.field u _ _)).weak fun _ => rfl
          · exact (q.then (sendFrame_local u _ _)).then ih
      · rw [if_pos rfl]
        exact (q.trans (.field u _ _)).weak fun _ => rfl

theorem sendData_local (u : Nat) : Local u (sendData r u).2 r (sendData r u).1 :=
  sendData_cases (P := fun x => Local u x.2 r x.1) r u (fun _ => (Local.refl r).weak fun _ => rfl) fun _ => sendDataFuel_local _ u

theorem responseHeaders_local (u : Nat) (st : Strm) (resp : Resp) (hb : Bool) : Local u false r (responseHeaders r st resp hb) :=
  responseHeaders_cases r st resp hb fun _ _ _ _ _ => .inert rfl rfl rfl rfl rfl rfl

theorem finishRequest_local (u : Nat) (resp : Resp) : Local u (finishRequest r u resp).2 r (finishRequest r u resp).1 :=
  finishRequest_outcomes (P := fun x => Local u x.2 r x.1) r u resp
    (fun _ => (Local.refl r).weak fun _ => rfl)
    (fun st _ => (responseHeaders_local u st _ false).weak fun _ => rfl)
    (fun st _ => by
      have hk : ∀ s, KeepsKey s (bodyStart (finalResp resp) s) := fun s => by unfold bodyStart; split <;> exact ⟨rfl, rfl, rfl, id⟩
      exact ((responseHeaders_local u st _ true).then (.upd _ _ hk)).then (sendData_local u))

theorem dispatch_local (u : Nat) (st : Strm) : Local u false r (dispatch r u st) := by
  unfold dispatch
  exact (Local.field u r _).then (Local.emit u _ _)

/-! ## `PQ` through the model -/

theorem writeReset_pq (sid code : Nat) (h : PQ r) : PQ (writeReset r sid code) := h.congr rfl
theorem writeGoAway_pq (sid code : Nat) (tag : String) (h : PQ r) : PQ (writeGoAway r sid code tag) := by
  apply h.congr; rw [writeGoAway_eq]
theorem writeError_pq (u : Nat) (e : SErr) (h : PQ r) : PQ (writeError r u e) :=
  writeError_cases r u e (fun _ => h) (fun _ _ _ _ _ => (writeGoAway_pq _ _ _ h).close u) (fun _ _ _ _ => (writeReset_pq _ _ h).close u)
theorem releaseStream_pq (st : Strm) (h : PQ r) : PQ (releaseStream r st) :=
  releaseStream_cases r st (fun _ => h) fun _ => h.congr rfl
theorem closeStream_pq (u : Nat) (h : PQ r) : PQ (closeStream r u) :=
  closeStream_cases r u (fun _ => h) fun _ _ _ _ _ => h.sub fun _ hy => (delFirst_sublist _ _).subset hy

theorem sendData_pq (u : Nat) (h : PQ r) : PQ (sendData r u).1 := (sendData_local u).pq h

theorem closeDone_pq (u : Nat) (h : PQ r) : PQ (closeDone r u) := closeStream_pq _ (h.close u)

theorem flushOne_pq (acc : R × List Nat) (u : Nat) (h : PQ acc.1) : PQ (flushOne acc u).1 :=
  flushOne_cases (P := fun x => PQ x.1) acc u h fun _ _ => sendData_pq u h

theorem flushStreams_pq (h : PQ r) : PQ (flushStreams r) :=
  flushStreams_ind r (fun acc a h => flushOne_pq acc a h) (fun _ a h => closeDone_pq a h) h

theorem closeIdleBelow_pq (fuel : Nat) (id : Nat) (h : PQ r) : PQ (closeIdleBelow fuel r id) := by
  induction fuel generalizing r with
  | zero => exact h
  | succ n ih =>
    rw [closeIdleBelow_succ]
    split
    · exact h
    · split
      · exact ih (writeReset_pq _ _ (closeStream_pq _ (h.close _)))
      · exact h

theorem stopLoop_pq (h : PQ r) : PQ (stopLoop r) := h.congr rfl
theorem rlStop_pq (h : PQ r) : PQ (rlStop r) := h.congr rfl
theorem stopIf_pq (b : Bool) (h : PQ r) : PQ (if b then stopLoop r else r) := by cases b <;> exact h
theorem closeIfDone_pq (h : PQ r) : PQ (closeIfDone r) := stopIf_pq _ h
theorem closeIfClosing_pq (h : PQ r) : PQ (closeIfClosing r) := stopIf_pq _ h

theorem unknownStream_pq (fr : Frame) (wc : Bool) (h : PQ r) : PQ (unknownStream r fr wc).1 :=
  unknownStream_cases (P := fun x => PQ x.1) r fr wc h ((local_ccw 0 r _).pq h)
    (fun _ _ => closeIfDone_pq (writeGoAway_pq _ _ _ h)) (fun _ _ => stopLoop_pq (writeGoAway_pq _ _ _ h))
    (writeReset_pq _ _ (h.congr rfl))
    (fun _ _ _ _ _ st hm => by
      rcases List.mem_append.mp hm with hm | hm
      · exact h st hm
      · rw [List.mem_singleton.mp hm]; exact ⟨Int.le_refl 0, fun e => nomatch e⟩)

theorem headersPrelude_pq (fr : Frame) (h : PQ r) : PQ (headersPrelude r fr).1 :=
  headersPrelude_cases (P := fun x => PQ x.1) r fr h (fun _ _ _ _ => writeError_pq _ _ h) (fun _ => closeIdleBelow_pq _ _ h)

theorem onFrameError_pq (u : Nat) (e : Option SErr) (h : PQ r) : PQ (onFrameError r u e).1 :=
  onFrameError_cases (P := fun x => PQ x.1) r u e (fun _ => h) (fun _ _ _ => (writeError_pq _ _ h).close u)

theorem dispatchOrSend_pq (u : Nat) (st : Strm) (h : PQ r) : PQ (dispatchOrSend r u st) :=
  dispatchOrSend_cases r u st h
    (fun _ _ _ => (writeReset_pq _ _ ((Local.field u r _).pq h)).close u)
    (fun _ => ((Local.field u r _).then (dispatch_local u st)).pq h)
    (fun _ _ => by
      split
      · exact (sendData_pq u h).close u
      · exact sendData_pq u h)

theorem handleState_ps (fr : Frame) (x : Strm) (hx : PS x) : PS (handleState fr x) := by
  rw [handleState_after]
  exact ⟨hx.1, StState.after_cases (P := (· ≠ .reserved)) x.state fr (fun _ => hx.2) (fun _ => nofun)
    (fun _ _ => by split <;> nofun) (fun _ _ => nofun)⟩

theorem closeIfClosed_pq (u : Nat) (h : PQ r) : PQ (closeIfClosed r u) :=
  closeIfClosed_cases r u (fun _ => h) fun _ _ _ => closeStream_pq u h

theorem knownStream_pq (u : Nat) (fr : Frame) (wc : Bool) (h : PQ r) : PQ (knownStream r u fr wc) := by
  have h2 : PQ (afterFrame r u fr).1 := onFrameError_pq u _ ((handleFrame_local u fr).pq (headersPrelude_pq fr h))
  have h3 := h2.upd u (handleState fr) (handleState_ps fr)
  exact knownStream_cases r u fr wc (fun _ => headersPrelude_pq fr h) (stopLoop_pq h2) h3
    fun st _ b => stopIf_pq b (closeIfClosed_pq u (dispatchOrSend_pq u st h3))

theorem slStreamFrame_pq (fr : Frame) (h : PQ r) : PQ (slStreamFrame r fr) :=
  slStreamFrame_cases r fr (fun _ _ => knownStream_pq _ _ _ h) (fun _ _ => unknownStream_pq _ _ h)
    (fun _ _ _ => knownStream_pq _ _ _ (unknownStream_pq _ _ h))

theorem applyDelta_ps (d : Int) (l : List Strm) (h : ∀ x ∈ l, PS x) : ∀ x ∈ (applyDelta d l).1, PS x := by
  induction l with
  | nil => intro x hx; cases hx
  | cons a l ih =>
    have ha : PS { a with window := a.window + d } := h a (List.mem_cons_self ..)
    unfold applyDelta
    dsimp only
    split
    · intro x hx
      rcases List.mem_cons.mp hx with rfl | hx
      · exact ha
      · exact h x (List.mem_cons_of_mem _ hx)
    · intro x hx
      rcases List.mem_cons.mp hx with rfl | hx
      · exact ha
      · exact ih (fun y hy => h y (List.mem_cons_of_mem _ hy)) x hx

theorem slFrame_pq (fr : Frame) (h : PQ r) : PQ (slFrame r fr) := by
  have hw : ∀ st, PQ (withInitWin (applyTableSize { r with fwd := r.fwd ++ [fr] } st) st) := fun st => applyDelta_ps _ _ h
  exact slFrame_cases r fr (fun _ => h)
    (fun st _ => stopLoop_pq (writeGoAway_pq _ _ _ (hw st)))
    (fun st _ => closeIfClosing_pq (flushStreams_pq (hw st)))
    (fun _ _ => closeIfClosing_pq (h.congr rfl))
    (fun _ _ => stopLoop_pq (writeGoAway_pq _ _ _ (h.congr rfl)))
    (fun _ _ => closeIfClosing_pq (flushStreams_pq (h.congr rfl)))
    (closeIfClosing_pq (h.congr rfl))
    (fun _ => slStreamFrame_pq fr (h.congr rfl))

theorem slHandlerDone_pq (sid : Nat) (resp : Resp) (h : PQ r) : PQ (slHandlerDone r sid resp) := by
  have h0 : ∀ r0, (r0 = r ∨ r0 = r.emit .handlerPanicLogged) → PQ r0 := by
    rintro r0 (rfl | rfl) <;> exact h
  refine slHandlerDone_cases r sid resp h0 (fun r0 st hr _ => releaseStream_pq _ ((h0 r0 hr).congr rfl)) fun r0 st hr _ b => stopIf_pq b ?_
  have h1 := (finishRequest_local st.uid resp).pq ((h0 r0 hr).upd st.uid (fun s => { s with handlerRunning := false }) fun _ => id)
  exact answered_cases r0 st.uid resp (closeDone_pq _ h1) h1

theorem contCheck_pq (fr : Frame) (h : PQ r) : PQ (contCheck r fr).1 :=
  contCheck_cases (P := fun x => PQ x.1) r fr (fun _ => writeGoAway_pq _ _ _ h) (fun _ => h.congr rfl)

theorem handleSettings_pq (st : Frame.SettingsVal) (h : PQ r) : PQ (handleSettings r st) := h.congr rfl

theorem rlFrame_pq (fr : Frame) (h : PQ r) : PQ (rlFrame r fr) := by
  have hc := contCheck_pq fr h
  exact rlFrame_cases r fr (fun _ => rlStop_pq hc) (fun _ _ _ => rlStop_pq (writeGoAway_pq _ _ _ hc)) (fun _ => slFrame_pq _ hc)
    (fun _ _ _ => slFrame_pq _ (handleSettings_pq _ hc)) (fun _ _ => hc.congr rfl) (fun _ => hc)

theorem rlDrain_pq (fuel : Nat) (h : PQ r) : PQ (rlDrain fuel r) := by
  induction fuel generalizing r with
  | zero => exact h
  | succ n ih =>
    exact rlDrain_cases n r h (fun _ _ _ => ih (rlFrame_pq _ (h.congr rfl))) (fun _ => ih (h.congr rfl))
      (fun _ _ _ => rlStop_pq (writeGoAway_pq _ _ _ (h.congr rfl))) (rlStop_pq h)

theorem settle_pq (h : PQ r) : PQ (settle r) := settle_cases r h (h.congr rfl)

theorem stepR_pq (s : Srv) (ev : Event) (h : PQ { s := s }) : PQ (stepR s ev) := by
  unfold stepR
  apply settle_pq
  cases ev with
  | bytes b => exact rlDrain_pq _ (h.congr rfl)
  | done sid resp => exact slHandlerDone_pq sid resp h
  | cut => exact rlStop_pq h
  | idle => exact stopLoop_pq (writeGoAway_pq _ _ _ h)

end

theorem runFrom_pq (s : Srv) (evs : List Event) (h : PQ { s := s }) : PQ { s := (runFrom s evs).1 } := by
  induction evs generalizing s with
  | nil => exact h
  | cons ev evs ih => exact ih _ (stepR_pq s ev h)

theorem run_pq (cfg : Cfg) (evs : List Event) : PQ { s := (run cfg evs).1 } :=
  runFrom_pq _ evs (by intro st hm; cases hm)

/-- `SInv` in a reachable state (between events; `ib`: whatever octets the next event has put into the read buffer): the
table facts come from `reachable_tbl`, `contentLength`/`reserved` from `run_pq`; the rest is asked for: no idle or closed
stream in the table and no table id in `resetByUs` (`reachable_live`: true while no GOAWAY has been written) -/
theorem reachable_sinv (cfg : Cfg) (evs : List Event) (ib : Bytes)
    (hlive : ∀ st ∈ (run cfg evs).1.strms, st.state ≠ .idle ∧ st.state ≠ .closed)
    (hnrb : ∀ st ∈ (run cfg evs).1.strms, (run cfg evs).1.resetByUs.contains st.id = false) :
    SInv { (run cfg evs).1 with inbuf := ib } := by
  have t := reachable_tbl cfg evs
  have q := run_pq cfg evs
  refine ⟨t.un, t.idn, t.ult, t.ile, ?_, fun st hm => (q st hm).1, hnrb⟩
  intro st hm
  cases hs : st.state with
  | «open» => exact Or.inl rfl
  | halfClosed => exact Or.inr rfl
  | idle => exact absurd hs (hlive st hm).1
  | closed => exact absurd hs (hlive st hm).2
  | reserved => exact absurd hs (q st hm).2

/-- **Step refinement in reachable states**: `frame_refines` with the table invariants discharged -/
theorem reachable_frame_refines (cfg : Cfg) (evs : List Event) (ib : Bytes) (fr : Frame) (hwf : FrWF fr) (h0 : fr.stream ≠ 0)
    (hsl : (run cfg evs).1.slStopped = false)
    (hlive : ∀ st ∈ (run cfg evs).1.strms, st.state ≠ .idle ∧ st.state ≠ .closed)
    (hnrb : ∀ st ∈ (run cfg evs).1.strms, (run cfg evs).1.resetByUs.contains st.id = false)
    (hnr : ∀ st, lookup (run cfg evs).1 fr.stream = some st → resume st = false) :
    let s : Srv := { (run cfg evs).1 with inbuf := ib }
    absReaction (StreamSM.react (absPos s fr.stream) (absFrame s fr) (absCtx s fr.stream (some fr))).1 =
      fullReaction (rlFrame { s := s } fr).out fr.stream ∧
    (isConn (StreamSM.react (absPos s fr.stream) (absFrame s fr) (absCtx s fr.stream (some fr))).1 = false →
      absPos (rlFrame { s := s } fr).s fr.stream =
        (StreamSM.react (absPos s fr.stream) (absFrame s fr) (absCtx s fr.stream (some fr))).2) :=
  frame_refines _ fr (reachable_sinv cfg evs ib hlive hnrb) hwf h0 hsl hnr

end H2.Server.Lock.Refine
