import H2.Proofs.StreamSMRefine.Run
/-!
# C08 refinement — run level: while no GOAWAY has been written, no stream of the table is idle or closed and no
table id is in `resetByUs`

`BX X r`: the statement for the streams whose uid is not in `X` (the stream objects a function is working on). `key`: what
the statement reads of a stream (uid, id, state). `Local` steps leave the list of keys alone (`Local.kl`), never write a
GOAWAY (`Local.closing`) and add to `resetByUs` at most the id of the object they work on (`Local.rb`); what the rest of
`knownStream` does to the object is `Eff`.
-/
namespace H2.Server.Lock.Refine
open H2.Frame (Frame Body)
open H2.Server

def key (st : Strm) : Nat × Nat × StState := (st.uid, st.id, st.state)
def KL (r : R) : List (Nat × Nat × StState) := r.s.strms.map key

def GoodK (rb : List Nat) (k : Nat × Nat × StState) : Prop := k.2.2 ≠ .idle ∧ k.2.2 ≠ .closed ∧ rb.contains k.2.1 = false

/-- while no GOAWAY has been written: every table stream outside `X` is neither idle nor closed, and its id is not in `resetByUs` -/
def BX (X : List Nat) (r : R) : Prop := r.s.closing = false → ∀ k ∈ KL r, k.1 ∉ X → GoodK r.s.resetByUs k

section
variable {u : Nat} {r : R}
theorem fe_closeStream_none (hg : r.getStrm u = none) : closeStream r u = r :=
  closeStream_cases (P := fun x => x = r) r u (fun _ => rfl) fun st hg' => by rw [hg] at hg'; cases hg'
end

section
variable {r r' : R} {X Y : List Nat}

theorem BX.closed (h : r.s.closing = true) : BX X r := fun hc => by rw [h] at hc; cases hc

/-- fewer streams, fewer remembered resets, GOAWAY at most added -/
theorem BX.weak (h : BX X r) (hc : r'.s.closing = false → r.s.closing = false)
    (hs : ∀ k ∈ KL r', k.1 ∉ Y → k ∈ KL r ∧ k.1 ∉ X)
    (hr : ∀ k ∈ KL r', k.1 ∉ Y → r'.s.resetByUs.contains k.2.1 = true → r.s.resetByUs.contains k.2.1 = true) : BX Y r' := by
  intro hc' k hk hx
  obtain ⟨h1, h2⟩ := hs k hk hx
  obtain ⟨g1, g2, g3⟩ := h (hc hc') k h1 h2
  refine ⟨g1, g2, ?_⟩
  cases hh : r'.s.resetByUs.contains k.2.1
  · rfl
  · rw [hr k hk hx hh] at g3; cases g3

theorem BX.congr (h : BX X r) (e1 : KL r' = KL r) (e2 : r'.s.resetByUs = r.s.resetByUs) (e3 : r'.s.closing = r.s.closing) : BX X r' :=
  h.weak (by rw [e3]; exact id) (by rw [e1]; exact fun k hk hx => ⟨hk, hx⟩) (by rw [e2]; exact fun _ _ _ h => h)

theorem BX.mono (h : BX X r) (hxy : ∀ x, x ∈ X → x ∈ Y) : BX Y r :=
  h.weak id (fun _ hk hy => ⟨hk, fun hx => hy (hxy _ hx)⟩) (fun _ _ _ h => h)

theorem BX.updX (h : BX X r) (u : Nat) (hu : u ∈ X) (f : Strm → Strm) (hf : ∀ x, x.uid = u → (f x).uid = u) : BX X (r.updStrm u f) := by
  refine h.weak id ?_ (fun _ _ _ h => h)
  intro k hk hx
  obtain ⟨x', hx', rfl⟩ := List.mem_map.mp hk
  obtain ⟨x, hxm, ⟨_, e⟩ | ⟨hxu, e⟩⟩ := mem_updStrm hx'
  · exact ⟨e ▸ List.mem_map_of_mem hxm, hx⟩
  · exact absurd hu (by rw [← hf x hxu, ← e]; exact hx)

theorem stopIf_bx {x : R} (c : Bool) (h : BX X x) : BX X (if c then stopLoop x else x) := by
  cases c
  · exact h
  · exact h.congr rfl rfl rfl

theorem kl_upd (r : R) (u : Nat) (f : Strm → Strm) (hf : ∀ x, key (f x) = key x) : KL (r.updStrm u f) = KL r := by
  simp only [KL, R.updStrm, List.map_map]
  apply List.map_congr_left
  intro x _
  simp only [Function.comp]
  split <;> simp [hf]

/-- all stream objects with uid `u` have one key (a consequence of "one object per uid") -/
def C1 (u : Nat) (r : R) : Prop := ∀ k ∈ KL r, ∀ k' ∈ KL r, k.1 = u → k'.1 = u → k = k'

theorem C1.of_nodup (hn : (r.s.strms.map (·.uid)).Nodup) (u : Nat) : C1 u r := by
  intro k hk k' hk' e1 e2
  simp only [KL, List.mem_map] at hk hk'
  obtain ⟨x, hx, rfl⟩ := hk
  obtain ⟨y, hy, rfl⟩ := hk'
  have : x = y := nodup_map_inj (·.uid) _ hn x y hx hy (by simp only [key] at e1 e2; rw [e1, e2])
  rw [this]

theorem C1.congr (h : C1 u r) (e : KL r' = KL r) : C1 u r' := by unfold C1; rw [e]; exact h

theorem C1.key_of (hc : C1 u r) (hg : r.getStrm u = some st) : ∀ k ∈ KL r, k.1 = u → k = key st := by
  intro k hk hu
  have hm : key st ∈ KL r := List.mem_map_of_mem (List.mem_of_find?_eq_some hg)
  have hsu : st.uid = u := by simpa using List.find?_some hg
  exact hc k hk (key st) hm hu hsu

theorem kl_updc (hg : r.getStrm u = some st) (hc : C1 u r) (st' : Strm) (hk : key st' = key st) :
    KL (r.updStrm u fun _ => st') = KL r := by
  have hm : st ∈ r.s.strms := List.mem_of_find?_eq_some hg
  have hu : st.uid = u := by simpa using List.find?_some hg
  simp only [KL, R.updStrm, List.map_map]
  apply List.map_congr_left
  intro x hx
  simp only [Function.comp]
  split
  · rename_i hxu
    have hxu' : x.uid = u := by simpa using hxu
    rw [hk]
    exact (hc (key x) (List.mem_map_of_mem hx) (key st) (List.mem_map_of_mem hm) hxu' hu).symm
  · rfl

/-! ## `Local` steps: keys and GOAWAY untouched; `resetByUs` gains at most the object's own id, and only where an RST_STREAM was written -/

theorem addKnown_mem (kn : List Nat) (sid y : Nat) (h : (if kn.contains sid then kn else kn ++ [sid]).contains y = true) :
    kn.contains y = true ∨ y = sid := by
  cases hc : kn.contains sid
  · rw [hc] at h
    simp only [Bool.false_eq_true, if_false, List.contains_eq_mem, List.mem_append, List.mem_singleton, decide_eq_true_eq] at h
    rcases h with h | h
    · exact Or.inl (by simpa using h)
    · exact Or.inr h
  · rw [hc] at h; exact Or.inl h

theorem writeReset_rb (r : R) (sid code y : Nat) (h : (writeReset r sid code).s.resetByUs.contains y = true) :
    r.s.resetByUs.contains y = true ∨ y = sid := by
  unfold writeReset R.emit at h
  dsimp only at h
  rcases addKnown_mem _ _ _ h with h | h
  · left
    split at h
    · simp at h
    · exact h
  · exact Or.inr h

theorem KeepsKey.key_eq {x y : Strm} (k : KeepsKey x y) : key y = key x := by
  obtain ⟨h1, h2, h3, _⟩ := k
  unfold key
  rw [h1, h2, h3]

theorem Local.closing {g : Bool} (q : Local u g r r') : r'.s.closing = r.s.closing := by
  induction q with
  | refl => rfl
  | trans _ _ ih₁ ih₂ => exact ih₂.trans ih₁
  | weak _ _ ih => exact ih
  | inert _ _ e => exact e
  | upd => rfl
  | set => rfl
  | reset => rfl

theorem Local.kl {g : Bool} (q : Local u g r r') : C1 u r → KL r' = KL r := by
  induction q with
  | refl => exact fun _ => rfl
  | trans _ _ ih₁ ih₂ => exact fun hc => (ih₂ (hc.congr (ih₁ hc))).trans (ih₁ hc)
  | weak _ _ ih => exact ih
  | inert e => exact fun _ => congrArg (List.map key) e
  | upd r f hf => exact fun _ => kl_upd r u f fun x => (hf x).key_eq
  | set r st' hg hk => exact fun hc => kl_updc hg hc st' hk.key_eq
  | reset => exact fun _ => rfl

theorem Local.rb_eq {g : Bool} (q : Local u g r r') : g = false → r'.s.resetByUs = r.s.resetByUs := by
  induction q with
  | refl => exact fun _ => rfl
  | trans _ _ ih₁ ih₂ =>
    intro h
    exact (ih₂ (Bool.or_eq_false_iff.mp h).2).trans (ih₁ (Bool.or_eq_false_iff.mp h).1)
  | @weak g g' _ _ _ hgg ih =>
    intro h
    cases g
    · exact ih rfl
    · rw [hgg rfl] at h; cases h
  | inert _ e => exact fun _ => e
  | upd => exact fun _ => rfl
  | set => exact fun _ => rfl
  | reset => exact fun h => nomatch h

theorem Local.rb {g : Bool} (q : Local u g r r') : C1 u r → ∀ y, r'.s.resetByUs.contains y = true →
    r.s.resetByUs.contains y = true ∨ (g = true ∧ ∃ k ∈ KL r, k.1 = u ∧ k.2.1 = y) := by
  induction q with
  | refl => exact fun _ _ h => Or.inl h
  | @trans g₁ g₂ _ _ _ q₁ _ ih₁ ih₂ =>
    intro hc y h
    rcases ih₂ (hc.congr (q₁.kl hc)) y h with h | ⟨h2, k, hk, e⟩
    · rcases ih₁ hc y h with h | ⟨h1, e⟩
      · exact Or.inl h
      · exact Or.inr ⟨by rw [h1]; rfl, e⟩
    · exact Or.inr ⟨by rw [h2]; exact Bool.or_true _, k, q₁.kl hc ▸ hk, e⟩
  | weak _ hgg ih =>
    intro hc y h
    rcases ih hc y h with h | ⟨h1, e⟩
    · exact Or.inl h
    · exact Or.inr ⟨hgg h1, e⟩
  | inert _ e => exact fun _ _ h => Or.inl (e ▸ h)
  | upd => exact fun _ _ h => Or.inl h
  | set => exact fun _ _ h => Or.inl h
  | reset r sid code hg hid =>
    intro _ y h
    rcases writeReset_rb r sid code y h with h | h
    · exact Or.inl h
    · exact Or.inr ⟨rfl, key _, List.mem_map_of_mem (List.mem_of_find?_eq_some hg), by simpa [key] using List.find?_some hg, hid.trans h.symm⟩

/-! ## once a GOAWAY has been written `closing` stays set (function by function) -/

def CL (r : R) : Prop := r.s.closing = true

theorem writeGoAway_cl (r : R) (sid code : Nat) (tag : String) : CL (writeGoAway r sid code tag) := rfl
theorem writeError_cl (u : Nat) (e : SErr) (h : CL r) : CL (writeError r u e) :=
  writeError_cases r u e (fun _ => h) (fun _ _ _ _ _ => rfl) (fun _ _ _ _ => h)
theorem releaseStream_cl (x : Strm) (h : CL r) : CL (releaseStream r x) :=
  releaseStream_cases r x (fun _ => h) fun _ => h
theorem closeStream_closing (r : R) (u : Nat) : (closeStream r u).s.closing = r.s.closing :=
  closeStream_cases (P := fun x => x.s.closing = r.s.closing) r u (fun _ => rfl) (fun _ _ _ _ _ => rfl)
theorem consumeConnWindow_closing (r : R) (n : Nat) : (consumeConnWindow r n).s.closing = r.s.closing := (local_ccw 0 r n).closing
theorem sendData_closing (r : R) (u : Nat) : (sendData r u).1.s.closing = r.s.closing := (sendData_local u).closing
theorem closeDone_closing (r : R) (u : Nat) : (closeDone r u).s.closing = r.s.closing := closeStream_closing _ u
theorem flushOne_closing (acc : R × List Nat) (u : Nat) : (flushOne acc u).1.s.closing = acc.1.s.closing :=
  flushOne_cases (P := fun x => x.1.s.closing = acc.1.s.closing) acc u rfl fun _ _ => sendData_closing _ u
theorem flushStreams_closing (r : R) : (flushStreams r).s.closing = r.s.closing :=
  flushStreams_ind (P := fun x => x.s.closing = r.s.closing) r (fun acc a h => (flushOne_closing acc a).trans h)
    (fun x a h => (closeDone_closing x a).trans h) rfl
theorem finishRequest_closing (r : R) (u : Nat) (resp : Resp) : (finishRequest r u resp).1.s.closing = r.s.closing :=
  (finishRequest_local u resp).closing
theorem closeIdleBelow_closing (fuel : Nat) (r : R) (id : Nat) : (closeIdleBelow fuel r id).s.closing = r.s.closing := by
  induction fuel generalizing r with
  | zero => rfl
  | succ n ih =>
    rw [closeIdleBelow_succ]
    split
    · rfl
    · split
      · exact (ih (r := writeReset (closeStream _ _) _ _)).trans (closeStream_closing (r.updStrm _ _) _)
      · rfl
theorem stopLoop_cl (h : CL r) : CL (stopLoop r) := h
theorem stopIf_cl (b : Bool) (h : CL r) : CL (if b then stopLoop r else r) := by cases b <;> exact h
theorem closeIfDone_cl (h : CL r) : CL (closeIfDone r) := stopIf_cl _ h
theorem unknownStream_cl (fr : Frame) (wc : Bool) (h : CL r) : CL (unknownStream r fr wc).1 :=
  unknownStream_cases (P := fun x => CL x.1) r fr wc h ((consumeConnWindow_closing r _).trans h)
    (fun _ _ => closeIfDone_cl (writeGoAway_cl _ _ _ _)) (fun _ _ => rfl) h (fun _ _ _ _ _ => h)
theorem headersPrelude_cl (fr : Frame) (h : CL r) : CL (headersPrelude r fr).1 :=
  headersPrelude_cases (P := fun x => CL x.1) r fr h (fun _ _ _ _ => writeError_cl _ _ h)
    (fun _ => (closeIdleBelow_closing _ _ _).trans h)
theorem onFrameError_cl (u : Nat) (e : Option SErr) (h : CL r) : CL (onFrameError r u e).1 :=
  onFrameError_cases (P := fun x => CL x.1) r u e (fun _ => h) (fun _ _ _ => writeError_cl _ _ h)
theorem dispatchOrSend_cl (u : Nat) (st : Strm) (h : CL r) : CL (dispatchOrSend r u st) :=
  dispatchOrSend_cases r u st h (fun _ _ _ => h) (fun _ => (dispatch_local u st).closing.trans h) fun _ _ => by
    split <;> exact (sendData_closing r u).trans h
theorem closeIfClosed_cl (u : Nat) (h : CL r) : CL (closeIfClosed r u) :=
  closeIfClosed_cases r u (fun _ => h) fun _ _ _ => (closeStream_closing r u).trans h
theorem knownStream_cl (u : Nat) (fr : Frame) (wc : Bool) (h : CL r) : CL (knownStream r u fr wc) := by
  have h2 : CL (afterFrame r u fr).1 :=
    onFrameError_cl u _ ((handleFrame_local u fr).closing.trans (headersPrelude_cl fr h))
  have h3 : CL ((afterFrame r u fr).1.updStrm u (handleState fr)) := h2
  exact knownStream_cases r u fr wc (fun _ => headersPrelude_cl fr h) (stopLoop_cl h2) h3
    fun st _ b => stopIf_cl b (closeIfClosed_cl u (dispatchOrSend_cl u st h3))
theorem slStreamFrame_cl (fr : Frame) (h : CL r) : CL (slStreamFrame r fr) :=
  slStreamFrame_cases r fr (fun _ _ => knownStream_cl _ _ _ h) (fun _ _ => unknownStream_cl _ _ h)
    (fun _ _ _ => knownStream_cl _ _ _ (unknownStream_cl _ _ h))

/-! ## the effect of the tail of `knownStream` on the stream object `u` (id `sid`) and on the others -/

theorem mem_kl_upd {k' : Nat × Nat × StState} {u : Nat} {f : Strm → Strm} (h : k' ∈ KL (r.updStrm u f)) :
    ∃ x ∈ r.s.strms, (x.uid ≠ u ∧ k' = key x) ∨ (x.uid = u ∧ k' = key (f x)) := by
  obtain ⟨x', hx', rfl⟩ := List.mem_map.mp h
  obtain ⟨x, hx, ⟨hu, e⟩ | ⟨hu, e⟩⟩ := mem_updStrm hx'
  · exact ⟨x, hx, Or.inl ⟨hu, e ▸ rfl⟩⟩
  · exact ⟨x, hx, Or.inr ⟨hu, e ▸ rfl⟩⟩

/-- `r'` is `r` with: GOAWAY flag unchanged; the other streams' keys unchanged (some may be gone); the object `u` keeps its
uid and id, its state is what it was or `closed`; `resetByUs` has gained at most `sid`, and that only if `u` is now closed -/
def Eff (u sid : Nat) (r r' : R) : Prop :=
  r'.s.closing = r.s.closing ∧
  (∀ k' ∈ KL r', k'.1 ≠ u → k' ∈ KL r) ∧
  (∀ k' ∈ KL r', k'.1 = u → ∃ k ∈ KL r, k.1 = u ∧ k'.2.1 = k.2.1 ∧ (k'.2.2 = .closed ∨ k'.2.2 = k.2.2)) ∧
  (∀ y, r'.s.resetByUs.contains y = true → r.s.resetByUs.contains y = true ∨ (y = sid ∧ ∀ k' ∈ KL r', k'.1 = u → k'.2.2 = .closed))

theorem Eff.refl (u sid : Nat) (r : R) : Eff u sid r r :=
  ⟨rfl, fun _ h _ => h, fun k h e => ⟨k, h, e, rfl, Or.inr rfl⟩, fun _ h => Or.inl h⟩

theorem Eff.trans {u sid : Nat} {r1 r2 r3 : R} (a : Eff u sid r1 r2) (b : Eff u sid r2 r3) : Eff u sid r1 r3 := by
  obtain ⟨a1, a2, a3, a4⟩ := a
  obtain ⟨b1, b2, b3, b4⟩ := b
  refine ⟨b1.trans a1, fun k h e => a2 k (b2 k h e) e, ?_, ?_⟩
  · intro k3 h3 e3
    obtain ⟨k2, h2, e2, i2, s2⟩ := b3 k3 h3 e3
    obtain ⟨k1, h1, e1, i1, s1⟩ := a3 k2 h2 e2
    refine ⟨k1, h1, e1, i2.trans i1, ?_⟩
    rcases s2 with s2 | s2
    · exact Or.inl s2
    · rcases s1 with s1 | s1
      · exact Or.inl (s2.trans s1)
      · exact Or.inr (s2.trans s1)
  · intro y hy
    rcases b4 y hy with h | h
    · rcases a4 y h with h' | ⟨h1, h2⟩
      · exact Or.inl h'
      · refine Or.inr ⟨h1, fun k3 h3 e3 => ?_⟩
        obtain ⟨k2, hk2, e2, _, s2⟩ := b3 k3 h3 e3
        rcases s2 with s2 | s2
        · exact s2
        · exact s2.trans (h2 k2 hk2 e2)
    · exact Or.inr h

theorem Eff.of_local {u sid : Nat} (q : Local u false r r') (hc : C1 u r) : Eff u sid r r' :=
  ⟨q.closing, fun _ hk _ => q.kl hc ▸ hk, fun k hk e => ⟨k, q.kl hc ▸ hk, e, rfl, Or.inr rfl⟩,
    fun _ hy => Or.inl (q.rb_eq rfl ▸ hy)⟩

/-- the other streams stay good: their keys are as before, and what `resetByUs` has gained is not one of their ids -/
theorem Eff.others {u sid : Nat} (E : Eff u sid r r')
    (hoth : r.s.closing = false → ∀ k ∈ KL r, k.1 ≠ u → GoodK r.s.resetByUs k) (hnd : ∀ k ∈ KL r, k.2.1 = sid → k.1 = u) :
    r'.s.closing = false → ∀ k ∈ KL r', k.1 ≠ u → GoodK r'.s.resetByUs k := by
  obtain ⟨E1, E2, _, E4⟩ := E
  intro hc k hk hu
  have hk0 := E2 k hk hu
  obtain ⟨g1, g2, g3⟩ := hoth (E1 ▸ hc) k hk0 hu
  refine ⟨g1, g2, ?_⟩
  cases hh : r'.s.resetByUs.contains k.2.1
  · rfl
  · rcases E4 _ hh with h | ⟨h, _⟩
    · rw [h] at g3; cases g3
    · exact absurd (hnd k hk0 h) hu

theorem eff_close (u sid : Nat) (r : R) : Eff u sid r (r.updStrm u fun s => { s with state := .closed }) := by
  refine ⟨rfl, ?_, ?_, fun y h => Or.inl h⟩
  · intro k hk hu
    obtain ⟨x, hx, ⟨h1, rfl⟩ | ⟨h1, rfl⟩⟩ := mem_kl_upd hk
    · exact List.mem_map_of_mem hx
    · exact absurd h1 hu
  · intro k hk hu
    obtain ⟨x, hx, ⟨h1, rfl⟩ | ⟨h1, rfl⟩⟩ := mem_kl_upd hk
    · exact absurd hu h1
    · exact ⟨key x, List.mem_map_of_mem hx, h1, rfl, Or.inl rfl⟩

theorem eff_reset_close (u sid code : Nat) (r : R) :
    Eff u sid r ((writeReset r sid code).updStrm u fun s => { s with state := .closed }) := by
  obtain ⟨e1, e2, e3, _⟩ := eff_close u sid (writeReset r sid code)
  refine ⟨e1, e2, e3, fun y hy => ?_⟩
  rcases writeReset_rb r sid code y hy with h | h
  · exact Or.inl h
  · refine Or.inr ⟨h, fun k hk hu => ?_⟩
    obtain ⟨x, hx, ⟨h1, rfl⟩ | ⟨h1, rfl⟩⟩ := mem_kl_upd hk
    · exact absurd hu h1
    · rfl

theorem eff_sendData (hg : r.getStrm u = some st) (hc : C1 u r) :
    Eff u st.id r (if (sendData r u).2 then (sendData r u).1.updStrm u fun s => { s with state := .closed } else (sendData r u).1) := by
  have q := sendData_local u (r := r)
  have s1 := q.kl hc
  cases hfin : (sendData r u).2
  · rw [hfin] at q
    exact Eff.of_local q hc
  · simp only [if_true]
    obtain ⟨e1, e2, e3, _⟩ := eff_close u st.id (sendData r u).1
    refine ⟨e1.trans q.closing, fun k hk hu => s1 ▸ e2 k hk hu, ?_, ?_⟩
    · intro k hk hu
      obtain ⟨k0, h0, a, b, c⟩ := e3 k hk hu
      exact ⟨k0, s1 ▸ h0, a, b, c⟩
    · intro y hy
      rcases q.rb hc y hy with h | ⟨_, k, hk, hu, hy'⟩
      · exact Or.inl h
      · refine Or.inr ⟨?_, fun k' hk' hu' => ?_⟩
        · rw [← hy', hc.key_of hg k hk hu]; rfl
        · obtain ⟨x, hx, ⟨h1, rfl⟩ | ⟨h1, rfl⟩⟩ := mem_kl_upd hk'
          · exact absurd hu' h1
          · rfl

theorem dispatchOrSend_eff (hg : r.getStrm u = some st) (hc : C1 u r) : Eff u st.id r (dispatchOrSend r u st) :=
  dispatchOrSend_cases r u st (Eff.refl _ _ _)
    (fun _ _ _ => (Eff.of_local (Local.field u r _) hc).trans (eff_reset_close u st.id _ _))
    (fun _ => Eff.of_local ((Local.field u r _).then (dispatch_local u st)) hc)
    (fun _ _ => eff_sendData hg hc)

theorem closeStream_eff (hun : (r.s.strms.map (·.uid)).Nodup) (hidn : (r.s.strms.map (·.id)).Nodup) (hg : r.getStrm u = some st) :
    (∀ k ∈ KL (closeStream r u), k ∈ KL r ∧ k.1 ≠ u) ∧ (closeStream r u).s.resetByUs = r.s.resetByUs ∧
    (closeStream r u).s.closing = r.s.closing := by
  obtain ⟨e1, _, e3, _⟩ := closeStream_tb hg
  have hm : st ∈ r.s.strms := List.mem_of_find?_eq_some hg
  refine ⟨?_, e3, closeStream_closing r u⟩
  intro k hk
  simp only [KL, e1, List.mem_map] at hk
  obtain ⟨x, hx, rfl⟩ := hk
  obtain ⟨hx1, hx2⟩ := (delFirst_spec r.s.strms st hm hidn).2 x hx
  refine ⟨List.mem_map_of_mem hx1, fun hxu => ?_⟩
  have : x = st := find_uid_unique _ _ _ hun hg x hx1 hxu
  exact hx2 (by rw [this])

theorem getStrm_none_key (hg : r.getStrm u = none) : ∀ k ∈ KL r, k.1 ≠ u := by
  intro k hk hu
  simp only [KL, List.mem_map] at hk
  obtain ⟨x, hx, rfl⟩ := hk
  have := List.find?_eq_none.mp hg x hx
  simp only [key] at hu
  simp [hu] at this

theorem getStrm_of_key (hk : ∃ k ∈ KL r, k.1 = u) : ∃ st, r.getStrm u = some st := by
  cases hg : r.getStrm u with
  | some st => exact ⟨st, rfl⟩
  | none =>
    obtain ⟨k, hk, hu⟩ := hk
    exact absurd hu (getStrm_none_key hg k hk)

theorem closeIfClosed_bx {D H E : List Nat} {r3 r4 : R} {u sid : Nat} (hi4 : Inv D H E r4) (E : Eff u sid r3 r4)
    (hoth : r3.s.closing = false → ∀ k ∈ KL r3, k.1 ≠ u → GoodK r3.s.resetByUs k)
    (hfoc : r3.s.closing = false → ∀ k ∈ KL r3, k.1 = u →
      k.2.1 = sid ∧ (k.2.2 = .closed ∨ (k.2.2 ≠ .idle ∧ r3.s.resetByUs.contains sid = false)))
    (hnd : ∀ k ∈ KL r3, k.2.1 = sid → k.1 = u) : BX [] (closeIfClosed r4 u) := by
  have others := E.others hoth hnd
  obtain ⟨E1, E2, E3, E4⟩ := E
  refine closeIfClosed_cases r4 u (fun hnc => ?_) (fun st4 hg4 _ => ?_)
  · -- not closed (or not there): it is good itself
    intro hc k hk _
    by_cases hu : k.1 = u
    · obtain ⟨st4, hg4⟩ := getStrm_of_key ⟨k, hk, hu⟩
      have hc3 : r3.s.closing = false := E1 ▸ hc
      have hkey := (C1.of_nodup hi4.uidNodup u).key_of hg4 k hk hu
      have hst : k.2.2 ≠ .closed := by rw [hkey]; exact hnc st4 hg4
      obtain ⟨k0, hk0, hu0, hid0, hs0⟩ := E3 k hk hu
      obtain ⟨f1, f2⟩ := hfoc hc3 k0 hk0 hu0
      have hs0' : k.2.2 = k0.2.2 := by rcases hs0 with h | h; exact absurd h hst; exact h
      rcases f2 with f2 | ⟨f2, f3⟩
      · exact absurd (hs0'.trans f2) hst
      · refine ⟨by rw [hs0']; exact f2, hst, ?_⟩
        rw [hid0, f1]
        cases hh : r4.s.resetByUs.contains sid
        · rfl
        · rcases E4 _ hh with h | ⟨_, h⟩
          · rw [h] at f3; cases f3
          · exact absurd (h k hk hu) hst
    · exact others hc k hk hu
  · -- closed: it leaves the table
    obtain ⟨c1, c2, c3⟩ := closeStream_eff hi4.uidNodup hi4.idNodup hg4
    intro hc k hk _
    obtain ⟨hk4, hu⟩ := c1 k hk
    rw [c2]
    exact others (c3 ▸ hc) k hk4 hu

theorem handleState_ni (fr : Frame) (x : Strm) (h : x.state ≠ .idle ∨ fr.typ = Gen.c_FrameHeaders) :
    (handleState fr x).state ≠ .idle := by
  rw [handleState_after]
  exact StState.after_cases (P := (· ≠ .idle)) x.state fr (fun hn hs => h.elim (· hs) (hn hs)) (fun _ => nofun)
    (fun _ _ => by split <;> nofun) (fun _ _ => nofun)

theorem tail_bx {D H E : List Nat} (hi : Inv D H E r) (hg : r.getStrm u = some st) (fr : Frame) (wc : Bool)
    (hoth : r.s.closing = false → ∀ k ∈ KL r, k.1 ≠ u → GoodK r.s.resetByUs k)
    (hfoc : r.s.closing = false → st.state = .closed ∨
      (r.s.resetByUs.contains st.id = false ∧ (st.state = .idle → fr.typ = Gen.c_FrameHeaders))) :
    BX [] (knownTail r u fr wc) := by
  obtain ⟨hm, hu, huq, hiq⟩ := hi.the hg
  obtain ⟨k1, k2, _⟩ := handleState_keys fr st
  have hi3 : Inv D H E (r.updStrm u (handleState fr)) := upd_inv u (handleState fr) (handleState_sk fr) hi
  have hg3 : (r.updStrm u (handleState fr)).getStrm u = some (handleState fr st) :=
    getStrm_upd r u (handleState fr) st (fun x hx => by rw [(handleState_keys fr x).1]; exact hx) hg
  have E := dispatchOrSend_eff hg3 (C1.of_nodup hi3.uidNodup u)
  have hi4 := dispatchOrSend_inv u (handleState fr st) hg3 hi3
  have hx : BX [] (closeIfClosed (dispatchOrSend (r.updStrm u (handleState fr)) u (handleState fr st)) u) := by
    refine closeIfClosed_bx hi4 E ?_ ?_ ?_
    · intro hc k hk hku
      obtain ⟨x, hx, ⟨h1, rfl⟩ | ⟨h1, rfl⟩⟩ := mem_kl_upd hk
      · exact hoth hc _ (List.mem_map_of_mem hx) hku
      · exact absurd (by simp only [key, (handleState_keys fr x).1]; exact h1) hku
    · intro hc k hk hku
      obtain ⟨x, hx, ⟨h1, rfl⟩ | ⟨h1, rfl⟩⟩ := mem_kl_upd hk
      · exact absurd hku h1
      · have hxs : x = st := huq x hx h1
        subst hxs
        refine ⟨by simp only [key, k2], ?_⟩
        rcases hfoc hc with h | ⟨h1', h2'⟩
        · exact Or.inl (by simp only [key]; rw [handleState_closed fr x h]; exact h)
        · refine Or.inr ⟨?_, by rw [k2]; exact h1'⟩
          simp only [key]
          exact handleState_ni fr x (by by_cases hs : x.state = .idle; exact Or.inr (h2' hs); exact Or.inl hs)
    · intro k hk hid
      obtain ⟨x, hx, ⟨h1, rfl⟩ | ⟨h1, rfl⟩⟩ := mem_kl_upd hk
      · simp only [key, k2] at hid
        have := hiq x hx hid
        exact absurd (this ▸ hu) h1
      · simp only [key, (handleState_keys fr x).1]; exact h1
  rw [knownTail_of wc hg3]
  exact stopIf_bx _ hx

theorem tail_cl (u : Nat) (fr : Frame) (wc : Bool) (h : CL r) : CL (knownTail r u fr wc) :=
  have h3 : CL (r.updStrm u (handleState fr)) := h
  knownTail_cases r u fr wc (fun _ => h3) fun st _ b => stopIf_cl b (closeIfClosed_cl u (dispatchOrSend_cl u st h3))

theorem writeError_goAway_cl {c : Nat} {t : String} (hk : ∃ k ∈ KL r, k.1 = u) : CL (writeError r u (.goAway c t)) :=
  writeError_cases r u _ (fun hg => by obtain ⟨k, hk, hu⟩ := hk; exact absurd hu (getStrm_none_key hg k hk))
    (fun _ _ _ _ _ => rfl) (fun _ _ _ e => nomatch e)

theorem knownStream_prevUnf_cl (r : R) (u : Nat) (fr : Frame) (wc : Bool) (ht : fr.typ = Gen.c_FrameHeaders)
    (hp : prevUnf r.s.strms = true) : CL (knownStream r u fr wc) := by
  obtain ⟨n, hm, hk⟩ := knownStream_prevUnf r u fr wc ht hp
  rw [hk]
  exact writeError_goAway_cl ⟨key n, List.mem_map_of_mem hm, rfl⟩

/-- **`knownStream`**: if every other stream of the table is good and the stream the frame is for is not closed, not in
`resetByUs`, and idle only when the frame is HEADERS, then afterwards every stream of the table is good -/
theorem knownStream_bx {D H E : List Nat} (hi : Inv D H E r) (hg : r.getStrm u = some st) (fr : Frame) (hid : st.id = fr.stream) (wc : Bool)
    (hoth : r.s.closing = false → ∀ k ∈ KL r, k.1 ≠ u → GoodK r.s.resetByUs k)
    (hfoc : r.s.closing = false → r.s.resetByUs.contains st.id = false ∧ st.state ≠ .closed ∧
      (st.state = .idle → fr.typ = Gen.c_FrameHeaders)) : BX [] (knownStream r u fr wc) := by
  by_cases hc : r.s.closing = true
  · exact BX.closed (knownStream_cl u fr wc hc)
  have hc' : r.s.closing = false := by simpa using hc
  obtain ⟨hm, hu, huq, hiq⟩ := hi.the hg
  obtain ⟨f1, f2, f3⟩ := hfoc hc'
  cases hpu : (fr.typ == Gen.c_FrameHeaders && prevUnf r.s.strms)
  case true =>
    simp only [Bool.and_eq_true, beq_iff_eq] at hpu
    exact BX.closed (knownStream_prevUnf_cl r u fr wc hpu.1 hpu.2)
  have hni : ∀ x ∈ r.s.strms, x.state = .idle → ¬ x.id < fr.stream := by
    intro x hx hxi
    by_cases hxu : x.uid = u
    · rw [huq x hx hxu, hid]; exact Nat.lt_irrefl _
    · exact absurd hxi (hoth hc' (key x) (List.mem_map_of_mem hx) hxu).1
  have hc1 := C1.of_nodup hi.uidNodup u
  -- `handleFrame` leaves keys, `resetByUs` and `closing` alone
  have q := handleFrame_local u fr (r := r)
  have s1 := q.kl hc1
  have s2 := q.rb_eq rfl
  have s3 := q.closing
  have hi1 : Inv D H E (handleFrame r u fr).1 := handleFrame_inv u fr hi
  obtain ⟨st1, hg1⟩ := getStrm_of_key (r := (handleFrame r u fr).1) (u := u)
    ⟨key st, by rw [s1]; exact List.mem_map_of_mem hm, hu⟩
  have hkey1 : key st1 = key st := by
    have hm1 : key st1 ∈ KL r := by rw [← s1]; exact List.mem_map_of_mem (List.mem_of_find?_eq_some hg1)
    exact hc1.key_of hg _ hm1 (by have := List.find?_some hg1; simpa [key] using this)
  simp only [key, Prod.mk.injEq] at hkey1
  obtain ⟨_, q2, q3⟩ := hkey1
  have hoth1 : (handleFrame r u fr).1.s.closing = false → ∀ k ∈ KL (handleFrame r u fr).1, k.1 ≠ u →
      GoodK (handleFrame r u fr).1.s.resetByUs k := by rw [s1, s2, s3]; exact hoth
  rw [knownStream_of_pre u wc (prelude_pass r fr hni hpu)]
  cases he : (handleFrame r u fr).2 with
  | none =>
    simp only [onFrameError, Bool.false_eq_true, if_false]
    exact tail_bx hi1 hg1 fr wc hoth1 (fun _ => Or.inr ⟨by rw [s2, q2]; exact f1, by rw [q3]; exact f3⟩)
  | some e =>
    have hi2 : Inv D H E (onFrameError (handleFrame r u fr).1 u (some e)).1 := onFrameError_inv u _ hi1
    cases e with
    | goAway c t =>
      have hcl : CL (onFrameError (handleFrame r u fr).1 u (some (.goAway c t))).1 := by
        simp only [onFrameError, writeError_of hg1, CL, R.updStrm]; exact writeGoAway_cl _ _ _ _
      split
      · exact BX.closed hcl
      · exact BX.closed (tail_cl u fr wc hcl)
    | reset c =>
      have hg2 : ∃ st2, (onFrameError (handleFrame r u fr).1 u (some (.reset c))).1.getStrm u = some st2 ∧ st2.state = .closed := by
        simp only [onFrameError, writeError_of hg1]
        have g1 := getStrm_upd (writeReset (handleFrame r u fr).1 st1.id c) u (fun s => { s with state := StState.closed }) st1
          (fun _ h => h) (show (writeReset (handleFrame r u fr).1 st1.id c).getStrm u = some st1 from hg1)
        exact ⟨_, getStrm_upd _ u (fun s => { s with state := StState.closed }) _ (fun _ h => h) g1, rfl⟩
      obtain ⟨st2, hg2, hst2⟩ := hg2
      have hot2 : (onFrameError (handleFrame r u fr).1 u (some (.reset c))).1.s.closing = false →
          ∀ k ∈ KL (onFrameError (handleFrame r u fr).1 u (some (.reset c))).1, k.1 ≠ u →
          GoodK (onFrameError (handleFrame r u fr).1 u (some (.reset c))).1.s.resetByUs k := by
        simp only [onFrameError, writeError_of hg1]
        refine ((eff_reset_close u st1.id c (handleFrame r u fr).1).trans (eff_close u st1.id _)).others hoth1 fun k hk h => ?_
        obtain ⟨y, hy, rfl⟩ := List.mem_map.mp hk
        exact ((hi1.the hg1).2.2.2 y hy h) ▸ (hi1.the hg1).2.1
      simp only [onFrameError, Bool.false_eq_true, if_false] at hg2 hot2 hi2 ⊢
      exact tail_bx hi2 hg2 fr wc hot2 (fun _ => Or.inl hst2)

end
end H2.Server.Lock.Refine
