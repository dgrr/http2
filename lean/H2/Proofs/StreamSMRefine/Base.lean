import H2.Server.Lock.StreamSM
import H2.Proofs.ServerSlotsFull
import H2.Proofs.Frame
/-!
# C08 — the lockstep comparison of `Lock/StreamSM.lean` as theorems: vocabulary

* `RC` / `fullRC` / `absRC`: the reaction classes the adapter compares, as data, not strings
  (`fullReaction_eq`, `absReaction_eq`: the adapter's strings are the images of these under one function `RC.str`,
  so equality of classes gives equality of the strings the lockstep compares).
* `pX` / `rcOf`: the class of an output list is a function of its projection onto GOAWAY / RST_STREAM(sid) /
  dispatch(sid) records, so the `_emits` lemmas of `ServerExt.lean` carry it through the functions that only
  write WINDOW_UPDATE or DATA.
* `FrWF`: what `Frame.readFrame` guarantees about the redundant fields of a parsed frame (`readFrame_wf`).
* `frTag`: the frame type behind an abstract frame. The abstract model matches on the constructor of `Fr` where the
  full model tests `fr.typ`; `absFrame_tag` turns the one into the other, so that both can be walked as one
  decision tree (`ite_rel`).
-/
namespace H2.Server.Lock.Refine
open H2.Frame (Frame Body)
open H2.Server
open H2.Server.StreamSM (Pos Fr Ctx Reaction Code TSt Cmp Inc Blk BlockOn)

theorem ite_rel {α β : Sort _} {R : α → β → Prop} {c c' : Prop} [Decidable c] [Decidable c'] {a b : α} {a' b' : β}
    (h : c ↔ c') (ht : c → R a a') (he : ¬c → R b b') : R (if c then a else b) (if c' then a' else b') := by
  by_cases hc : c
  · rw [if_pos hc, if_pos (h.mp hc)]; exact ht hc
  · rw [if_neg hc, if_neg (fun hc' => hc (h.mpr hc'))]; exact he hc

/-! ## reaction classes -/

inductive RC where
  | conn (code : Nat) | strm (code : Nat) | dispatch | ok
deriving DecidableEq, Repr

def RC.str : RC → String
  | .conn code => s!"conn{code}"
  | .strm code => s!"stream{code}"
  | .dispatch => "dispatch"
  | .ok => "ok"

def fullRC (outs : List Out) (sid : Nat) : RC :=
  match outHasGoAway outs with
  | some code => .conn code
  | none =>
    match outRst outs sid with
    | some code => .strm code
    | none => if outDispatch outs sid then .dispatch else .ok

def absRC : Reaction → RC
  | .process | .ignore => .ok
  | .dispatch => .dispatch
  | .streamErr c => .strm c.num
  | .connErr c => .conn c.num

theorem fullReaction_eq (outs : List Out) (sid : Nat) : fullReaction outs sid = (fullRC outs sid).str := by
  unfold fullReaction fullRC
  cases outHasGoAway outs with
  | some c => rfl
  | none =>
    cases outRst outs sid with
    | some c => rfl
    | none => cases outDispatch outs sid <;> rfl

theorem absReaction_eq (r : Reaction) : absReaction r = (absRC r).str := by
  cases r <;> rfl

theorem reaction_str {r : Reaction} {outs : List Out} {sid : Nat} (h : absRC r = fullRC outs sid) :
    absReaction r = fullReaction outs sid := by
  rw [absReaction_eq, fullReaction_eq, h]

/-- the records the class of an output list depends on -/
inductive XE where
  | ga (code : Nat) | rs (code : Nat) | dp
deriving DecidableEq, Repr

def pX (sid : Nat) : Out → Option XE
  | .goAway _ c _ => some (.ga c)
  | .rst s c => if s == sid then some (.rs c) else none
  | .dispatch s _ _ _ _ _ => if s == sid then some .dp else none
  | _ => none

theorem pX_only (sid : Nat) : Only (pX sid) [.goAway, .rst, .dispatch] := by
  intro o h; cases o <;> simp_all [Out.kind, pX]

def rcOf (l : List XE) : RC :=
  match l.findSome? (fun e => match e with | .ga c => some c | _ => none) with
  | some c => .conn c
  | none =>
    match l.findSome? (fun e => match e with | .rs c => some c | _ => none) with
    | some c => .strm c
    | none => if l.any (fun e => match e with | .dp => true | _ => false) then .dispatch else .ok

theorem findSome_fm {α β : Type} (p : Out → Option α) (g : α → Option β) (f : Out → Option β)
    (h : ∀ o, f o = (p o).bind g) (l : List Out) : l.findSome? f = (fm p l).findSome? g := by
  induction l with
  | nil => rfl
  | cons o l ih =>
    simp only [List.findSome?_cons, fm, List.filterMap_cons, h o]
    cases hp : p o with
    | none => simpa [fm] using ih
    | some a =>
      simp only [Option.bind, List.findSome?_cons]
      cases g a with
      | none => simpa [fm] using ih
      | some b => rfl

theorem any_fm {α : Type} (p : Out → Option α) (g : α → Bool) (f : Out → Bool)
    (h : ∀ o, f o = match p o with | some a => g a | none => false) (l : List Out) : l.any f = (fm p l).any g := by
  induction l with
  | nil => rfl
  | cons o l ih =>
    simp only [List.any_cons, fm, List.filterMap_cons, h o]
    cases hp : p o with
    | none => simpa [fm] using ih
    | some a => simp only [List.any_cons]; rw [ih]; rfl

theorem fullRC_eq (outs : List Out) (sid : Nat) : fullRC outs sid = rcOf (fm (pX sid) outs) := by
  have e1 : outHasGoAway outs = (fm (pX sid) outs).findSome? (fun e => match e with | .ga c => some c | _ => none) := by
    unfold outHasGoAway
    apply findSome_fm
    intro o
    cases o <;> simp only [pX] <;> first | rfl | (split <;> rfl)
  have e2 : outRst outs sid = (fm (pX sid) outs).findSome? (fun e => match e with | .rs c => some c | _ => none) := by
    unfold outRst
    apply findSome_fm
    intro o
    cases o <;> simp only [pX] <;> first | rfl | (split <;> rfl)
  have e3 : outDispatch outs sid = (fm (pX sid) outs).any (fun e => match e with | .dp => true | _ => false) := by
    unfold outDispatch
    apply any_fm
    intro o
    cases o with
    | rst s c => by_cases h : s = sid <;> simp [pX, h]
    | dispatch s m p a f b => by_cases h : s = sid <;> simp [pX, h]
    | _ => rfl
  unfold fullRC rcOf
  rw [e1, e2, e3]

/-! ## parsed frames -/

/-- what the parser guarantees about the redundant fields of a frame: `typ` is the type of the body, and the flags the
body records are the bits of `flags` -/
def FrWF (fr : Frame) : Prop :=
  match fr.body with
  | .data es _ => fr.typ = Gen.c_FrameData ∧ es = Frame.hasFlag fr.flags Gen.c_FlagEndStream
  | .headers es eh _ _ => fr.typ = Gen.c_FrameHeaders ∧ es = Frame.hasFlag fr.flags Gen.c_FlagEndStream ∧
      eh = Frame.hasFlag fr.flags Gen.c_FlagEndHeaders
  | .priority _ _ => fr.typ = Gen.c_FramePriority
  | .rstStream _ => fr.typ = Gen.c_FrameResetStream
  | .settings _ => fr.typ = Gen.c_FrameSettings
  | .pushPromise _ _ _ => fr.typ = Gen.c_FramePushPromise
  | .ping _ _ => fr.typ = Gen.c_FramePing
  | .goAway _ _ _ => fr.typ = Gen.c_FrameGoAway
  | .windowUpdate _ => fr.typ = Gen.c_FrameWindowUpdate
  | .continuation eh _ => fr.typ = Gen.c_FrameContinuation ∧ eh = Frame.hasFlag fr.flags Gen.c_FlagEndHeaders

theorem deserialize_wf (typ flags stream len : Nat) (p : Bytes) (body : Body) (ht : typ ≤ Gen.c_FrameContinuation)
    (h : Frame.deserialize typ flags p = .inl body) : FrWF ⟨typ, flags, stream, len, body⟩ :=
  H2.Frame.deserialize_cases (P := fun t b => FrWF ⟨t, flags, stream, len, b⟩) h
    (fun _ => ⟨rfl, rfl⟩) (fun _ _ => ⟨rfl, rfl, rfl⟩) (fun _ _ => rfl) (fun _ => rfl) (fun _ _ => rfl) (fun _ _ => rfl) rfl
    (fun _ _ _ => rfl) (fun _ => rfl) (fun hc => ⟨Nat.le_antisymm ht hc, rfl⟩)

theorem readFrame_wf (max : Nat) (b : Bytes) (fr : Frame) (n : Nat) (h : Frame.readFrame max b = .ok fr n) : FrWF fr :=
  deserialize_wf _ _ _ _ _ _ (H2.Frame.readFrame_ok_inv h).1 (H2.Frame.readFrame_ok_inv h).2.2.2.2.2

/-! ## the abstract frame of a parsed frame -/

/-- the frame type an abstract frame stands for (`other`: SETTINGS, and GOAWAY too; `ext`: none of the ten) -/
def frTag : Fr → Nat
  | .data .. => Gen.c_FrameData
  | .headers .. => Gen.c_FrameHeaders
  | .priority _ => Gen.c_FramePriority
  | .rst => Gen.c_FrameResetStream
  | .other => Gen.c_FrameSettings
  | .pushPromise => Gen.c_FramePushPromise
  | .ping => Gen.c_FramePing
  | .wu _ => Gen.c_FrameWindowUpdate
  | .cont .. => Gen.c_FrameContinuation
  | .ext => Gen.c_FrameContinuation + 1

theorem absFrame_tag (s : Srv) (fr : Frame) (hwf : FrWF fr) :
    fr.typ ≤ Gen.c_FrameContinuation ∧
    frTag (absFrame s fr) = if fr.typ = Gen.c_FrameGoAway then Gen.c_FrameSettings else fr.typ := by
  obtain ⟨typ, flags, sid, len, body⟩ := fr
  cases body <;> simp only [FrWF] at hwf <;>
    first | subst hwf | (obtain ⟨rfl, rfl⟩ := hwf) | (obtain ⟨rfl, rfl, rfl⟩ := hwf)
  all_goals exact ⟨Nat.le_of_ble_eq_true rfl, rfl⟩

/-- a test of the abstract frame's type is the test of the frame's (SETTINGS and GOAWAY are one abstract frame) -/
theorem absFrame_tag_beq (s : Srv) (fr : Frame) (hwf : FrWF fr) (t : Nat) (h4 : t ≠ Gen.c_FrameSettings) (h7 : t ≠ Gen.c_FrameGoAway) :
    (frTag (absFrame s fr) == t) = (fr.typ == t) := by
  rw [(absFrame_tag s fr hwf).2]
  by_cases h : fr.typ = Gen.c_FrameGoAway
  · rw [if_pos h, h, (beq_eq_false_iff_ne).mpr h4.symm, (beq_eq_false_iff_ne).mpr h7.symm]
  · rw [if_neg h]

theorem isRst_tag (f : Fr) : StreamSM.isRst f = (frTag f == Gen.c_FrameResetStream) := by cases f <;> rfl
theorem isHeaders_tag (f : Fr) : StreamSM.isHeaders f = (frTag f == Gen.c_FrameHeaders) := by cases f <;> rfl

theorem isRst_abs (s : Srv) (fr : Frame) (hwf : FrWF fr) : StreamSM.isRst (absFrame s fr) = (fr.typ == Gen.c_FrameResetStream) := by
  rw [isRst_tag, absFrame_tag_beq s fr hwf _ (by decide) (by decide)]

theorem isHeaders_abs (s : Srv) (fr : Frame) (hwf : FrWF fr) :
    StreamSM.isHeaders (absFrame s fr) = (fr.typ == Gen.c_FrameHeaders) := by
  rw [isHeaders_tag, absFrame_tag_beq s fr hwf _ (by decide) (by decide)]

theorem endStream_abs (s : Srv) (fr : Frame) (hwf : FrWF fr) :
    StreamSM.endStream (absFrame s fr) =
      ((fr.typ == Gen.c_FrameData || fr.typ == Gen.c_FrameHeaders) && Frame.hasFlag fr.flags Gen.c_FlagEndStream) := by
  obtain ⟨typ, flags, sid, len, body⟩ := fr
  cases body <;> simp only [FrWF] at hwf <;>
    first | subst hwf | (obtain ⟨rfl, rfl⟩ := hwf) | (obtain ⟨rfl, rfl, rfl⟩ := hwf)
  all_goals first | rfl | exact (Bool.true_and _).symm

end H2.Server.Lock.Refine
