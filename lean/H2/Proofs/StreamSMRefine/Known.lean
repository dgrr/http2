import H2.Proofs.StreamSMRefine.Unknown
/-!
# C08 refinement — a frame on a stream that is in the table

* `TB r u sid st`: the table around the stream object `u`; kept by updates of that object (`TB.set`, `TB.upd`).
* `tail_spec`: the end of the loop body (`knownTail`: `handleState`, the dispatch condition, `closeIfClosed`) against `absTail`.
* `HFres` / `HFspec`: what the refinement needs of `handleFrame` on the stream; proved here for the frames without header
  fragment (`hf_simple`, `hf_wu`, `hf_data`).
-/
namespace H2.Server.Lock.Refine
open H2.Frame (Frame Body)
open H2.Server
open H2.Server.StreamSM (Pos Fr Ctx Reaction Code TSt Cmp Inc Blk BlockOn)

/-! ## the table around one stream object -/

/-- `st` is the stream object `u`, it is the one the stream loop finds for the id `sid`, and the table holds
each object and each id once -/
structure TB (r : R) (u sid : Nat) (st : Strm) : Prop where
  g : r.getStrm u = some st
  l : lookup r.s sid = some st
  un : (r.s.strms.map (·.uid)).Nodup
  idn : (r.s.strms.map (·.id)).Nodup

section
variable {r r' : R} {u sid : Nat} {st : Strm}

theorem TB.mem (h : TB r u sid st) : st ∈ r.s.strms := List.mem_of_find?_eq_some h.g
theorem TB.uid (h : TB r u sid st) : st.uid = u := by simpa using List.find?_some h.g
theorem TB.le (h : TB r u sid st) : sid ≤ r.s.lastID := by
  have := h.l; simp only [lookup] at this; by_cases hh : sid ≤ r.s.lastID
  · exact hh
  · simp [hh] at this
theorem TB.id (h : TB r u sid st) : st.id = sid := by
  have := h.l; simp only [lookup, h.le, if_true] at this; simpa using List.find?_some this
theorem TB.uniq (h : TB r u sid st) : ∀ x ∈ r.s.strms, x.uid = u → x = st := find_uid_unique _ _ _ h.un h.g

theorem TB.congr (h : TB r u sid st) (e1 : r'.s.strms = r.s.strms) (e2 : r'.s.lastID = r.s.lastID) : TB r' u sid st :=
  ⟨by simpa only [R.getStrm, e1] using h.g, (lookup_congr e1 e2 sid).trans h.l, by rw [e1]; exact h.un, by rw [e1]; exact h.idn⟩

theorem find_id_map (l : List Strm) (u sid : Nat) (st st' : Strm) (hu : (l.map (·.uid)).Nodup)
    (hf : l.find? (·.id == sid) = some st) (hst : st.uid = u) (hid : st'.id = sid)
    (hi : ∀ x ∈ l, x.uid = u → x = st) :
    (l.map fun x => if x.uid == u then st' else x).find? (·.id == sid) = some st' := by
  induction l with
  | nil => simp at hf
  | cons a l ih =>
    simp only [List.map_cons, List.find?_cons] at hf ⊢
    by_cases ha : a.uid = u
    · have : a = st := hi a (List.mem_cons_self ..) ha
      simp [ha, hid]
    · simp only [beq_iff_eq, ha, if_false]
      by_cases hs : a.id = sid
      · simp only [hs, beq_self_eq_true] at hf
        have : a = st := by simpa using hf
        exact absurd (this ▸ hst) ha
      · have hs' : (a.id == sid) = false := by simpa using hs
        simp only [hs'] at hf ⊢
        simp only [List.map_cons, List.nodup_cons] at hu
        simpa using ih hu.2 hf (fun x hx => hi x (List.mem_cons_of_mem _ hx))

theorem TB.set (h : TB r u sid st) (st' : Strm) (hu : st'.uid = st.uid) (hi : st'.id = st.id)
    (e1 : r'.s.strms = r.s.strms.map fun x => if x.uid == u then st' else x) (e2 : r'.s.lastID = r.s.lastID) :
    TB r' u sid st' := by
  refine ⟨?_, ?_, ?_, ?_⟩
  · have := find_map_uid r.s.strms u (fun x => if x.uid == u then st' else x)
      (by intro x; by_cases hx : x.uid = u <;> simp [hx, hu, h.uid]) st h.g
    simpa [R.getStrm, e1, h.uid] using this
  · have hl := h.l
    simp only [lookup, h.le, if_true] at hl
    simp only [lookup, e2, h.le, if_true, e1]
    exact find_id_map _ _ _ _ _ h.un hl h.uid (hi.trans h.id) h.uniq
  · rw [e1, map_const_pi (·.uid) _ _ _ (fun x hx hxu => by rw [hxu, hu, h.uid])]; exact h.un
  · rw [e1, map_const_pi (·.id) _ _ _ (fun x hx hxu => by rw [h.uniq x hx hxu, hi])]; exact h.idn

theorem upd_eq_set (h : TB r u sid st) (f : Strm → Strm) :
    (r.updStrm u f).s.strms = r.s.strms.map fun x => if x.uid == u then f st else x := by
  simp only [R.updStrm]
  apply List.map_congr_left
  intro x hx
  by_cases hxu : x.uid = u
  · simp [h.uniq x hx hxu]
  · simp [hxu]

theorem TB.upd (h : TB r u sid st) (f : Strm → Strm) (hu : (f st).uid = st.uid) (hi : (f st).id = st.id) :
    TB (r.updStrm u f) u sid (f st) :=
  h.set (f st) hu hi (upd_eq_set h f) rfl

theorem TB.pos (h : TB r u sid st) (hodd : sid % 2 = 1) : absPos r.s sid = (absT st).pos := absPos_tab hodd h.l

@[simp] theorem updStrm_cfg (r : R) (u : Nat) (f : Strm → Strm) : (r.updStrm u f).s.cfg = r.s.cfg := rfl
@[simp] theorem updStrm_lastID (r : R) (u : Nat) (f : Strm → Strm) : (r.updStrm u f).s.lastID = r.s.lastID := rfl
@[simp] theorem updStrm_lastRefused (r : R) (u : Nat) (f : Strm → Strm) : (r.updStrm u f).s.lastRefused = r.s.lastRefused := rfl
@[simp] theorem updStrm_ring (r : R) (u : Nat) (f : Strm → Strm) : (r.updStrm u f).s.ring = r.s.ring := rfl
@[simp] theorem updStrm_rbu (r : R) (u : Nat) (f : Strm → Strm) : (r.updStrm u f).s.resetByUs = r.s.resetByUs := rfl
@[simp] theorem updStrm_out (r : R) (u : Nat) (f : Strm → Strm) : (r.updStrm u f).out = r.out := rfl

theorem find_delFirst_none (l : List Strm) (sid : Nat) (hn : (l.map (·.id)).Nodup) :
    (delFirst l sid).find? (·.id == sid) = none := by
  induction l with
  | nil => rfl
  | cons a l ih =>
    simp only [List.map_cons, List.nodup_cons] at hn
    simp only [delFirst]
    by_cases ha : a.id = sid
    · simp only [ha, beq_self_eq_true, if_true]
      rw [List.find?_eq_none]
      intro x hx hxs
      exact hn.1 (List.mem_map.mpr ⟨x, hx, by rw [ha]; simpa using hxs⟩)
    · have ha' : (a.id == sid) = false := by simpa using ha
      simp only [ha', Bool.false_eq_true, if_false, List.find?_cons, ih hn.2]

theorem closeStream_tb (hg : r.getStrm u = some st) :
    (closeStream r u).s.strms = delFirst r.s.strms st.id ∧ (closeStream r u).s.ring = markClosed r.s.ring st.id ∧
    (closeStream r u).s.resetByUs = r.s.resetByUs ∧ (closeStream r u).s.lastID = r.s.lastID ∧
    (closeStream r u).s.lastRefused = r.s.lastRefused ∧ (closeStream r u).out = r.out := by
  refine closeStream_cases (P := fun x => x.s.strms = delFirst r.s.strms st.id ∧ x.s.ring = markClosed r.s.ring st.id ∧
    x.s.resetByUs = r.s.resetByUs ∧ x.s.lastID = r.s.lastID ∧ x.s.lastRefused = r.s.lastRefused ∧ x.out = r.out) r u
    (fun hn => by rw [hg] at hn; cases hn) fun st' hg' _ _ _ => ?_
  obtain rfl : st = st' := Option.some.inj (hg.symm.trans hg')
  exact ⟨rfl, rfl, rfl, rfl, rfl, rfl⟩

theorem TB.close (h : TB r u sid st) (hodd : sid % 2 = 1) :
    absPos (closeStream r u).s sid = .out (r.s.resetByUs.contains sid) true (cmpOf r.s sid) ∧
    (closeStream r u).out = r.out := by
  obtain ⟨e1, e2, e3, e4, e5, e6⟩ := closeStream_tb h.g
  refine ⟨?_, e6⟩
  have hl : lookup (closeStream r u).s sid = none := by
    simp only [lookup, e1, e4, h.le, if_true, h.id]
    exact find_delFirst_none _ _ h.idn
  rw [absPos_out hodd hl, e2, e3, h.id, markClosed_contains]
  simp only [cmpOf, e4, e5]

/-- the stream would go on sending its response -/
def resume (st : Strm) : Bool := st.responded && !st.handlerRunning && hasMoreToSend st

theorem handleState_keys (fr : Frame) (x : Strm) :
    (handleState fr x).uid = x.uid ∧ (handleState fr x).id = x.id ∧ (handleState fr x).headersFinished = x.headersFinished ∧
    (handleState fr x).responded = x.responded ∧ (handleState fr x).handlerRunning = x.handlerRunning ∧
    resume (handleState fr x) = resume x ∧ (handleState fr x).hasCL = x.hasCL ∧ (handleState fr x).recvBody = x.recvBody ∧
    (handleState fr x).contentLength = x.contentLength := by
  rw [handleState_after]
  exact ⟨rfl, rfl, rfl, rfl, rfl, rfl, rfl, rfl, rfl⟩

def dispOut (st : Strm) : Out :=
  .dispatch st.id st.method st.uri st.host
    ((match st.contentType with | some v => [(Gen.s_StringContentType, v)] | none => []) ++
      (match st.userAgent with | some v => [(Gen.s_StringUserAgent, v)] | none => []) ++ st.fields) st.body

theorem dispatch_eq (r : R) (u : Nat) (st : Strm) :
    dispatch r u st = (r.updStrm u fun s => { s with handlerRunning := true }).emit (dispOut st) := rfl

theorem closeIfClosed_of {x : R} {s2 : Strm} (hg : x.getStrm u = some s2) :
    closeIfClosed x u = if s2.state = .closed then closeStream x u else x := by
  unfold closeIfClosed
  rw [hg]
  dsimp only
  cases s2.state <;> rfl

theorem dispatchOrSend_A (r : R) (u : Nat) (st : Strm)
    (hA : (st.state == .halfClosed && st.headersFinished && !st.responded) = true)
    (hB : (st.hasCL && (st.recvBody : Int) != st.contentLength) = true) :
    dispatchOrSend r u st = (writeReset (r.updStrm u fun s => { s with responded := true }) st.id Gen.c_ProtocolError).updStrm u
      fun s => { s with state := .closed } := by
  simp only [dispatchOrSend, hA, hB, if_true]

theorem dispatchOrSend_B (r : R) (u : Nat) (st : Strm)
    (hA : (st.state == .halfClosed && st.headersFinished && !st.responded) = true)
    (hB : ¬ (st.hasCL && (st.recvBody : Int) != st.contentLength) = true) :
    dispatchOrSend r u st = ((r.updStrm u fun s => { s with responded := true }).updStrm u
      fun s => { s with handlerRunning := true }).emit (dispOut st) := by
  simp only [dispatchOrSend, hA, hB, if_true, Bool.false_eq_true, if_false, dispatch_eq]

theorem cond_abs (x : Strm) : (x.state == .halfClosed && x.headersFinished && !x.responded) =
    ((absT x).st == .halfClosed && (absT x).hf && !(absT x).responded) := by
  have e : (x.state == .halfClosed) = (absTSt x.state == .halfClosed) := by cases x.state <;> decide
  simp only [absT, e]

theorem closed_abs (x : Strm) : (x.state == .closed) = ((absT x).st == .closed) := by
  simp only [absT]; cases x.state <;> decide

theorem cmpOf_le {s : Srv} {sid : Nat} (h : sid ≤ s.lastID) : cmpOf s sid = if sid == s.lastID then .equal else .below := by
  simp only [cmpOf]; split
  · omega
  · rfl

/-- the content-length test of the dispatch condition -/
def clm (st : Strm) : Bool := st.hasCL && (st.recvBody : Int) != st.contentLength

/-- the records a reaction shows in the projection `pX` -/
def xeOf : Reaction → List XE
  | .connErr c => [.ga c.num]
  | .streamErr c => [.rs c.num]
  | .dispatch => [.dp]
  | _ => []

theorem rcOf_xeOf (x : Reaction) : rcOf (xeOf x) = absRC x := by cases x <;> rfl

/-- `StreamSM.afterLookup` behind `handleFrame` and `handleState`: the dispatch condition and `closeStream` for a stream
at `t`; `byUs`: it has been reset by this side, `cm`: the content-length verdict -/
def absTail (t : StreamSM.T) (byUs cm : Bool) (c : Ctx) : Reaction × Pos :=
  if t.st == .halfClosed && t.hf && !t.responded then
    if cm then (.streamErr .protocol, StreamSM.closedPos true c)
    else (.dispatch, StreamSM.T.pos { t with responded := true, running := true })
  else if t.st == .closed then (.process, StreamSM.closedPos byUs c)
  else (.process, t.pos)

theorem absTail_closed {t : StreamSM.T} (ht : t.st = .closed) (byUs cm : Bool) (c : Ctx) :
    absTail t byUs cm c = (.process, StreamSM.closedPos byUs c) := by
  unfold absTail
  rw [ht]
  rfl

theorem clm_handleState (fr : Frame) (x : Strm) : clm (handleState fr x) = clm x := by
  rw [handleState_after]
  rfl

theorem tail2 (h : TB r u sid st) (hodd : sid % 2 = 1) (hnr : resume st = false) (c : Ctx) (hlast : c.isLast = (sid == r.s.lastID)) :
    fm (pX sid) (closeIfClosed (dispatchOrSend r u st) u).out =
      fm (pX sid) r.out ++ xeOf (absTail (absT st) (r.s.resetByUs.contains sid) (clm st) c).1 ∧
    absPos (closeIfClosed (dispatchOrSend r u st) u).s sid = (absTail (absT st) (r.s.resetByUs.contains sid) (clm st) c).2 := by
  have hcp : ∀ b, StreamSM.closedPos b c = .out b true (cmpOf r.s sid) := by
    intro b; simp only [StreamSM.closedPos, hlast, cmpOf_le h.le]
  unfold absTail
  rw [← cond_abs, ← closed_abs, hcp, hcp]
  by_cases hA : (st.state == .halfClosed && st.headersFinished && !st.responded) = true
  · rw [if_pos hA]
    have t1 := h.upd (fun s => { s with responded := true }) rfl rfl
    by_cases hB : clm st = true
    · -- the declared content-length is not what came: RST_STREAM(PROTOCOL_ERROR), and the stream is closed
      rw [if_pos hB, dispatchOrSend_A r u st hA hB]
      have t3 := (t1.congr (r' := writeReset (r.updStrm u fun s => { s with responded := true }) st.id Gen.c_ProtocolError) rfl rfl).upd
        (fun s => { s with state := .closed }) rfl rfl
      obtain ⟨p1, p2⟩ := t3.close hodd
      rw [closeIfClosed_of t3.g, if_pos rfl, p1, p2]
      refine ⟨?_, ?_⟩
      · show fm (pX sid) (r.out ++ [.rst st.id Gen.c_ProtocolError]) = _
        rw [fm_append, fm_single, h.id]
        simp only [pX, beq_self_eq_true, if_true]; rfl
      · rw [cmpOf_upd, cmpOf_reset, cmpOf_upd, updStrm_rbu, h.id, writeReset_contains]
    · -- the request goes to the handler
      rw [if_neg hB, dispatchOrSend_B r u st hA hB]
      have t2 := ((t1.upd (fun s => { s with handlerRunning := true }) rfl rfl).congr
        (r' := ((r.updStrm u fun s => { s with responded := true }).updStrm u fun s => { s with handlerRunning := true }).emit (dispOut st))
        rfl rfl)
      simp only [Bool.and_eq_true, beq_iff_eq, Bool.not_eq_true'] at hA
      rw [closeIfClosed_of t2.g, if_neg (by rw [hA.1.1]; exact StState.noConfusion), t2.pos hodd]
      refine ⟨?_, ?_⟩
      · show fm (pX sid) (r.out ++ [dispOut st]) = _
        rw [fm_append, fm_single]
        simp only [dispOut, pX, h.id, beq_self_eq_true, if_true]; rfl
      · simp only [absT, StreamSM.T.pos, hA.1.1, hA.1.2, absTSt]
  · rw [if_neg hA]
    have hd : dispatchOrSend r u st = r := by
      simp only [resume] at hnr
      simp only [dispatchOrSend, hA, hnr, Bool.false_eq_true, if_false]
    rw [hd, closeIfClosed_of h.g]
    by_cases hC : st.state = .closed
    · obtain ⟨p1, p2⟩ := h.close hodd
      rw [if_pos hC, if_pos (beq_iff_eq.mpr hC), p1, p2]; exact ⟨(List.append_nil _).symm, rfl⟩
    · rw [if_neg hC, if_neg (fun h => hC (beq_iff_eq.mp h)), h.pos hodd]; exact ⟨(List.append_nil _).symm, rfl⟩

theorem tail_spec (h : TB r u sid st) (hodd : sid % 2 = 1) (fr : Frame) (wc : Bool) (hnr : resume st = false)
    (c : Ctx) (hlast : c.isLast = (sid == r.s.lastID)) :
    fm (pX sid) (knownTail r u fr wc).out =
      fm (pX sid) r.out ++ xeOf (absTail (absT (handleState fr st)) (r.s.resetByUs.contains sid) (clm (handleState fr st)) c).1 ∧
    absPos (knownTail r u fr wc).s sid = (absTail (absT (handleState fr st)) (r.s.resetByUs.contains sid) (clm (handleState fr st)) c).2 := by
  obtain ⟨k1, k2, k3, k4, k5, k6, k7, k8, k9⟩ := handleState_keys fr st
  have h1 : TB (r.updStrm u (handleState fr)) u sid (handleState fr st) := h.upd _ k1 k2
  have h2 := tail2 h1 hodd (by rw [k6]; exact hnr) c hlast
  have hs : ∀ x : R, (if wc && canCloseAfterGoAway x.s then stopLoop x else x).out = x.out ∧
      absPos (if wc && canCloseAfterGoAway x.s then stopLoop x else x).s sid = absPos x.s sid :=
    fun x => ite_ind (P := fun y : R => y.out = x.out ∧ absPos y.s sid = absPos x.s sid) (fun _ => ⟨rfl, rfl⟩) fun _ => ⟨rfl, rfl⟩
  rw [knownTail_of wc h1.g, (hs _).1, (hs _).2]
  exact h2

/-! ## `handleFrame` -/

def errRC : SErr → RC
  | .goAway code _ => .conn code
  | .reset code => .strm code

def errAbsRC : StreamSM.Err → RC
  | .conn c => .conn c.num
  | .strm c => .strm c.num

/-- what the refinement needs of an outcome `x` of `handleFrame` on the stream object `u` (= `st`, id `sid`), given the
verdict `a` of the abstract model and the content-length verdict `cm` of the adapter's context -/
def HFres (r : R) (u sid : Nat) (st : Strm) (cm : Bool) (x : R × Option SErr) (a : Except StreamSM.Err StreamSM.T) : Prop :=
  fm (pX sid) x.1.out = fm (pX sid) r.out ∧ x.1.s.lastID = r.s.lastID ∧ x.1.s.lastRefused = r.s.lastRefused ∧
  x.1.s.ring = r.s.ring ∧ x.1.s.resetByUs = r.s.resetByUs ∧
  ∃ st', TB x.1 u sid st' ∧ st'.state = st.state ∧ resume st' = resume st ∧
    match a with
    | .error e => x.2.map errRC = some (errAbsRC e)
    | .ok t' => x.2 = none ∧ absT st' = t' ∧ clm st' = cm

def HFspec (r : R) (u sid : Nat) (st : Strm) (fr : Frame) (f : Fr) (cm : Bool) : Prop :=
  HFres r u sid st cm (handleFrame r u fr) (StreamSM.handleFrame (absT st) f)

theorem HFres.err (h : TB r u sid st) {e : SErr} {e' : StreamSM.Err} (he : errRC e = errAbsRC e') (cm : Bool) :
    HFres r u sid st cm (r, some e) (.error e') :=
  ⟨rfl, rfl, rfl, rfl, rfl, st, h, rfl, rfl, congrArg some he⟩

theorem HFres.ok (h : TB r u sid st) : HFres r u sid st (clm st) (r, none) (.ok (absT st)) :=
  ⟨rfl, rfl, rfl, rfl, rfl, st, h, rfl, rfl, rfl, rfl, rfl⟩

theorem HFres.upd (h : TB r u sid st) (f : Strm → Strm) (hu : (f st).uid = st.uid) (hi : (f st).id = st.id)
    (hs : (f st).state = st.state) (hr : resume (f st) = resume st) {e : Option SErr} {a : Except StreamSM.Err StreamSM.T} {cm : Bool}
    (hv : match a with
      | .error e' => e.map errRC = some (errAbsRC e')
      | .ok t' => e = none ∧ absT (f st) = t' ∧ clm (f st) = cm) :
    HFres r u sid st cm (r.updStrm u f, e) a :=
  ⟨rfl, rfl, rfl, rfl, rfl, f st, h.upd f hu hi, hs, hr, hv⟩

theorem idle_abs {x : Strm} (hres : x.state ≠ .reserved) : (x.state == .idle) = ((absT x).st == .idle) := by
  unfold absT
  cases hx : x.state <;> first | exact absurd hx hres | rfl

theorem verifyState_eq (t : StreamSM.T) (f : Fr) :
    StreamSM.verifyState t f =
      match t.st with
      | .idle => if frTag f != Gen.c_FrameHeaders && frTag f != Gen.c_FramePriority then some (.conn .protocol) else none
      | .halfClosed =>
        if frTag f == Gen.c_FrameContinuation && !t.hf then none
        else if frTag f != Gen.c_FrameWindowUpdate && frTag f != Gen.c_FramePriority && frTag f != Gen.c_FrameResetStream then
          some (.conn .streamClosed)
        else none
      | _ => none := by
  obtain ⟨σ, hf, rs, rn⟩ := t
  cases σ <;> cases f <;> rfl

theorem verifyState_abs (s : Srv) (fr : Frame) (st : Strm) (hwf : FrWF fr) (hres : st.state ≠ .reserved) :
    (verifyState st fr).map errRC = (StreamSM.verifyState (absT st) (absFrame s fr)).map errAbsRC := by
  have ntag : ∀ t, t ≠ Gen.c_FrameSettings → t ≠ Gen.c_FrameGoAway → (frTag (absFrame s fr) != t) = (fr.typ != t) :=
    fun t h4 h7 => by unfold bne; rw [absFrame_tag_beq s fr hwf t h4 h7]
  rw [verifyState_eq, ntag _ (by decide) (by decide), ntag _ (by decide) (by decide), ntag _ (by decide) (by decide),
    ntag _ (by decide) (by decide), absFrame_tag_beq s fr hwf _ (by decide) (by decide)]
  unfold verifyState continuingHeaders
  show _ = Option.map errAbsRC (match absTSt st.state with | .idle => _ | .halfClosed => _ | _ => _)
  cases hst : st.state <;> first | exact absurd hst hres | skip
  all_goals dsimp only [absTSt, absT]
  · exact ite_rel (R := fun a b => Option.map errRC a = Option.map errAbsRC b) Iff.rfl (fun _ => rfl) fun _ => rfl
  · rfl
  · refine ite_rel (R := fun a b => Option.map errRC a = Option.map errAbsRC b) Iff.rfl (fun _ => rfl) fun _ => ?_
    exact ite_rel (R := fun a b => Option.map errRC a = Option.map errAbsRC b) Iff.rfl (fun _ => rfl) fun _ => rfl
  · rfl

/-- `HFres` through the `verifyState` test both `handleFrame`s begin with -/
theorem HFres.verify (h : TB r u sid st) {fr : Frame} {f : Fr} {x : R × Option SErr} {a : Except StreamSM.Err StreamSM.T} {cm : Bool}
    (hV : (verifyState st fr).map errRC = (StreamSM.verifyState (absT st) f).map errAbsRC)
    (hx : verifyState st fr = none → StreamSM.verifyState (absT st) f = none → HFres r u sid st cm x a) :
    HFres r u sid st cm (match verifyState st fr with | some e => (r, some e) | none => x)
      (match StreamSM.verifyState (absT st) f with | some e => .error e | none => a) := by
  cases hv : verifyState st fr <;> cases hv' : StreamSM.verifyState (absT st) f <;> rw [hv, hv'] at hV
  · exact hx hv hv'
  · cases hV
  · cases hV
  · exact HFres.err h (Option.some.inj hV) cm

/-- frames without header fragment and without payload accounting: RST_STREAM, PRIORITY, and the types the stream loop rejects -/
theorem hf_simple (h : TB r u sid st) (fr : Frame) (hwf : FrWF fr) (hres : st.state ≠ .reserved) (hs : fr.stream = sid)
    (hb : (∃ c, fr.body = .rstStream c) ∨ (∃ d w, fr.body = .priority d w) ∨ (∃ a, fr.body = .settings a) ∨
      (∃ a b c, fr.body = .goAway a b c) ∨ (∃ a b, fr.body = .ping a b) ∨ (∃ a b c, fr.body = .pushPromise a b c))
    (cm : Bool) (hcm : cm = clm st) : HFspec r u sid st fr (absFrame r.s fr) cm := by
  unfold HFspec
  rw [handleFrame_eq, h.g]
  unfold StreamSM.handleFrame
  refine HFres.verify h (verifyState_abs r.s fr st hwf hres) fun _ _ => ?_
  obtain ⟨typ, flags, sid', len, body⟩ := fr
  simp only at hb hs; subst hs; subst hcm
  rcases hb with ⟨c, rfl⟩ | ⟨d, w, rfl⟩ | ⟨a, rfl⟩ | ⟨a, b, c, rfl⟩ | ⟨a, b, rfl⟩ | ⟨a, b, c, rfl⟩ <;>
    (simp only [FrWF] at hwf; subst hwf)
  · show HFres r u sid' st _
      (if st.state == .idle then (r, some (.goAway Gen.c_ProtocolError "RST_STREAM on idle stream")) else (r, none)) _
    exact ite_rel (by rw [idle_abs hres]) (fun _ => HFres.err h rfl _) fun _ => HFres.ok h
  · show HFres r u sid' st _
      (if st.state != .idle && !st.headersFinished then (r, some (.goAway Gen.c_ProtocolError "frame priority on an open stream"))
       else if d == st.id then (r, some (.goAway Gen.c_ProtocolError "stream that depends on itself")) else (r, none)) _
    refine ite_rel (by unfold bne; rw [idle_abs hres]; exact Iff.rfl) (fun _ => HFres.err h rfl _) fun _ => ?_
    exact ite_rel (by rw [h.id]) (fun _ => HFres.err h rfl _) fun _ => HFres.ok h
  all_goals exact HFres.err h (e := .goAway Gen.c_ProtocolError "invalid frame") rfl _

theorem hf_wu (h : TB r u sid st) (fr : Frame) (hwf : FrWF fr) (hres : st.state ≠ .reserved) (hs : fr.stream = sid)
    (inc : Nat) (hb : fr.body = .windowUpdate inc) (cm : Bool) (hcm : cm = clm st) :
    HFspec r u sid st fr (absFrame r.s fr) cm := by
  unfold HFspec
  rw [handleFrame_eq, h.g]
  unfold StreamSM.handleFrame
  refine HFres.verify h (verifyState_abs r.s fr st hwf hres) fun hv hv' => ?_
  obtain ⟨typ, flags, sid', len, body⟩ := fr
  simp only at hb hs; subst hs; subst hb
  simp only [FrWF] at hwf; subst hwf
  show HFres r u sid' st cm (hfWU r u st ⟨Gen.c_FrameWindowUpdate, flags, sid', len, .windowUpdate inc⟩) _
  simp only [absFrame, h.l, Option.map_some, Option.getD_some]
  unfold hfWU
  refine ite_rel (by rw [idle_abs hres]) (fun _ => HFres.err h rfl cm) fun _ => ?_
  rw [show wuOf ⟨Gen.c_FrameWindowUpdate, flags, sid', len, .windowUpdate inc⟩ = inc from rfl]
  dsimp only
  by_cases h0 : (inc == 0) = true
  · rw [if_pos h0, if_pos h0]; exact HFres.err h rfl cm
  rw [if_neg h0, if_neg h0]
  by_cases h1 : st.window + (inc : Int) > 2 ^ 31 - 1
  · rw [if_pos h1, if_neg (by omega), if_neg (by rw [beq_iff_eq]; omega)]
    exact HFres.upd h _ rfl rfl rfl rfl rfl
  rw [if_neg h1]
  by_cases h2 : st.window + (inc : Int) < 2 ^ 31 - 1
  · rw [if_pos h2]
    exact HFres.upd h _ rfl rfl rfl rfl ⟨rfl, rfl, hcm.symm⟩
  · rw [if_neg h2, if_pos (by rw [beq_iff_eq]; omega)]
    exact HFres.upd h _ rfl rfl rfl rfl ⟨rfl, rfl, hcm.symm⟩

theorem crw_keeps (r : R) (x : Strm) (fr : Frame) (n : Nat) :
    (consumeRecvWindow r x fr n).s.strms = r.s.strms ∧ (consumeRecvWindow r x fr n).s.lastID = r.s.lastID ∧
    (consumeRecvWindow r x fr n).s.lastRefused = r.s.lastRefused ∧ (consumeRecvWindow r x fr n).s.ring = r.s.ring ∧
    (consumeRecvWindow r x fr n).s.resetByUs = r.s.resetByUs :=
  consumeRecvWindow_cases (P := fun y => y.s.strms = r.s.strms ∧ y.s.lastID = r.s.lastID ∧ y.s.lastRefused = r.s.lastRefused ∧
    y.s.ring = r.s.ring ∧ y.s.resetByUs = r.s.resetByUs) r x fr n ⟨rfl, rfl, rfl, rfl, rfl⟩ (ccw_keeps r n) (ccw_keeps _ n)

@[simp] theorem consumeRecvWindow_pX (sid : Nat) (r : R) (x : Strm) (fr : Frame) (n : Nat) :
    fm (pX sid) (consumeRecvWindow r x fr n).out = fm (pX sid) r.out :=
  (consumeRecvWindow_emits r x fr n).fm (pX_only sid)

theorem rank_abs {x : Strm} (hres : x.state ≠ .reserved) :
    decide (x.state.rank ≥ StState.halfClosed.rank) = StreamSM.closedRank (absT x) := by
  unfold absT
  cases hx : x.state <;> first | exact absurd hx hres | rfl

theorem hf_data (h : TB r u sid st) (fr : Frame) (hwf : FrWF fr) (hres : st.state ≠ .reserved) (hs : fr.stream = sid)
    (es : Bool) (b : Bytes) (hb : fr.body = .data es b) (cm : Bool)
    (hcm : cm = clm { st with recvBody := st.recvBody + b.length }) :
    HFspec r u sid st fr (absFrame r.s fr) cm := by
  unfold HFspec
  rw [handleFrame_eq, h.g]
  unfold StreamSM.handleFrame
  refine HFres.verify h (verifyState_abs r.s fr st hwf hres) fun _ _ => ?_
  obtain ⟨typ, flags, sid', len, body⟩ := fr
  simp only at hb hs; subst hs; subst hb; subst hcm
  simp only [FrWF] at hwf; obtain ⟨rfl, rfl⟩ := hwf
  show HFres r u sid' st _ (hfData r u st ⟨Gen.c_FrameData, flags, sid', len, .data (Frame.hasFlag flags Gen.c_FlagEndStream) b⟩) _
  simp only [absFrame, h.l]
  unfold hfData
  refine ite_rel Iff.rfl (fun _ => HFres.err h rfl _) fun _ => ?_
  refine ite_rel (by rw [← rank_abs hres, decide_eq_true_iff]) (fun _ => HFres.err h rfl _) fun _ => ?_
  refine ite_rel Iff.rfl (fun _ => ?_) fun _ => ?_
  · obtain ⟨e1, e2, e3, e4, e5⟩ := ccw_keeps (r.updStrm u fun _ => { st with recvBody := st.recvBody + b.length }) len
    exact ⟨consumeConnWindow_pX _ _ _, e2, e3, e4, e5, _, (h.upd _ rfl rfl).congr e1 e2, rfl, rfl, rfl⟩
  · obtain ⟨e1, e2, e3, e4, e5⟩ := crw_keeps ((r.updStrm u fun _ => { st with recvBody := st.recvBody + b.length }).updStrm u
      fun s => { s with body := s.body.add b }) { st with recvBody := st.recvBody + b.length }
      ⟨Gen.c_FrameData, flags, sid', len, .data (Frame.hasFlag flags Gen.c_FlagEndStream) b⟩ len
    exact ⟨consumeRecvWindow_pX _ _ _ _ _, e2, e3, e4, e5, _, ((h.upd _ rfl rfl).upd _ rfl rfl).congr e1 e2, rfl, rfl, rfl, rfl, rfl⟩

theorem clMismatch_plain {s : Srv} {sid : Nat} {st : Strm} (hl : lookup s sid = some st) (hcl : 0 ≤ st.contentLength)
    (fr : Frame) (hp : headerPart fr = none) :
    (absCtx s sid (some fr)).clMismatch =
      clm { st with recvBody := st.recvBody + (match fr.body with | .data _ b => b.length | _ => 0) } := by
  have hm : ∀ n : Nat, (st.contentLength.toNat != n) = (((n : Nat) : Int) != st.contentLength) := by
    intro n; rw [Bool.eq_iff_iff]; simp only [bne_iff_ne, ne_eq]; omega
  simp only [absCtx, hl, walkFrame, hp, Option.map_some, Option.getD_some, msgSt, clm, hm]
  rfl

end
end H2.Server.Lock.Refine
