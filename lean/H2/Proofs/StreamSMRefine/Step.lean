import H2.Proofs.StreamSMRefine.Hdr2
/-!
# C08 refinement — one frame through the stream loop (`slStreamFrame`), every frame type, with the adapter's own context
-/
namespace H2.Server.Lock.Refine
open H2.Frame (Frame Body)
open H2.Server
open H2.Server.StreamSM (Pos Fr Ctx Reaction Code TSt Cmp Inc Blk BlockOn)

theorem hf_all {r : R} {u sid : Nat} {st : Strm} (h : TB r u sid st) (fr : Frame) (hwf : FrWF fr) (hres : st.state ≠ .reserved)
    (hs : fr.stream = sid) (hcl : 0 ≤ st.contentLength) :
    HFspec r u sid st fr (absFrame r.s fr) (absCtx r.s sid (some fr)).clMismatch := by
  obtain ⟨typ, flags, sid', len, body⟩ := fr
  simp only at hs; subst hs
  have hplain := clMismatch_plain h.l hcl ⟨typ, flags, sid', len, body⟩
  cases body with
  | data es b => exact hf_data h _ hwf hres rfl es b rfl _ (hplain rfl)
  | headers es eh prio frag => exact hf_headers h _ hwf hres rfl hcl es eh prio frag rfl _ (by simp [absCtx, h.l])
  | priority d w => exact hf_simple h _ hwf hres rfl (Or.inr (Or.inl ⟨d, w, rfl⟩)) _ (hplain rfl)
  | rstStream c => exact hf_simple h _ hwf hres rfl (Or.inl ⟨c, rfl⟩) _ (hplain rfl)
  | settings a => exact hf_simple h _ hwf hres rfl (Or.inr (Or.inr (Or.inl ⟨a, rfl⟩))) _ (hplain rfl)
  | pushPromise a b c => exact hf_simple h _ hwf hres rfl (Or.inr (Or.inr (Or.inr (Or.inr (Or.inr ⟨a, b, c, rfl⟩))))) _ (hplain rfl)
  | ping a b => exact hf_simple h _ hwf hres rfl (Or.inr (Or.inr (Or.inr (Or.inr (Or.inl ⟨a, b, rfl⟩))))) _ (hplain rfl)
  | goAway a b c => exact hf_simple h _ hwf hres rfl (Or.inr (Or.inr (Or.inr (Or.inl ⟨a, b, c, rfl⟩)))) _ (hplain rfl)
  | windowUpdate i => exact hf_wu h _ hwf hres rfl i rfl _ (hplain rfl)
  | continuation eh frag => exact hf_cont h _ hwf hres rfl hcl eh frag rfl _ (by simp [absCtx, h.l])

/-! ## the previous-block check and the idle-stream sweep of `headersPrelude` -/

/-- the previous-block test of the adapter's context -/
def prevUnf (l : List Strm) : Bool := match getPrevious l with | some n => !n.headersFinished | none => false

theorem prelude_pass (r : R) (fr : Frame) (hni : ∀ x ∈ r.s.strms, x.state = .idle → ¬ x.id < fr.stream)
    (hpu : (fr.typ == Gen.c_FrameHeaders && prevUnf r.s.strms) = false) : headersPrelude r fr = (r, true) :=
  headersPrelude_pass r fr (fun ht n hn => by simpa [prevUnf, ht, hn] using hpu) fun _ x hx hc => hni x hx hc.2.1 hc.1

/-- HEADERS while the newest-but-one stream's header block is unfinished: the loop body writes the error on that stream and
nothing else -/
theorem knownStream_prevUnf (r : R) (u : Nat) (fr : Frame) (wc : Bool) (ht : fr.typ = Gen.c_FrameHeaders)
    (hpu : prevUnf r.s.strms = true) :
    ∃ n ∈ r.s.strms, knownStream r u fr wc = writeError r n.uid (.goAway Gen.c_ProtocolError "previous stream headers not ended") := by
  unfold prevUnf at hpu
  cases hn : getPrevious r.s.strms with
  | none => rw [hn] at hpu; cases hpu
  | some n =>
    rw [hn] at hpu
    have hf : n.headersFinished = false := by simpa using hpu
    exact ⟨n, (getPrevious_mem hn).1, by simp [knownStream, headersPrelude, ht, hn, hf]⟩

theorem prelude_fail (r : R) (u : Nat) (fr : Frame) (wc : Bool) (sid : Nat) (ht : fr.typ = Gen.c_FrameHeaders)
    (hpu : prevUnf r.s.strms = true) (hout : fm (pX sid) r.out = []) :
    rcOf (fm (pX sid) (knownStream r u fr wc).out) = .conn Gen.c_ProtocolError := by
  obtain ⟨n, hm, hk⟩ := knownStream_prevUnf r u fr wc ht hpu
  rw [hk]
  cases hg : r.getStrm n.uid with
  | none =>
    have := List.find?_eq_none.mp hg n hm
    simp at this
  | some st2 =>
    rw [writeError_of hg]
    simp [pX, hout]

theorem known_all {r : R} {u sid : Nat} {st : Strm} (h : TB r u sid st) (fr : Frame) (wc : Bool)
    (hwf : FrWF fr) (hs : fr.stream = sid) (hodd : sid % 2 = 1) (hres : st.state ≠ .reserved) (hcl : 0 ≤ st.contentLength)
    (hout : fm (pX sid) r.out = []) (hnr : resume st = false) (hnb : r.s.resetByUs.contains sid = false)
    (hni : ∀ x ∈ r.s.strms, x.state = .idle → ¬ x.id < fr.stream)
    (c : Ctx) (hc1 : c.prevUnfinished = (fr.typ == Gen.c_FrameHeaders && prevUnf r.s.strms))
    (hc2 : c.isLast = (sid == r.s.lastID)) (hc3 : c.clMismatch = (absCtx r.s sid (some fr)).clMismatch) :
    rcOf (fm (pX sid) (knownStream r u fr wc).out) = absRC (StreamSM.afterLookup (absT st) (absFrame r.s fr) c).1 ∧
    (isConn (StreamSM.afterLookup (absT st) (absFrame r.s fr) c).1 = false →
      absPos (knownStream r u fr wc).s sid = (StreamSM.afterLookup (absT st) (absFrame r.s fr) c).2) := by
  by_cases hpu : (fr.typ == Gen.c_FrameHeaders && prevUnf r.s.strms) = true
  · have hA : StreamSM.afterLookup (absT st) (absFrame r.s fr) c = (.connErr .protocol, (absT st).pos) := by
      have hpu2 := hpu
      simp only [Bool.and_eq_true] at hpu2
      simp only [StreamSM.afterLookup, isHeaders_abs r.s fr hwf, hc1, hpu2.1, hpu2.2, Bool.and_self, if_true]
    simp only [Bool.and_eq_true, beq_iff_eq] at hpu
    rw [hA, prelude_fail r u fr wc sid hpu.1 hpu.2 hout]
    exact ⟨rfl, fun hh => by simp [isConn] at hh⟩
  · have hpu' : (fr.typ == Gen.c_FrameHeaders && prevUnf r.s.strms) = false := by simpa using hpu
    exact known_refines fr wc hwf hodd hres hout hnr hnb (prelude_pass r fr hni hpu') c
      (by rw [isHeaders_abs r.s fr hwf, hc1, hpu']; simp) hc2 (hc3 ▸ hf_all h fr hwf hres hs hcl)

/-! ## the state between frames, and HEADERS opening a stream -/

/-- what the step theorem needs of the state in which the frame arrives (all of it holds in every reachable state in
which no GOAWAY has been written: `reachable_sinv'`) -/
structure SInv (s : Srv) : Prop where
  un : (s.strms.map (·.uid)).Nodup
  idn : (s.strms.map (·.id)).Nodup
  ult : ∀ st ∈ s.strms, st.uid < s.nextUid
  ile : ∀ st ∈ s.strms, st.id ≤ s.lastID
  live : ∀ st ∈ s.strms, st.state = .open ∨ st.state = .halfClosed
  cl : ∀ st ∈ s.strms, 0 ≤ st.contentLength
  nrb : ∀ st ∈ s.strms, s.resetByUs.contains st.id = false

/-- the stream object `unknownStream` creates -/
def newStrm (r : R) (fr : Frame) : Strm := { uid := r.s.nextUid, id := fr.stream, window := r.s.curInitWin, origType := fr.typ }

theorem withNew_TB (r : R) (fr : Frame) (hI : SInv r.s) (hgt : fr.stream > r.s.lastID) :
    TB (withNew r fr) r.s.nextUid fr.stream (newStrm r fr) := by
  have hnu : ∀ x ∈ r.s.strms, ¬ x.uid = r.s.nextUid := fun x hx e => by have := hI.ult x hx; omega
  have hni : ∀ x ∈ r.s.strms, ¬ x.id = fr.stream := fun x hx e => by have := hI.ile x hx; omega
  refine ⟨?_, ?_, ?_, ?_⟩
  · simp only [R.getStrm, withNew, List.find?_append]
    rw [List.find?_eq_none.mpr (by intro x hx; simpa using hnu x hx)]
    simp [newStrm]
  · simp only [lookup, withNew, Nat.le_refl, if_true, List.find?_append]
    rw [List.find?_eq_none.mpr (by intro x hx; simpa using hni x hx)]
    simp [newStrm]
  · simp only [withNew, List.map_append, List.map_cons, List.map_nil]
    refine List.nodup_append.mpr ⟨hI.un, by simp, ?_⟩
    intro a ha b hb
    simp only [List.mem_singleton] at hb
    obtain ⟨x, hx, rfl⟩ := List.mem_map.mp ha
    rw [hb]; exact hnu x hx
  · simp only [withNew, List.map_append, List.map_cons, List.map_nil]
    refine List.nodup_append.mpr ⟨hI.idn, by simp, ?_⟩
    intro a ha b hb
    simp only [List.mem_singleton] at hb
    obtain ⟨x, hx, rfl⟩ := List.mem_map.mp ha
    rw [hb]; exact hni x hx

theorem prevUnf_last (l : List Strm) (a b : Strm) (h : a.origType = b.origType) : prevUnf (l ++ [a]) = prevUnf (l ++ [b]) := by
  simp only [prevUnf, getPrevious, List.reverse_append, List.reverse_cons, List.reverse_nil, List.nil_append,
    List.singleton_append, List.filter_cons, h]
  cases (b.origType == Gen.c_FrameHeaders)
  · rfl
  · simp only [if_true]
    cases List.filter (fun st => st.origType == Gen.c_FrameHeaders) l.reverse <;> rfl

theorem walkFrame_withNew (r : R) (fr : Frame) :
    walkFrame (withNew r fr).s (some (newStrm r fr)) fr = walkFrame r.s none fr := by
  simp only [walkFrame]
  cases headerPart fr with
  | none => rfl
  | some x => rfl

theorem slStreamFrame_created {r : R} {fr : Frame} (hl : lookup r.s fr.stream = none) (uid : Nat)
    (hu : (unknownStream r fr r.s.closing).2 = some uid) :
    slStreamFrame r fr = knownStream (unknownStream r fr r.s.closing).1 uid fr r.s.closing := by
  have : (if fr.stream ≤ r.s.lastID then r.s.strms.find? (·.id == fr.stream) else none) = none := hl
  simp only [slStreamFrame, this, hu]

/-- **Step refinement at the stream loop, every frame type.** In a state with `SInv`, for a parsed frame with an odd
stream id whose stream (if in the table) has no response data waiting to go out: what the adapter's `checkFrame` compares
is equal — the reaction strings, and (unless the reaction is a connection error) the abstract next place and `absPos` of
the state after. `reactSL` is `StreamSM.react` behind the read loop's checks (`react_eq`). -/
theorem sl_refines (r : R) (fr : Frame) (hI : SInv r.s) (hwf : FrWF fr) (hodd : fr.stream % 2 = 1) (hout : r.out = [])
    (hnr : ∀ st, lookup r.s fr.stream = some st → resume st = false) :
    absReaction (reactSL (absPos r.s fr.stream) (absFrame r.s fr) (absCtx r.s fr.stream (some fr))).1 =
      fullReaction (slStreamFrame r fr).out fr.stream ∧
    (isConn (reactSL (absPos r.s fr.stream) (absFrame r.s fr) (absCtx r.s fr.stream (some fr))).1 = false →
      absPos (slStreamFrame r fr).s fr.stream =
        (reactSL (absPos r.s fr.stream) (absFrame r.s fr) (absCtx r.s fr.stream (some fr))).2) := by
  have hout' : fm (pX fr.stream) r.out = [] := by rw [hout]; rfl
  cases hl : lookup r.s fr.stream with
  | some st =>
    have tb := TB.of_lookup hl hI.un hI.idn
    have hm := tb.mem
    have hk := known_all tb fr r.s.closing hwf rfl hodd
      (by rcases hI.live st hm with h | h <;> rw [h] <;> decide) (hI.cl st hm) hout' (hnr st hl)
      (by have := hI.nrb st hm; rwa [tb.id] at this)
      (fun x hx hi => by rcases hI.live x hx with h | h <;> rw [h] at hi <;> cases hi)
      (absCtx r.s fr.stream (some fr)) (by simp only [absCtx, hl, prevUnf]; cases getPrevious r.s.strms <;> rfl) rfl rfl
    rw [slStreamFrame_known hl, tb.pos hodd]
    exact ⟨reaction_str (by rw [fullRC_eq]; exact hk.1.symm), hk.2⟩
  | none =>
    rw [absPos_out hodd hl]
    rcases unknown_refines r fr r.s.closing hwf hl hodd hout' (absCtx r.s fr.stream (some fr))
      (absCtx_refuse r.s fr.stream (some fr)) with ⟨h1, h2, h3⟩ | ⟨h1, h2, h3, h4, h5, h6, h7⟩
    · rw [slStreamFrame_unknown hl h1]
      exact ⟨reaction_str (by rw [fullRC_eq]; exact h2.symm), h3⟩
    · have hgt : fr.stream > r.s.lastID := by
        have := cmpOf_gt r.s fr.stream
        rw [h6] at this
        exact of_decide_eq_true this.symm
      have tb := withNew_TB r fr hI hgt
      have hAF : absFrame (withNew r fr).s fr = absFrame r.s fr := by
        obtain ⟨typ, flags, sid, len, body⟩ := fr
        simp only at h3; subst h3
        cases body <;> simp only [FrWF] at hwf <;> first | (exact absurd hwf (by decide)) | (exact absurd hwf.1 (by decide)) | skip
        simp only [absFrame, tb.l, hl, newStrm]
        congr 2
        all_goals first | rfl | exact walkFrame_withNew r _
      have hk := known_all tb fr r.s.closing hwf rfl hodd (by simp [newStrm]) (by simp [newStrm]) hout'
        (by simp [newStrm, resume]) h4
        (by
          intro x hx hi
          simp only [withNew, List.mem_append, List.mem_singleton] at hx
          rcases hx with hx | rfl
          · rcases hI.live x hx with h | h <;> rw [h] at hi <;> cases hi
          · simp)
        { absCtx r.s fr.stream (some fr) with isLast := true }
        (by
          simp only [absCtx, hl, withNew, h3, beq_self_eq_true, Bool.true_and]
          exact prevUnf_last _ _ _ (by simp))
        (by simp [withNew])
        (by
          have hw := walkFrame_withNew r fr
          simp only [newStrm] at hw
          simp only [absCtx, tb.l, hl, newStrm, hw]
          simp)
      rw [hAF] at hk
      simp only [reactSL]
      rw [slStreamFrame_created hl _ h1, h2, h7]
      exact ⟨reaction_str (by rw [fullRC_eq]; exact hk.1.symm), hk.2⟩

end H2.Server.Lock.Refine
