import H2.Proofs.StreamSMRefine.Run3
/-!
# C08 refinement — bystanders: a frame on stream `a` moves the place of another id `b` only as the environment events of
`StreamSM` do (`newer`, `higherRefused`, `evictRing`, `forgetReset`)

`FE a u r r'`: what a frame on stream `a` (stream object `u`) may do to the tables, seen from the other ids. `Local` steps on
the object `u` are of that kind (`Local.fe`); so are marking it closed, an RST_STREAM on `a`, a GOAWAY, and taking it out of
the table.
-/
namespace H2.Server.Lock.Refine
open H2.Frame (Frame Body)
open H2.Server
open H2.Server.StreamSM (Pos Cmp)

/-- the effect on the tables of handling a frame for stream `a` / object `u`, as far as other ids can see it -/
structure FE (a u : Nat) (r r' : R) : Prop where
  sub : ∀ x ∈ r'.s.strms, x.uid ≠ u → x ∈ r.s.strms
  sup : ∀ x ∈ r.s.strms, x.uid ≠ u → x ∈ r'.s.strms
  fid : (∀ x ∈ r.s.strms, x.uid = u → x.id = a) → ∀ x ∈ r'.s.strms, x.uid = u → x.id = a
  rb : ∀ y, y ≠ a → r'.s.resetByUs.contains y = true → r.s.resetByUs.contains y = true
  ring : ∀ y, y ≠ a → r'.s.ring.contains y = true → r.s.ring.contains y = true
  last : r'.s.lastID = r.s.lastID ∨ (r'.s.lastID = a ∧ r.s.lastID < a)
  refd : r'.s.lastRefused = r.s.lastRefused ∨ (r'.s.lastRefused = a ∧ r.s.lastRefused < a)

section
variable {a u : Nat} {r r' r'' : R}

theorem FE.refl (a u : Nat) (r : R) : FE a u r r :=
  ⟨fun _ h _ => h, fun _ h _ => h, fun h => h, fun _ _ h => h, fun _ _ h => h, Or.inl rfl, Or.inl rfl⟩

theorem FE.trans (h1 : FE a u r r') (h2 : FE a u r' r'') : FE a u r r'' := by
  refine ⟨fun x hx hu => h1.sub x (h2.sub x hx hu) hu, fun x hx hu => h2.sup x (h1.sup x hx hu) hu,
    fun h => h2.fid (h1.fid h), fun y hy h => h1.rb y hy (h2.rb y hy h), fun y hy h => h1.ring y hy (h2.ring y hy h), ?_, ?_⟩
  · rcases h1.last with e1 | ⟨e1, l1⟩ <;> rcases h2.last with e2 | ⟨e2, l2⟩
    · exact Or.inl (e2.trans e1)
    · exact Or.inr ⟨e2, by rw [← e1]; exact l2⟩
    · exact Or.inr ⟨e2.trans e1, l1⟩
    · exact Or.inr ⟨e2, l1⟩
  · rcases h1.refd with e1 | ⟨e1, l1⟩ <;> rcases h2.refd with e2 | ⟨e2, l2⟩
    · exact Or.inl (e2.trans e1)
    · exact Or.inr ⟨e2, by rw [← e1]; exact l2⟩
    · exact Or.inr ⟨e2.trans e1, l1⟩
    · exact Or.inr ⟨e2, l1⟩

theorem FE.of_eq (e1 : r'.s.strms = r.s.strms) (e2 : r'.s.resetByUs = r.s.resetByUs) (e3 : r'.s.ring = r.s.ring)
    (e4 : r'.s.lastID = r.s.lastID) (e5 : r'.s.lastRefused = r.s.lastRefused) : FE a u r r' :=
  ⟨fun _ h _ => e1 ▸ h, fun _ h _ => e1 ▸ h, fun h x hx => h x (e1 ▸ hx), fun _ _ h => e2 ▸ h, fun _ _ h => e3 ▸ h,
    Or.inl e4, Or.inl e5⟩

theorem fe_upd (r : R) (f : Strm → Strm) (hf : ∀ x, x.uid = u → (f x).uid = u ∧ (x.id = a → (f x).id = a)) :
    FE a u r (r.updStrm u f) := by
  refine ⟨fun x' hx' hu' => ?_, fun x hx hu => mem_updStrm_of_ne hx hu, fun h x' hx' hu' => ?_,
    fun _ _ h => h, fun _ _ h => h, Or.inl rfl, Or.inl rfl⟩
  · obtain ⟨x, hx, ⟨_, e⟩ | ⟨hxu, e⟩⟩ := mem_updStrm hx'
    · exact e ▸ hx
    · exact absurd (e ▸ (hf x hxu).1) hu'
  · obtain ⟨x, hx, ⟨_, e⟩ | ⟨hxu, e⟩⟩ := mem_updStrm hx'
    · exact e ▸ h x hx (e ▸ hu')
    · exact e ▸ (hf x hxu).2 (h x hx hxu)

theorem fe_writeReset (r : R) (code : Nat) : FE a u r (writeReset r a code) :=
  ⟨fun _ h _ => h, fun _ h _ => h, fun h => h,
    fun y hy h => by rcases writeReset_rb r a code y h with h | h; exact h; exact absurd h hy,
    fun _ _ h => h, Or.inl rfl, Or.inl rfl⟩

theorem fe_writeReset' (r : R) (sid code : Nat) (hs : sid = a) : FE a u r (writeReset r sid code) := by
  subst hs; exact fe_writeReset r code

theorem fe_writeGoAway (r : R) (sid code : Nat) (tag : String) : FE a u r (writeGoAway r sid code tag) := by
  apply FE.of_eq <;> rw [writeGoAway_eq]

theorem mem_delFirst_of_ne (l : List Strm) (id : Nat) (x : Strm) (hx : x ∈ l) (hne : x.id ≠ id) : x ∈ delFirst l id := by
  induction l with
  | nil => cases hx
  | cons b l ih =>
    simp only [delFirst]
    by_cases hb : b.id = id
    · simp only [hb, beq_self_eq_true, if_true]
      rcases List.mem_cons.mp hx with rfl | h
      · exact absurd hb hne
      · exact h
    · have : (b.id == id) = false := by simpa using hb
      simp only [this, Bool.false_eq_true, if_false]
      rcases List.mem_cons.mp hx with rfl | h
      · exact List.mem_cons_self ..
      · exact List.mem_cons_of_mem _ (ih h)

theorem markClosed_sub (ring : List Nat) (id y : Nat) (hy : y ≠ id) (h : (markClosed ring id).contains y = true) :
    ring.contains y = true := by
  simp only [markClosed] at h
  split at h
  · exact h
  · split at h
    · simp only [List.contains_eq_mem, List.mem_append, List.mem_singleton, decide_eq_true_eq] at h ⊢
      rcases h with h | h
      · exact h
      · exact absurd h hy
    · simp only [List.contains_eq_mem, List.mem_append, List.mem_singleton, decide_eq_true_eq] at h ⊢
      rcases h with h | h
      · exact List.mem_of_mem_drop h
      · exact absurd h hy

theorem fe_closeStream {st : Strm} (hidn : (r.s.strms.map (·.id)).Nodup)
    (hg : r.getStrm u = some st) (hid : st.id = a) : FE a u r (closeStream r u) := by
  obtain ⟨e1, e2, e3, e4, e5, _⟩ := closeStream_tb hg
  have hm : st ∈ r.s.strms := List.mem_of_find?_eq_some hg
  have hu : st.uid = u := by simpa using List.find?_some hg
  refine ⟨?_, ?_, ?_, fun _ _ h => e3 ▸ h, ?_, Or.inl e4, Or.inl e5⟩
  · intro x hx _; rw [e1] at hx; exact (delFirst_sublist _ _).subset hx
  · intro x hx hxu
    rw [e1]
    refine mem_delFirst_of_ne _ _ x hx (fun he => hxu ?_)
    rw [nodup_map_inj (·.id) _ hidn x st hx hm he]; exact hu
  · intro h x hx hxu; rw [e1] at hx; exact h x ((delFirst_sublist _ _).subset hx) hxu
  · intro y hy h; rw [e2, hid] at h; exact markClosed_sub _ _ _ hy h

theorem Local.fe {g : Bool} (q : Local u g r r') : (∀ x ∈ r.s.strms, x.uid = u → x.id = a) → FE a u r r' := by
  induction q with
  | refl => exact fun _ => FE.refl _ _ _
  | trans _ _ ih₁ ih₂ => exact fun h => (ih₁ h).trans (ih₂ ((ih₁ h).fid h))
  | weak _ _ ih => exact ih
  | inert e1 e2 _ e4 e5 e6 => exact fun _ => FE.of_eq e1 e2 e4 e5 e6
  | upd r f hf => exact fun _ => fe_upd r f fun x hx => ⟨(hf x).1.trans hx, (hf x).2.1.trans⟩
  | set r st' hg hk =>
    intro h
    have hu := by simpa using List.find?_some hg
    exact fe_upd r _ fun _ _ => ⟨hk.1.trans hu, fun _ => hk.2.1.trans (h _ (List.mem_of_find?_eq_some hg) hu)⟩
  | reset r sid code hg hid =>
    exact fun h => fe_writeReset' r sid code (hid.symm.trans (h _ (List.mem_of_find?_eq_some hg) (by simpa using List.find?_some hg)))

theorem fe_close (r : R) : FE a u r (r.updStrm u fun s => { s with state := .closed }) := fe_upd _ _ fun _ h => ⟨h, id⟩

theorem fe_writeError (hfid : ∀ x ∈ r.s.strms, x.uid = u → x.id = a) (e : SErr) : FE a u r (writeError r u e) :=
  writeError_cases r u e (fun _ => FE.refl _ _ _) (fun _ _ _ _ _ => (fe_writeGoAway r _ _ _).trans (fe_close _))
    (fun st _ hg _ => (fe_writeReset' r _ _ (hfid st (List.mem_of_find?_eq_some hg) (by simpa using List.find?_some hg))).trans
      (fe_close _))

theorem fe_onFrameError (hfid : ∀ x ∈ r.s.strms, x.uid = u → x.id = a) (e : Option SErr) : FE a u r (onFrameError r u e).1 :=
  onFrameError_cases (P := fun x => FE a u r x.1) r u e (fun _ => FE.refl _ _ _)
    (fun _ _ _ => (fe_writeError hfid _).trans (fe_close _))

theorem fe_dispatchOrSend (hfid : ∀ x ∈ r.s.strms, x.uid = u → x.id = a) {st : Strm} (hid : st.id = a) :
    FE a u r (dispatchOrSend r u st) :=
  dispatchOrSend_cases r u st (FE.refl _ _ _)
    (fun _ _ _ => (((Local.field u r _).fe hfid).trans (fe_writeReset' _ _ _ hid)).trans (fe_close _))
    (fun _ => ((Local.field u r _).then (dispatch_local u st)).fe hfid)
    (fun _ _ => by
      have F := (sendData_local u).fe hfid
      split
      · exact F.trans (fe_close _)
      · exact F)

variable {D H E : List Nat}

theorem fe_closeIfClosed (hi : Inv D H E r) (hfid : ∀ x ∈ r.s.strms, x.uid = u → x.id = a) : FE a u r (closeIfClosed r u) :=
  closeIfClosed_cases r u (fun _ => FE.refl _ _ _) fun st hg _ =>
    fe_closeStream hi.idNodup hg (hfid st (List.mem_of_find?_eq_some hg) (by simpa using List.find?_some hg))

theorem fe_stopIf (c : Bool) (r : R) : FE a u r (if c then stopLoop r else r) := by
  cases c
  · exact FE.refl _ _ _
  · exact FE.of_eq rfl rfl rfl rfl rfl

theorem fe_tail (hi : Inv D H E r) (hfid : ∀ x ∈ r.s.strms, x.uid = u → x.id = a) (fr : Frame) (wc : Bool) :
    FE a u r (knownTail r u fr wc) := by
  have F3 : FE a u r (r.updStrm u (handleState fr)) :=
    fe_upd _ _ fun x h => ⟨(handleState_keys fr x).1.trans h, (handleState_keys fr x).2.1.trans⟩
  have hi3 : Inv D H E (r.updStrm u (handleState fr)) := upd_inv u (handleState fr) (handleState_sk fr) hi
  refine knownTail_cases r u fr wc (fun _ => F3) fun st3 hg3 b => ?_
  have hid3 : st3.id = a := F3.fid hfid st3 (List.mem_of_find?_eq_some hg3) (by simpa using List.find?_some hg3)
  have F4 := fe_dispatchOrSend (F3.fid hfid) hid3 (r := r.updStrm u (handleState fr))
  have hi4 := dispatchOrSend_inv u st3 hg3 hi3
  have F5 := fe_closeIfClosed hi4 ((F3.trans F4).fid hfid)
  exact ((F3.trans F4).trans F5).trans (fe_stopIf _ _)

theorem fe_knownStream (hi : Inv D H E r) (hfid : ∀ x ∈ r.s.strms, x.uid = u → x.id = a) (fr : Frame) (wc : Bool)
    (hpre : headersPrelude r fr = (r, true)) : FE a u r (knownStream r u fr wc) := by
  have F1 := (handleFrame_local u fr).fe hfid
  have hi1 : Inv D H E (handleFrame r u fr).1 := handleFrame_inv u fr hi
  have F2 := fe_onFrameError (F1.fid hfid) (handleFrame r u fr).2
  have hi2 : Inv D H E (onFrameError (handleFrame r u fr).1 u (handleFrame r u fr).2).1 := onFrameError_inv u _ hi1
  rw [knownStream_of_pre u wc hpre]
  split
  · exact (F1.trans F2).trans (FE.of_eq rfl rfl rfl rfl rfl)
  · exact (F1.trans F2).trans (fe_tail hi2 ((F1.trans F2).fid hfid) fr wc)

/-! ## from `FE` to the places of the other ids -/

theorem lookup_some_iff {s : Srv} {b : Nat} {x : Strm} (hidn : (s.strms.map (·.id)).Nodup) (hile : ∀ y ∈ s.strms, y.id ≤ s.lastID) :
    lookup s b = some x ↔ x ∈ s.strms ∧ x.id = b := by
  constructor
  · intro h
    simp only [lookup] at h
    split at h
    · exact ⟨List.mem_of_find?_eq_some h, by simpa using List.find?_some h⟩
    · cases h
  · rintro ⟨hm, hid⟩
    have hle : b ≤ s.lastID := hid ▸ hile x hm
    simp only [lookup, hle, if_true]
    cases hf : s.strms.find? (·.id == b) with
    | none => have := List.find?_eq_none.mp hf x hm; simp [hid] at this
    | some y =>
      have hy : y ∈ s.strms := List.mem_of_find?_eq_some hf
      have hyi : y.id = b := by simpa using List.find?_some hf
      rw [nodup_map_inj (·.id) _ hidn y x hy hm (hyi.trans hid.symm)]

theorem fe_lookup {b : Nat} (F : FE a u r r') (hfid : ∀ x ∈ r.s.strms, x.uid = u → x.id = a)
    (hidn : (r.s.strms.map (·.id)).Nodup) (hile : ∀ y ∈ r.s.strms, y.id ≤ r.s.lastID)
    (hidn' : (r'.s.strms.map (·.id)).Nodup) (hile' : ∀ y ∈ r'.s.strms, y.id ≤ r'.s.lastID) (hb : b ≠ a) :
    lookup r'.s b = lookup r.s b := by
  cases h : lookup r.s b with
  | some x =>
    obtain ⟨hm, hid⟩ := (lookup_some_iff hidn hile).mp h
    have hxu : x.uid ≠ u := fun e => hb (hid ▸ hfid x hm e)
    exact (lookup_some_iff hidn' hile').mpr ⟨F.sup x hm hxu, hid⟩
  | none =>
    cases h' : lookup r'.s b with
    | none => rfl
    | some y =>
      obtain ⟨hm, hid⟩ := (lookup_some_iff hidn' hile').mp h'
      have hyu : y.uid ≠ u := fun e => hb (hid ▸ F.fid hfid y hm e)
      have := (lookup_some_iff hidn hile).mpr ⟨F.sub y hm hyu, hid⟩
      rw [h] at this; cases this

/-- one round of `envReach`'s search: the places one environment event away are added -/
def envStep (l : List Pos) : List Pos :=
  (l ++ l.flatMap fun x => ([.newer, .higherRefused, .evictRing, .forgetReset, .respEnd false true, .respEnd false false,
    .respEnd true true, .respEnd true false] : List StreamSM.Ev).map fun e => (StreamSM.stepEv x e).2).eraseDups

theorem envReach_eq (p q : Pos) : envReach p q = (envStep (envStep (envStep (envStep [p])))).contains q := rfl

theorem envStep_self {l : List Pos} {q : Pos} (h : q ∈ l) : q ∈ envStep l :=
  List.mem_eraseDups.mpr (List.mem_append_left _ h)

theorem envStep_ev {l : List Pos} {x : Pos} (h : x ∈ l) (e : StreamSM.Ev)
    (he : e ∈ ([.newer, .higherRefused, .evictRing, .forgetReset, .respEnd false true, .respEnd false false,
      .respEnd true true, .respEnd true false] : List StreamSM.Ev) := by decide) : (StreamSM.stepEv x e).2 ∈ envStep l :=
  List.mem_eraseDups.mpr (List.mem_append_right _ (List.mem_flatMap.mpr ⟨x, h, List.mem_map.mpr ⟨e, he, rfl⟩⟩))

theorem envReach_self (p : Pos) : envReach p p = true := by
  rw [envReach_eq, List.contains_iff_mem]
  exact envStep_self (envStep_self (envStep_self (envStep_self (List.mem_singleton.mpr rfl))))

/-- an id outside the table: it may be forgotten by the two bounded memories (`forgetReset`, `evictRing`), then a newer stream
may be opened or a higher one refused — three of the four rounds of the search -/
theorem envReach_out (x y x' y' : Bool) (c c' : Cmp) (hx : x' = true → x = true) (hy : y' = true → y = true)
    (hc : c' = c ∨ c' = .below ∨ (c = .above ∧ c' = .gap)) : envReach (.out x y c) (.out x' y' c') = true := by
  rw [envReach_eq, List.contains_iff_mem]
  have a1 : Pos.out x' y c ∈ envStep [Pos.out x y c] := by
    cases x' <;> cases x
    · exact envStep_self (List.mem_singleton.mpr rfl)
    · exact envStep_ev (List.mem_singleton.mpr rfl) .forgetReset
    · exact absurd (hx rfl) Bool.false_ne_true
    · exact envStep_self (List.mem_singleton.mpr rfl)
  have a2 : Pos.out x' y' c ∈ envStep (envStep [Pos.out x y c]) := by
    cases y' <;> cases y
    · exact envStep_self a1
    · exact envStep_ev a1 .evictRing
    · exact absurd (hy rfl) Bool.false_ne_true
    · exact envStep_self a1
  have a3 : Pos.out x' y' c' ∈ envStep (envStep (envStep [Pos.out x y c])) := by
    rcases hc with rfl | rfl | ⟨rfl, rfl⟩
    · exact envStep_self a2
    · exact envStep_ev a2 .newer
    · exact envStep_ev a2 .higherRefused
  exact envStep_self a3

/-- `lastID` and `lastRefused` stay or move up to `a`: another id keeps its side of them, or `a` has passed it -/
theorem cmp_move (s s' : Srv) (a b : Nat) (hb : b ≠ a)
    (h1 : s'.lastID = s.lastID ∨ (s'.lastID = a ∧ s.lastID < a))
    (h2 : s'.lastRefused = s.lastRefused ∨ (s'.lastRefused = a ∧ s.lastRefused < a)) :
    cmpOf s' b = cmpOf s b ∨ cmpOf s' b = .below ∨ (cmpOf s b = .above ∧ cmpOf s' b = .gap) := by
  have hba : (b == a) = false := by simpa using hb
  unfold cmpOf
  rcases h1 with e1 | ⟨e1, l1⟩ <;> rcases h2 with e2 | ⟨e2, l2⟩ <;> rw [e1, e2]
  · exact Or.inl rfl
  · by_cases hl : b > s.lastID
    · rw [if_pos hl, if_pos hl]
      by_cases ha : b > a
      · rw [if_pos ha, if_pos (by omega)]; exact Or.inl rfl
      · rw [if_neg ha]
        by_cases hr : b > s.lastRefused
        · rw [if_pos hr]; exact Or.inr (Or.inr ⟨rfl, rfl⟩)
        · rw [if_neg hr]; exact Or.inl rfl
    · rw [if_neg hl, if_neg hl]; exact Or.inl rfl
  · by_cases ha : b > a
    · rw [if_pos ha, if_pos (by omega : b > s.lastID)]; exact Or.inl rfl
    · rw [if_neg ha, hba]; exact Or.inr (Or.inl rfl)
  · by_cases ha : b > a
    · rw [if_pos ha, if_pos ha, if_pos (by omega : b > s.lastID), if_pos (by omega : b > s.lastRefused)]; exact Or.inl rfl
    · rw [if_neg ha, hba]; exact Or.inr (Or.inl rfl)

theorem fe_absPos {b : Nat} (F : FE a u r r') (hfid : ∀ x ∈ r.s.strms, x.uid = u → x.id = a)
    (hidn : (r.s.strms.map (·.id)).Nodup) (hile : ∀ y ∈ r.s.strms, y.id ≤ r.s.lastID)
    (hidn' : (r'.s.strms.map (·.id)).Nodup) (hile' : ∀ y ∈ r'.s.strms, y.id ≤ r'.s.lastID) (hb : b ≠ a) :
    envReach (absPos r.s b) (absPos r'.s b) = true := by
  by_cases hev : b % 2 = 0
  · rw [absPos_even hev, absPos_even hev]; exact envReach_self _
  · have hodd : b % 2 = 1 := by omega
    have hl := fe_lookup F hfid hidn hile hidn' hile' hb
    cases h : lookup r.s b with
    | some x =>
      rw [absPos_tab hodd h, absPos_tab hodd (hl.trans h)]; exact envReach_self _
    | none =>
      rw [absPos_out hodd h, absPos_out hodd (hl.trans h)]
      exact envReach_out _ _ _ _ _ _ (F.rb b hb) (F.ring b hb) (cmp_move r.s r'.s a b hb F.last F.refd)

/-! ## the stream loop, seen from the other ids -/

theorem fe_closeIfDone (r : R) : FE a u r (closeIfDone r) :=
  closeIfDone_cases r (fun _ => FE.of_eq rfl rfl rfl rfl rfl) (FE.refl _ _ _)

theorem fe_unknownStream_none (fr : Frame) (wc : Bool) (h : (unknownStream r fr wc).2 = none) :
    FE fr.stream u r (unknownStream r fr wc).1 := by
  have hrefuse : FE fr.stream u r (writeReset { r with s := { r.s with lastRefused := max r.s.lastRefused fr.stream } } fr.stream
      Gen.c_RefusedStreamError) := by
    refine FE.trans (r' := { r with s := { r.s with lastRefused := max r.s.lastRefused fr.stream } }) ?_ (fe_writeReset _ _)
    refine ⟨fun _ h _ => h, fun _ h _ => h, fun h => h, fun _ _ h => h, fun _ _ h => h, Or.inl rfl, ?_⟩
    show max r.s.lastRefused fr.stream = r.s.lastRefused ∨ (max r.s.lastRefused fr.stream = fr.stream ∧ r.s.lastRefused < fr.stream)
    omega
  exact unknownStream_cases (P := fun x => x.2 = none → FE fr.stream u r x.1) r fr wc (fun _ => FE.refl _ _ _)
    (fun _ => FE.of_eq (ccw_keeps r _).1 (ccw_keeps r _).2.2.2.2 (ccw_keeps r _).2.2.2.1 (ccw_keeps r _).2.1 (ccw_keeps r _).2.2.1)
    (fun _ _ _ => (fe_writeGoAway r _ _ _).trans (fe_closeIfDone _))
    (fun _ _ _ => (fe_writeGoAway r _ _ _).trans (FE.of_eq rfl rfl rfl rfl rfl))
    (fun _ => hrefuse) (fun _ _ _ _ _ h => nomatch h) h

theorem fe_slStreamFrame (hi : Inv D H E r) (hI : SInv r.s) (fr : Frame) (hc : (slStreamFrame r fr).s.closing = false) :
    ∃ u, FE fr.stream u r (slStreamFrame r fr) ∧ ∀ x ∈ r.s.strms, x.uid = u → x.id = fr.stream := by
  have hpre : ∀ (r1 : R) (u : Nat), (∀ x ∈ r1.s.strms, x.state = .idle → ¬ x.id < fr.stream) →
      (knownStream r1 u fr r.s.closing).s.closing = false → headersPrelude r1 fr = (r1, true) := by
    intro r1 u hni hcc
    refine prelude_pass r1 fr hni ?_
    cases hh : (fr.typ == Gen.c_FrameHeaders && prevUnf r1.s.strms)
    · rfl
    · simp only [Bool.and_eq_true, beq_iff_eq] at hh
      have := knownStream_prevUnf_cl r1 u fr r.s.closing hh.1 hh.2
      rw [CL, hcc] at this; cases this
  have hlive : ∀ x ∈ r.s.strms, x.state = .idle → ¬ x.id < fr.stream := fun x hx hi' => by
    rcases hI.live x hx with h | h <;> rw [h] at hi' <;> cases hi'
  cases hl : lookup r.s fr.stream with
  | some st =>
    have tb := TB.of_lookup hl hI.un hI.idn
    have hfid : ∀ x ∈ r.s.strms, x.uid = st.uid → x.id = fr.stream := fun x hx hxu => by rw [tb.uniq x hx hxu]; exact tb.id
    rw [slStreamFrame_known hl] at hc ⊢
    exact ⟨st.uid, fe_knownStream hi hfid fr _ (hpre r st.uid hlive hc), hfid⟩
  | none =>
    have hnu : ∀ x ∈ r.s.strms, ¬ x.uid = r.s.nextUid := fun x hx e => by have := hI.ult x hx; omega
    have hfid0 : ∀ x ∈ r.s.strms, x.uid = r.s.nextUid → x.id = fr.stream := fun x hx e => absurd e (hnu x hx)
    have hnf : ∀ k ∈ KL r, k.2.1 ≠ fr.stream := by
      intro k hk he
      simp only [KL, List.mem_map] at hk
      obtain ⟨x, hx, rfl⟩ := hk
      have := (lookup_some_iff hI.idn hI.ile).mpr ⟨hx, he⟩
      rw [hl] at this; cases this
    cases hu : (unknownStream r fr r.s.closing).2 with
    | none =>
      rw [slStreamFrame_unknown hl hu]
      exact ⟨r.s.nextUid, fe_unknownStream_none fr _ hu, hfid0⟩
    | some uid =>
      obtain ⟨e1, e2, e3, hgt, e4⟩ := unknownStream_some hu
      rw [slStreamFrame_created hl uid hu, e2, e1] at hc ⊢
      have hi1 : Inv D H E (withNew r fr) := e2 ▸ unknownStream_inv fr r.s.closing hi
      have F0 : FE fr.stream r.s.nextUid r (withNew r fr) := by
        refine ⟨?_, ?_, ?_, fun _ _ h => h, fun _ _ h => h, Or.inr ⟨rfl, hgt⟩, Or.inl rfl⟩
        · intro x hx hxu
          simp only [withNew, List.mem_append, List.mem_singleton] at hx
          rcases hx with hx | rfl
          · exact hx
          · exact absurd rfl hxu
        · intro x hx _; simp only [withNew, List.mem_append]; exact Or.inl hx
        · intro h x hx hxu
          simp only [withNew, List.mem_append, List.mem_singleton] at hx
          rcases hx with hx | rfl
          · exact h x hx hxu
          · rfl
      have hfid1 := F0.fid hfid0
      have hni1 : ∀ x ∈ (withNew r fr).s.strms, x.state = .idle → ¬ x.id < fr.stream := by
        intro x hx hxi
        simp only [withNew, List.mem_append, List.mem_singleton] at hx
        rcases hx with hx | rfl
        · exact hlive x hx hxi
        · simp
      have hp1 := hpre (withNew r fr) r.s.nextUid hni1 hc
      exact ⟨r.s.nextUid, F0.trans (fe_knownStream hi1 hfid1 fr _ hp1), hfid0⟩

/-- **Bystanders, at the stream loop.** A frame on stream `fr.stream` moves the place of any OTHER id `b` only as the
environment events of `StreamSM` do (`newer`, `higherRefused`, `evictRing`, `forgetReset`): the adapter's `envReach` holds —
unless the frame is answered with a GOAWAY. -/
theorem bystander_sl (hi : Inv D H E r) (hI : SInv r.s) (fr : Frame) (hc : (slStreamFrame r fr).s.closing = false)
    (b : Nat) (hb : b ≠ fr.stream) : envReach (absPos r.s b) (absPos (slStreamFrame r fr).s b) = true := by
  obtain ⟨u, F, hfid⟩ := fe_slStreamFrame hi hI fr hc
  have hi' := slStreamFrame_inv fr hi
  refine fe_absPos F hfid hI.idn hI.ile hi'.idNodup ?_ hb
  intro y hy
  have := hi'.ile y.sk (List.mem_map_of_mem hy); simpa [Strm.sk] using this

/-- **Bystanders, one parsed frame through the read loop** (`rlFrame`): unless a GOAWAY is written, every id other than the
frame's moves only as the environment events allow — for ALL ids `b`, not only the ones the adapter watches. -/
theorem bystander_frame (s : Srv) (fr : Frame) (hi : Inv D H E { s := s }) (hI : SInv s) (h0 : fr.stream ≠ 0)
    (hsl : s.slStopped = false) (hc : (rlFrame { s := s } fr).s.closing = false) (b : Nat) (hb : b ≠ fr.stream) :
    envReach (absPos s b) (absPos (rlFrame { s := s } fr).s b) = true := by
  cases hr : rlOf s fr
  · obtain ⟨e, hrl⟩ := rlFrame_passes s fr h0 hsl hr
    rw [hrl] at hc ⊢
    split at hc
    · cases hc
    · rw [if_neg ‹_›]
      have hi1 : Inv D H E ({ s := { s with expectCont := e }, fwd := [fr] } : R) := hi.congr rfl rfl rfl rfl rfl rfl rfl
      exact bystander_sl hi1 (hI.ec e) fr hc b hb
  · -- the read loop answers with GOAWAY: excluded
    obtain ⟨e, tag, hrl⟩ := rlFrame_rejects s fr h0 hr
    rw [hrl] at hc
    cases hc

end

/-- **Bystanders in every reachable state before the first GOAWAY** -/
theorem reachable_bystander (cfg : Cfg) (evs : List Event) (ib : Bytes) (fr : Frame) (h0 : fr.stream ≠ 0)
    (hsl : (run cfg evs).1.slStopped = false) (hc0 : (run cfg evs).1.closing = false)
    (hc : (rlFrame { s := { (run cfg evs).1 with inbuf := ib } } fr).s.closing = false) (b : Nat) (hb : b ≠ fr.stream) :
    envReach (absPos { (run cfg evs).1 with inbuf := ib } b)
      (absPos (rlFrame { s := { (run cfg evs).1 with inbuf := ib } } fr).s b) = true := by
  have hi := run_invS cfg evs
  have hi' : Inv _ _ _ ({ s := { (run cfg evs).1 with inbuf := ib } } : R) := Inv.congr hi rfl rfl rfl rfl rfl rfl rfl
  exact bystander_frame { (run cfg evs).1 with inbuf := ib } fr hi' (reachable_sinv' cfg evs ib hc0) h0 hsl hc b hb

end H2.Server.Lock.Refine
