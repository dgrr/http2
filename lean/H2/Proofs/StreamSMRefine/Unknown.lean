import H2.Proofs.StreamSMRefine.Base
/-!
# C08 refinement — the place of a stream id in the tables, and the unknown-stream branch of the stream loop

* `absT`, `cmpOf`, `absPos_tab` / `absPos_out` / `absPos_even`: the adapter's `absPos`, case by case.
* `reactSL`, `react_eq`: `StreamSM.react` is the read loop's check (`StreamSM.rl`) followed by the stream loop's part.
* `unknown_eq`, `UnkRel`, `unknown_refines`: `unknownStream` against `StreamSM.unknown`, both walked as one decision tree
  over the type of the frame.
-/
namespace H2.Server.Lock.Refine
open H2.Frame (Frame Body)
open H2.Server
open H2.Server.StreamSM (Pos Fr Ctx Reaction Code TSt Cmp Inc Blk BlockOn)

def absT (st : Strm) : StreamSM.T := ⟨absTSt st.state, st.headersFinished, st.responded, st.handlerRunning⟩

def cmpOf (s : Srv) (sid : Nat) : Cmp :=
  if sid > s.lastID then (if sid > s.lastRefused then .above else .gap) else if sid == s.lastID then .equal else .below

theorem absPos_tab {s : Srv} {sid : Nat} {st : Strm} (hodd : sid % 2 = 1) (hl : lookup s sid = some st) :
    absPos s sid = (absT st).pos := by
  simp [absPos, hodd, hl, absT, StreamSM.T.pos]

theorem absPos_out {s : Srv} {sid : Nat} (hodd : sid % 2 = 1) (hl : lookup s sid = none) :
    absPos s sid = .out (s.resetByUs.contains sid) (s.ring.contains sid) (cmpOf s sid) := by
  simp [absPos, hodd, hl, cmpOf]

theorem absPos_even {s : Srv} {sid : Nat} (hev : sid % 2 = 0) : absPos s sid = .even := by
  simp [absPos, hev]

/-- the stream-loop part of `react`: what happens once the read loop has let the frame through -/
def reactSL (p : Pos) (f : Fr) (c : Ctx) : Reaction × Pos :=
  match p with
  | .even => (.connErr .protocol, p)
  | .out byUs inRing cmp => StreamSM.unknown byUs inRing cmp f c
  | .tab st hf responded running => StreamSM.afterLookup ⟨st, hf, responded, running⟩ f c

theorem react_eq (p : Pos) (f : Fr) (c : Ctx) :
    StreamSM.react p f c = match StreamSM.rl p f c with | some r => (r, p) | none => reactSL p f c := by
  unfold StreamSM.react reactSL
  cases StreamSM.rl p f c <;> cases p <;> rfl

/-- the stream loop does not read the CONTINUATION bookkeeping -/
theorem reactSL_block (p : Pos) (f : Fr) (c : Ctx) (b : BlockOn) : reactSL p f { c with block := b } = reactSL p f c := by
  obtain ⟨bl, a1, a2, a3, a4⟩ := c
  cases p <;> rfl

def isConn : Reaction → Bool
  | .connErr _ => true
  | _ => false

theorem addKnown_contains (k : List Nat) (sid : Nat) : (if k.contains sid then k else k ++ [sid]).contains sid = true := by
  cases h : k.contains sid
  · simp
  · simpa using h

theorem writeReset_contains (r : R) (sid code : Nat) : (writeReset r sid code).s.resetByUs.contains sid = true := by
  simp only [writeReset, R.emit]
  exact addKnown_contains _ _

theorem markClosed_contains (ring : List Nat) (id : Nat) : (markClosed ring id).contains id = true := by
  simp only [markClosed]
  cases h : ring.contains id
  · simp only [Bool.false_eq_true, if_false]; split <;> simp
  · simpa using h

/-! ## the unknown-stream branch -/

theorem absPos_congr {s s' : Srv} (h1 : s'.strms = s.strms) (h2 : s'.lastID = s.lastID) (h3 : s'.lastRefused = s.lastRefused)
    (h4 : s'.ring = s.ring) (h5 : s'.resetByUs = s.resetByUs) (x : Nat) : absPos s' x = absPos s x := by
  simp only [absPos, lookup, h1, h2, h3, h4, h5]

@[simp] theorem closeIfDone_out (r : R) : (closeIfDone r).out = r.out := H2.Server.closeIfDone_out r
@[simp] theorem stopLoop_out (r : R) : (stopLoop r).out = r.out := rfl
@[simp] theorem writeGoAway_out (r : R) (sid code : Nat) (tag : String) :
    (writeGoAway r sid code tag).out = r.out ++ [.goAway ((if sid > r.s.lastID then sid else r.s.lastID) % 2 ^ 31) code tag] := rfl
@[simp] theorem writeReset_out (r : R) (sid code : Nat) : (writeReset r sid code).out = r.out ++ [.rst sid code] := rfl
@[simp] theorem consumeConnWindow_pX (sid : Nat) (r : R) (n : Nat) : fm (pX sid) (consumeConnWindow r n).out = fm (pX sid) r.out :=
  (consumeConnWindow_emits r n).fm (pX_only sid)

theorem ccw_keeps (r : R) (n : Nat) :
    (consumeConnWindow r n).s.strms = r.s.strms ∧ (consumeConnWindow r n).s.lastID = r.s.lastID ∧
    (consumeConnWindow r n).s.lastRefused = r.s.lastRefused ∧ (consumeConnWindow r n).s.ring = r.s.ring ∧
    (consumeConnWindow r n).s.resetByUs = r.s.resetByUs :=
  consumeConnWindow_cases (P := fun x => x.s.strms = r.s.strms ∧ x.s.lastID = r.s.lastID ∧ x.s.lastRefused = r.s.lastRefused ∧
    x.s.ring = r.s.ring ∧ x.s.resetByUs = r.s.resetByUs) r n (fun _ => ⟨rfl, rfl, rfl, rfl, rfl⟩) fun _ _ => ⟨rfl, rfl, rfl, rfl, rfl⟩

theorem consumeConnWindow_pos (r : R) (n x : Nat) : absPos (consumeConnWindow r n).s x = absPos r.s x := by
  obtain ⟨e1, e2, e3, e4, e5⟩ := ccw_keeps r n
  exact absPos_congr e1 e2 e3 e4 e5 x

@[simp] theorem rcOf_nil : rcOf [] = .ok := rfl
@[simp] theorem rcOf_ga (c : Nat) (l : List XE) : rcOf (.ga c :: l) = .conn c := rfl
@[simp] theorem rcOf_rs (c : Nat) : rcOf [.rs c] = .strm c := rfl

theorem cmpOf_gt (s : Srv) (sid : Nat) : (cmpOf s sid == .above || cmpOf s sid == .gap) = decide (sid > s.lastID) := by
  unfold cmpOf
  by_cases h1 : sid > s.lastID <;> by_cases h2 : sid > s.lastRefused <;> by_cases h3 : sid = s.lastID <;> simp +decide [h1, h2, h3]

theorem cmpOf_above (s : Srv) (sid : Nat) :
    (cmpOf s sid != .above) = (decide (sid ≤ s.lastID) || decide (sid ≤ s.lastRefused)) := by
  unfold cmpOf
  by_cases h1 : sid > s.lastID
  · have h1' : ¬sid ≤ s.lastID := by omega
    by_cases h2 : sid > s.lastRefused
    · have h2' : ¬sid ≤ s.lastRefused := by omega
      simp +decide only [h1, h2, h1', h2', if_true]
    · have h2' : sid ≤ s.lastRefused := by omega
      simp +decide only [h1, h2, h1', h2', if_true, if_false]
  · have h1' : sid ≤ s.lastID := by omega
    simp only [h1, h1', if_false, decide_true, Bool.true_or]
    split <;> rfl

theorem cmpOf_upd (r : R) (u : Nat) (f : Strm → Strm) (x : Nat) : cmpOf (r.updStrm u f).s x = cmpOf r.s x := rfl
theorem cmpOf_reset (r : R) (sid code x : Nat) : cmpOf (writeReset r sid code).s x = cmpOf r.s x := rfl

theorem lookup_congr {s s' : Srv} (e1 : s'.strms = s.strms) (e2 : s'.lastID = s.lastID) (x : Nat) : lookup s' x = lookup s x := by
  simp only [lookup, e1, e2]

theorem refuse_pos (r : R) (sid code : Nat) (hodd : sid % 2 = 1) (hl : lookup r.s sid = none) :
    absPos (writeReset { r with s := { r.s with lastRefused := max r.s.lastRefused sid } } sid code).s sid =
      .out true (r.s.ring.contains sid) (if cmpOf r.s sid == .above then .gap else cmpOf r.s sid) := by
  have hl2 : lookup (writeReset { r with s := { r.s with lastRefused := max r.s.lastRefused sid } } sid code).s sid = none :=
    (lookup_congr (s := r.s) rfl rfl sid).trans hl
  rw [absPos_out hodd hl2, writeReset_contains]
  congr 1
  show cmpOf { r.s with lastRefused := max r.s.lastRefused sid, resetByUs := _ } sid = _
  -- the id is not above `lastRefused` any more: `above` becomes `gap`, the rest stays
  unfold cmpOf
  by_cases h1 : sid > r.s.lastID
  · rw [if_pos h1, if_pos h1, if_neg (show ¬sid > max r.s.lastRefused sid by omega)]
    by_cases h2 : sid > r.s.lastRefused
    · rw [if_pos h2]; rfl
    · rw [if_neg h2]; rfl
  · rw [if_neg h1, if_neg h1]
    by_cases h3 : (sid == r.s.lastID) = true
    · rw [if_pos h3]; rfl
    · rw [if_neg h3]; rfl

/-- the self-dependency bit of an abstract PRIORITY frame -/
def prioSelf : Fr → Bool
  | .priority sd => sd
  | _ => false

theorem prioSelf_abs (s : Srv) (fr : Frame) :
    prioSelf (absFrame s fr) = (match fr.body with | .priority dep _ => dep == fr.stream | _ => false) := by
  obtain ⟨typ, flags, sid, len, body⟩ := fr
  cases body <;> rfl

/-- `unknown` as a decision over the type of the frame, in the order of `unknownStream` -/
theorem unknown_eq (byUs inRing : Bool) (cmp : Cmp) (f : Fr) (c : Ctx) :
    StreamSM.unknown byUs inRing cmp f c =
      if byUs then (.ignore, .out byUs inRing cmp)
      else if frTag f == Gen.c_FrameResetStream then
        (if cmp == .above || cmp == .gap then (.connErr .protocol, .out byUs inRing cmp) else (.ignore, .out byUs inRing cmp))
      else if inRing then
        (if frTag f == Gen.c_FramePriority || frTag f == Gen.c_FrameWindowUpdate then (.ignore, .out byUs inRing cmp)
         else (.connErr .streamClosed, .out byUs inRing cmp))
      else if frTag f != Gen.c_FrameHeaders then
        if frTag f == Gen.c_FramePriority then
          (if prioSelf f then (.connErr .protocol, .out byUs inRing cmp) else (.ignore, .out byUs inRing cmp))
        else if cmp == .above || cmp == .gap then (.connErr .protocol, .out byUs inRing cmp)
        else if frTag f != Gen.c_FrameWindowUpdate then (.connErr .streamClosed, .out byUs inRing cmp)
        else (.ignore, .out byUs inRing cmp)
      else if c.refuse then (.streamErr .refused, .out true inRing (if cmp == .above then .gap else cmp))
      else if cmp != .above then (.connErr .protocol, .out byUs inRing cmp)
      else StreamSM.afterLookup ⟨.idle, false, false, false⟩ f { c with isLast := true } := by
  cases f <;> rfl

/-- an outcome `u` of `unknownStream` against an outcome `a` of `StreamSM.unknown`: either the full model's outputs are
of the class the abstract model gives, and unless that is a connection error the stream's place afterwards is the
abstract model's; or both go on to create the stream (the full model's state is `withNew`) -/
def UnkRel (r : R) (fr : Frame) (c : Ctx) (u : R × Option Nat) (a : Reaction × Pos) : Prop :=
  (u.2 = none ∧ rcOf (fm (pX fr.stream) u.1.out) = absRC a.1 ∧ (isConn a.1 = false → absPos u.1.s fr.stream = a.2)) ∨
  (u.2 = some r.s.nextUid ∧ u.1 = withNew r fr ∧ fr.typ = Gen.c_FrameHeaders ∧
    r.s.resetByUs.contains fr.stream = false ∧ r.s.ring.contains fr.stream = false ∧ cmpOf r.s fr.stream = .above ∧
    a = StreamSM.afterLookup ⟨.idle, false, false, false⟩ (absFrame r.s fr) { c with isLast := true })

/-- **the unknown-stream branch**, for a frame whose stream is not in the table (odd id). `c` is any context with the
adapter's `refuse`. -/
theorem unknown_refines (r : R) (fr : Frame) (wc : Bool) (hwf : FrWF fr)
    (hl : lookup r.s fr.stream = none) (hodd : fr.stream % 2 = 1) (hout : fm (pX fr.stream) r.out = [])
    (c : Ctx) (hrefuse : c.refuse = (decide (r.s.openStreams ≥ (r.s.cfg.maxStreams : Int)) || wc)) :
    UnkRel r fr c (unknownStream r fr wc)
      (StreamSM.unknown (r.s.resetByUs.contains fr.stream) (r.s.ring.contains fr.stream) (cmpOf r.s fr.stream) (absFrame r.s fr) c) := by
  -- the ways the frame is answered without a stream being opened: nothing (DATA still charged to the connection
  -- window), GOAWAY, RST_STREAM(REFUSED_STREAM)
  have same : ∀ x : Reaction, absRC x = .ok → UnkRel r fr c (r, none)
      (x, .out (r.s.resetByUs.contains fr.stream) (r.s.ring.contains fr.stream) (cmpOf r.s fr.stream)) :=
    fun x hx => Or.inl ⟨rfl, by rw [hx]; show rcOf (fm (pX fr.stream) r.out) = _; rw [hout]; rfl, fun _ => absPos_out hodd hl⟩
  have charged : UnkRel r fr c (consumeConnWindow r fr.length, none)
      (.ignore, .out (r.s.resetByUs.contains fr.stream) (r.s.ring.contains fr.stream) (cmpOf r.s fr.stream)) :=
    Or.inl ⟨rfl, by show rcOf (fm (pX fr.stream) (consumeConnWindow r fr.length).out) = _; rw [consumeConnWindow_pX, hout]; rfl,
      fun _ => (consumeConnWindow_pos r _ _).trans (absPos_out hodd hl)⟩
  have goAway : ∀ (x : R) (code : Code) (tag : String) (p : Pos), x.out = (writeGoAway r fr.stream code.num tag).out →
      UnkRel r fr c (x, none) (.connErr code, p) :=
    fun x code tag p hx => Or.inl ⟨rfl,
      by show rcOf (fm (pX fr.stream) x.out) = _; rw [hx, writeGoAway_out, fm_append, hout]; rfl, fun h => by cases h⟩
  have refused : UnkRel r fr c
      (writeReset { r with s := { r.s with lastRefused := max r.s.lastRefused fr.stream } } fr.stream Gen.c_RefusedStreamError, none)
      (.streamErr .refused, .out true (r.s.ring.contains fr.stream) (if cmpOf r.s fr.stream == .above then .gap else cmpOf r.s fr.stream)) :=
    Or.inl ⟨rfl, by
      show rcOf (fm (pX fr.stream) (r.out ++ [.rst fr.stream Gen.c_RefusedStreamError])) = _
      rw [fm_append, hout, fm_single]
      simp only [pX, beq_self_eq_true, if_true]
      rfl, fun _ => refuse_pos r fr.stream _ hodd hl⟩
  -- the tests of the abstract model on the frame are the full model's on its type
  have tag : ∀ t, t ≠ Gen.c_FrameSettings → t ≠ Gen.c_FrameGoAway →
      ((fr.typ == t) = true ↔ (frTag (absFrame r.s fr) == t) = true) :=
    fun t h4 h7 => by rw [absFrame_tag_beq r.s fr hwf t h4 h7]
  have ntag : ∀ t, t ≠ Gen.c_FrameSettings → t ≠ Gen.c_FrameGoAway →
      ((fr.typ != t) = true ↔ (frTag (absFrame r.s fr) != t) = true) :=
    fun t h4 h7 => by unfold bne; rw [absFrame_tag_beq r.s fr hwf t h4 h7]
  have above : fr.stream > r.s.lastID ↔ (cmpOf r.s fr.stream == .above || cmpOf r.s fr.stream == .gap) = true := by
    rw [cmpOf_gt, decide_eq_true_iff]
  rw [unknown_eq]
  unfold unknownStream
  refine ite_rel Iff.rfl (fun _ => ?_) fun hbu => ?_
  · exact ite_ind (P := fun x => UnkRel r fr c (x, none) _) (fun _ => charged) fun _ => same .ignore rfl
  refine ite_rel (tag _ (by decide) (by decide)) (fun _ => ?_) fun _ => ?_
  · -- RST_STREAM: an error only on an idle stream
    exact ite_rel (R := fun (x : R) a => UnkRel r fr c (x, none) a) above
      (fun _ => goAway _ .protocol _ _ (closeIfDone_out _)) fun _ => same .ignore rfl
  refine ite_rel Iff.rfl (fun _ => ?_) fun hri => ?_
  · -- a stream that was closed: PRIORITY and WINDOW_UPDATE may still arrive
    exact ite_rel (R := fun (x : R) a => UnkRel r fr c (x, none) a)
      (by rw [absFrame_tag_beq r.s fr hwf _ (by decide) (by decide), absFrame_tag_beq r.s fr hwf _ (by decide) (by decide)])
      (fun _ => same .ignore rfl) fun _ => goAway _ .streamClosed _ _ (closeIfDone_out _)
  refine ite_rel (ntag _ (by decide) (by decide)) (fun _ => ?_) fun hh => ?_
  · -- not HEADERS: no stream is opened
    refine ite_rel (tag _ (by decide) (by decide)) (fun _ => ?_) fun _ => ?_
    · exact ite_rel (Eq.to_iff (congrArg (· = true) (prioSelf_abs r.s fr).symm))
        (fun _ => goAway _ .protocol _ _ rfl) fun _ => same .ignore rfl
    refine ite_rel above (fun _ => goAway _ .protocol _ _ rfl) fun _ => ?_
    exact ite_rel (ntag _ (by decide) (by decide)) (fun _ => goAway _ .streamClosed _ _ (closeIfDone_out _)) fun _ => same .ignore rfl
  refine ite_rel (by rw [hrefuse]) (fun _ => refused) fun _ => ?_
  refine ite_rel (by rw [cmpOf_above]) (fun _ => goAway _ .protocol _ _ (closeIfDone_out _)) fun hab => ?_
  rw [← cmpOf_above, Bool.not_eq_true, bne_eq_false_iff_eq] at hab
  rw [Bool.not_eq_true, bne_eq_false_iff_eq] at hh
  exact Or.inr ⟨rfl, rfl, hh, eq_false_of_ne_true hbu, eq_false_of_ne_true hri, hab, rfl⟩

end H2.Server.Lock.Refine
