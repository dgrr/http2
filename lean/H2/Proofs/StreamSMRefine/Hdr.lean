import H2.Proofs.StreamSMRefine
import H2.Proofs.MsgRefineLoop
/-!
# C08 refinement — header-bearing frames: the block class the adapter computes with `walk` is `handleHeaderFrame`'s verdict
-/
namespace H2.Server.Lock.Refine
open H2.Frame (Frame Body)
open H2.Server
open H2.Server.StreamSM (Pos Fr Ctx Reaction Code TSt Cmp Inc Blk BlockOn)

/-- the class of an error of the field loop, as the abstract model names it -/
def blkRC (b : Blk) : Option RC := (StreamSM.blkErr b).map errAbsRC

theorem fieldVerdict_codes (cfg : Cfg) (st : Strm) (f : Hpack.Field) (e : SErr) (h : fieldVerdict cfg st f = some e) :
    (∃ t, e = .goAway Gen.c_EnhanceYourCalm t) ∨ e = .reset Gen.c_ProtocolError ∨ e = .reset Gen.c_EnhanceYourCalm := by
  revert h
  refine fieldVerdict_cases (P := fun v => v = some e → _) cfg st f (fun _ h => ?_) (fun h => ?_) (fun h => ?_) (fun h => ?_)
  · cases h
  · exact Or.inl ⟨_, (Option.some.inj h).symm⟩
  · exact Or.inr (Or.inl (Option.some.inj h).symm)
  · exact Or.inr (Or.inr (Option.some.inj h).symm)

theorem heldTooLong_eq (s : Srv) (t : Bytes) : Abs.Limits.fieldTooLong (msgCfg s).maxHeaderList t.length = heldTooLong s.cfg t := rfl

/-- **`walk` is `fieldLoop`**: the way the adapter's walk over the fragment ends is the field loop's verdict, and where the loop
accepts the frame the walk's C20 state is the projection of the stream -/
theorem walk_fieldLoop (fuel : Nat) (s : Srv) (st : Strm) (bs eh : Bool) (fp : Nat) (b : Bytes) (acc : List MsgSpec.Field)
    (hcl : 0 ≤ st.contentLength) :
    (fieldLoop fuel s st bs eh fp b).2.2.map errRC = blkRC (absBlk false (walk (msgCfg s) fuel s.dec (msgSt st) bs eh fp b acc)) ∧
    ((fieldLoop fuel s st bs eh fp b).2.2 = none →
      (walk (msgCfg s) fuel s.dec (msgSt st) bs eh fp b acc).1.isOk = true ∧
      (walk (msgCfg s) fuel s.dec (msgSt st) bs eh fp b acc).2.1 = msgSt (fieldLoop fuel s st bs eh fp b).2.1) := by
  induction fuel generalizing s st fp b acc with
  | zero => simp +decide [fieldLoop, walk, absBlk, blkRC, StreamSM.blkErr, errRC, errAbsRC]
  | succ n ih =>
    cases b with
    | nil => simp +decide [fieldLoop, walk, absBlk, blkRC, StreamSM.blkErr, WalkEnd.isOk]
    | cons c cs =>
      simp only [fieldLoop, walk]
      cases hd : Hpack.Dec.next s.dec bs fp (c :: cs) with
      | needMore =>
        cases eh
        · simp only [Bool.not_false, if_true, heldTooLong_eq]
          by_cases hh : heldTooLong s.cfg (Hpack.Dec.skipUpdates s.dec bs fp (c :: cs)).2 = true
          · simp +decide [hh, absBlk, blkRC, StreamSM.blkErr, errRC, errAbsRC]
          · simp +decide [hh, absBlk, blkRC, StreamSM.blkErr, WalkEnd.isOk, msgSt]
        · simp +decide [absBlk, blkRC, StreamSM.blkErr, errRC, errAbsRC]
      | err => simp +decide [absBlk, blkRC, StreamSM.blkErr, errRC, errAbsRC]
      | ok dec fo rest =>
        cases fo with
        | none => simp +decide [absBlk, blkRC, StreamSM.blkErr, WalkEnd.isOk]
        | some f =>
          have hr := field_refines s.cfg { st with fieldSeen := true } f hcl
          have hm : msgSt { st with fieldSeen := true } = msgSt st := rfl
          have hc : cfgOf s.cfg = msgCfg s := rfl
          rw [hm, hc] at hr
          simp only [fieldStep, hr]
          cases hv : fieldVerdict s.cfg { st with fieldSeen := true } f with
          | some e =>
            rcases fieldVerdict_codes _ _ _ _ hv with ⟨t, rfl⟩ | rfl | rfl <;>
              simp +decide [absBlk, blkRC, StreamSM.blkErr, errRC, errAbsRC, absErr]
          | none =>
            simp only
            exact ih { s with dec := dec } (fieldUpdate { st with fieldSeen := true } f) (fp + 1) rest _
              (contentLength_nonneg _ f hcl)

/-! ## what a header frame leaves alone -/

/-- the fields of a stream no header frame changes -/
def K (st : Strm) : Nat × Nat × StState × Bool × Bool × Nat × Option BodyStream × Nat :=
  (st.uid, st.id, st.state, st.responded, st.handlerRunning, st.pendLen, st.stream, st.recvBody)

theorem handleHeaderFrame_K (s : Srv) (st : Strm) (fr : Frame) : K (handleHeaderFrame s st fr).2.1 = K st :=
  congrArg (fun c : Strm.Core => (c.uid, c.id, c.state, c.responded, c.handlerRunning, c.pendLen, c.stream, c.recvBody))
    (handleHeaderFrame_keeps s st fr).2

theorem handleHeaderFrame_tbl (s : Srv) (st : Strm) (fr : Frame) :
    (handleHeaderFrame s st fr).1.strms = s.strms ∧ (handleHeaderFrame s st fr).1.lastID = s.lastID ∧
    (handleHeaderFrame s st fr).1.lastRefused = s.lastRefused ∧ (handleHeaderFrame s st fr).1.ring = s.ring ∧
    (handleHeaderFrame s st fr).1.resetByUs = s.resetByUs := by
  rw [(handleHeaderFrame_keeps s st fr).1]
  exact ⟨rfl, rfl, rfl, rfl, rfl⟩

theorem K_resume {a b : Strm} (h : K a = K b) : resume a = resume b := by
  simp only [K, Prod.mk.injEq] at h
  simp only [resume, hasMoreToSend, h]

/-! ## `handleHeaderFrame` against the abstract model -/

theorem hdrPre_msg (st : Strm) (isCont eh : Bool) :
    msgSt (hdrPre st isCont eh) = (if st.headersFinished then Msg.startTrailers (msgSt st) else msgSt st) ∧
    (!(hdrPre st isCont eh).fieldSeen) = (!(isCont && st.fieldSeen)) ∧ (hdrPre st isCont eh).contentLength = st.contentLength ∧
    (hdrPre st isCont eh).prevHdr = [] ∧
    (hdrPre st isCont eh).headersFinished = (if st.headersFinished && !eh then false else st.headersFinished) := by
  cases hhf : st.headersFinished <;> cases isCont <;> cases eh <;>
    simp [hdrPre, hdrTrailer, hhf, msgSt, Msg.startTrailers]

/-- the adapter's walk over a header-bearing frame, in the terms of `handleHeaderFrame_eq` -/
theorem walkFrame_hdr (s : Srv) (st : Strm) (fr : Frame) (hp : (headerPart fr).isSome = true) :
    walkFrame s (some st) fr =
      walk (msgCfg s) ((st.prevHdr ++ (hdrParts fr.body).2.2.2).length + 1) s.dec
        (if st.headersFinished then Msg.startTrailers (msgSt st) else msgSt st)
        (!((hdrParts fr.body).1 && st.fieldSeen)) (hdrParts fr.body).2.1 0 (st.prevHdr ++ (hdrParts fr.body).2.2.2) [] := by
  obtain ⟨typ, flags, sid, len, body⟩ := fr
  cases body <;> first | rfl | cases hp

/-- **`handleHeaderFrame` against the abstract `handleHeaderFrame`**, the block class being the adapter's (without the
pseudo-header test, which `handleFrame` makes afterwards). `heh`: the END_HEADERS bit the body records is the flag's. -/
theorem handleHeaderFrame_spec (s : Srv) (st : Strm) (fr : Frame) (hp : (headerPart fr).isSome = true)
    (heh : (hdrParts fr.body).2.1 = Frame.hasFlag fr.flags Gen.c_FlagEndHeaders) (hcl : 0 ≤ st.contentLength) :
    let es := Frame.hasFlag fr.flags Gen.c_FlagEndStream
    let eh := Frame.hasFlag fr.flags Gen.c_FlagEndHeaders
    let w := walkFrame s (some st) fr
    let y := handleHeaderFrame s st fr
    (y.2.2.map errRC = match StreamSM.handleHeaderFrame (absT st) es eh (hdrSelfDep st fr.body) (absBlk false w) with
        | .error e => some (errAbsRC e) | .ok _ => none) ∧
    (y.2.2 = none →
      w.1.isOk = true ∧ w.2.1 = msgSt y.2.1 ∧ 0 ≤ y.2.1.contentLength ∧ (eh = true → y.2.1.prevHdr = []) ∧
      y.2.1.headersFinished = (if st.headersFinished && !eh then false else st.headersFinished)) := by
  intro es eh w y
  have ehd : eh = Frame.hasFlag fr.flags Gen.c_FlagEndHeaders := rfl
  obtain ⟨p1, p2, p3, p4, p5⟩ := hdrPre_msg st (hdrParts fr.body).1 eh
  have hw : w = walk (msgCfg s) ((st.prevHdr ++ (hdrParts fr.body).2.2.2).length + 1) s.dec
      (msgSt (hdrPre st (hdrParts fr.body).1 eh)) (!(hdrPre st (hdrParts fr.body).1 eh).fieldSeen) eh 0
      (st.prevHdr ++ (hdrParts fr.body).2.2.2) [] := by
    rw [p1, p2, ehd, ← heh]; exact walkFrame_hdr s st fr hp
  have esd : es = Frame.hasFlag fr.flags Gen.c_FlagEndStream := rfl
  have hy : y = _ := handleHeaderFrame_eq s st fr
  dsimp only at hy
  rw [heh, ← ehd, ← esd] at hy
  generalize hx : fieldLoop ((st.prevHdr ++ (hdrParts fr.body).2.2.2).length + 1) s (hdrPre st (hdrParts fr.body).1 eh)
    (!(hdrPre st (hdrParts fr.body).1 eh).fieldSeen) eh 0 (st.prevHdr ++ (hdrParts fr.body).2.2.2) = x at hy
  obtain ⟨A1, A2⟩ := walk_fieldLoop ((st.prevHdr ++ (hdrParts fr.body).2.2.2).length + 1) s (hdrPre st (hdrParts fr.body).1 eh)
    (!(hdrPre st (hdrParts fr.body).1 eh).fieldSeen) eh 0 (st.prevHdr ++ (hdrParts fr.body).2.2.2) [] (by rw [p3]; exact hcl)
  have G := fieldLoop_cl ((st.prevHdr ++ (hdrParts fr.body).2.2.2).length + 1) s (hdrPre st (hdrParts fr.body).1 eh)
    (!(hdrPre st (hdrParts fr.body).1 eh).fieldSeen) eh 0 (st.prevHdr ++ (hdrParts fr.body).2.2.2) (by rw [p3]; exact hcl)
  have C := (fieldLoop_ctl ((st.prevHdr ++ (hdrParts fr.body).2.2.2).length + 1) s (hdrPre st (hdrParts fr.body).1 eh)
    (!(hdrPre st (hdrParts fr.body).1 eh).fieldSeen) eh 0 (st.prevHdr ++ (hdrParts fr.body).2.2.2)).1
  have S := fieldLoop_state ((st.prevHdr ++ (hdrParts fr.body).2.2.2).length + 1) s (hdrPre st (hdrParts fr.body).1 eh)
    (!(hdrPre st (hdrParts fr.body).1 eh).fieldSeen) eh 0 (st.prevHdr ++ (hdrParts fr.body).2.2.2)
  rw [← hw, hx] at A1 A2
  rw [hx] at G C S
  rw [hy]
  simp only [StreamSM.handleHeaderFrame, absT]
  by_cases h1 : ((st.headersFinished && !es) && !eh) = true
  · simp +decide [h1, errRC, errAbsRC]
  · simp only [h1, Bool.false_eq_true, if_false]
    cases hsd : hdrSelfDep st fr.body
    · simp only [Bool.false_eq_true, if_false]
      cases hb : StreamSM.blkErr (absBlk false w) with
      | some e =>
        rw [blkRC, hb] at A1
        cases hx2 : x.2.2 with
        | none => rw [hx2] at A1; simp at A1
        | some e' =>
          rw [hx2] at A1
          simp only [Option.map_some, Option.some.injEq] at A1
          simp [hx2, A1]
      | none =>
        rw [blkRC, hb] at A1
        have hx2 : x.2.2 = none := by cases h : x.2.2 <;> simp_all
        obtain ⟨a1, a2⟩ := A2 hx2
        by_cases h2 : (st.headersFinished && !es) = true
        · simp +decide [hx2, h2, errRC, errAbsRC]
        · have hpv : eh = true → x.2.1.prevHdr = [] := by
            intro he
            have := S hx2
            split at this
            · rw [this.2.1, p4]
            · rw [he] at this; exact absurd this.1 (by decide)
            · exact this.elim
          have hhf : x.2.1.headersFinished = (if st.headersFinished && !eh then false else st.headersFinished) := by
            have := congrArg Ctl.headersFinished C
            simp only [Strm.ctl] at this
            rw [this, p5]
          simp +decide [hx2, h2, a1, a2, G, hhf]
          exact hpv
    · simp +decide [errRC, errAbsRC]

end H2.Server.Lock.Refine
