import H2.Proofs.StreamSMRefine.Hdr
/-!
# C08 refinement — `HFspec` for HEADERS and CONTINUATION frames on a stream of the table
-/
namespace H2.Server.Lock.Refine
open H2.Frame (Frame Body)
open H2.Server
open H2.Server.StreamSM (Pos Fr Ctx Reaction Code TSt Cmp Inc Blk BlockOn)

theorem hhfA_ok {t t0 : StreamSM.T} {es eh sd : Bool} {blk : Blk} (h : StreamSM.handleHeaderFrame t es eh sd blk = .ok t0) :
    t0 = { t with hf := eh } := by
  obtain ⟨st, hf, rs, rn⟩ := t
  unfold StreamSM.handleHeaderFrame at h
  cases hb : StreamSM.blkErr blk <;> rw [hb] at h <;>
    cases hf <;> cases es <;> cases eh <;> cases sd <;> cases h <;> rfl

/-- the pseudo-header test at END_HEADERS, which the adapter folds into the block class -/
theorem hhfA_blk (t : StreamSM.T) (es eh sd : Bool) (w : WalkEnd × Msg.St × List MsgSpec.Field) :
    StreamSM.handleHeaderFrame t es eh sd (absBlk eh w) =
      match StreamSM.handleHeaderFrame t es eh sd (absBlk false w) with
      | .error e => .error e
      | .ok t' => if w.1.isOk && eh && !Msg.pseudoOK w.2.1 then .error (.strm .protocol) else .ok t' := by
  obtain ⟨we, m, fs⟩ := w
  by_cases hc : (WalkEnd.isOk we && eh && !Msg.pseudoOK m) = true
  · -- the block is in order but the pseudo-header fields are not: `malformed` instead of `wf`
    simp only [hc, if_true]
    simp only [Bool.and_eq_true] at hc
    obtain ⟨⟨h1, rfl⟩, h3⟩ := hc
    cases we <;> first | cases h1 | skip
    simp only [absBlk, h3, Bool.true_and, Bool.false_and, if_true, Bool.false_eq_true, if_false]
    obtain ⟨st, hf, rs, rn⟩ := t
    cases hf <;> cases es <;> cases sd <;> rfl
  · -- otherwise the class is the same, and the test changes nothing
    have h1 : absBlk eh (we, m, fs) = absBlk false (we, m, fs) := by
      cases we with
      | ok cut =>
        simp only [WalkEnd.isOk, Bool.true_and] at hc
        simp only [absBlk, hc, Bool.false_and, Bool.false_eq_true, if_false]
      | verdict v => cases v <;> rfl
      | _ => rfl
    simp only [hc, Bool.false_eq_true, if_false, h1]
    cases StreamSM.handleHeaderFrame t es eh sd (absBlk false (we, m, fs)) <;> rfl

theorem validatePseudo_abs (st : Strm) : (validatePseudo st = none ↔ Msg.pseudoOK (msgSt st) = true) ∧
    (∀ e, validatePseudo st = some e → e = .reset Gen.c_ProtocolError) := by
  simp only [validatePseudo, Msg.pseudoOK, msgSt]
  cases st.pMethod <;> cases st.pScheme <;> cases st.pPath <;> cases st.path.isEmpty <;> simp

theorem absT_K {a b : Strm} (h : K a = K b) (hf : Bool) (hh : a.headersFinished = hf) :
    absT a = { absT b with hf := hf } := by
  simp only [K, Prod.mk.injEq] at h
  simp only [absT, h, hh]

/-- **a header-bearing frame that `verifyState` and the finished-stream test let through**, against the abstract
`handleHeaderFrame` with the adapter's block class -/
theorem hf_hdr {r : R} {u sid : Nat} {st : Strm} (h : TB r u sid st) (fr : Frame) (hp : (headerPart fr).isSome = true)
    (heh : (hdrParts fr.body).2.1 = Frame.hasFlag fr.flags Gen.c_FlagEndHeaders) (hcl : 0 ≤ st.contentLength) :
    HFres r u sid st ((walkFrame r.s (some st) fr).2.1.hasCL && (walkFrame r.s (some st) fr).2.1.cl != st.recvBody)
      (hfHdr r u st fr)
      (StreamSM.handleHeaderFrame (absT st) (Frame.hasFlag fr.flags Gen.c_FlagEndStream) (Frame.hasFlag fr.flags Gen.c_FlagEndHeaders)
        (hdrSelfDep st fr.body) (absBlk (Frame.hasFlag fr.flags Gen.c_FlagEndHeaders) (walkFrame r.s (some st) fr))) := by
  obtain ⟨S1, S2⟩ := handleHeaderFrame_spec r.s st fr hp heh hcl
  have hK := handleHeaderFrame_K r.s st fr
  obtain ⟨T1, T2, T3, T4, T5⟩ := handleHeaderFrame_tbl r.s st fr
  have tb1 : TB (hdrUpd r u st fr) u sid (handleHeaderFrame r.s st fr).2.1 :=
    h.set _ (congrArg (·.1) hK) (congrArg (·.2.1) hK) (by simp only [hdrUpd, R.updStrm, T1]) T2
  -- the two tables `hfHdr` can leave: the stream object as the header frame leaves it, `headersFinished` set or not
  have more : ∀ {e : Option SErr} {a : Except StreamSM.Err StreamSM.T} {cm : Bool},
      (match a with
        | .error e' => e.map errRC = some (errAbsRC e')
        | .ok t' => e = none ∧ absT (handleHeaderFrame r.s st fr).2.1 = t' ∧ clm (handleHeaderFrame r.s st fr).2.1 = cm) →
      HFres r u sid st cm (hdrUpd r u st fr, e) a :=
    fun hv => ⟨rfl, T2, T3, T4, T5, _, tb1, congrArg (·.2.2.1) hK, K_resume hK, hv⟩
  have done : ∀ {e : Option SErr} {a : Except StreamSM.Err StreamSM.T} {cm : Bool},
      (match a with
        | .error e' => e.map errRC = some (errAbsRC e')
        | .ok t' => e = none ∧ absT { (handleHeaderFrame r.s st fr).2.1 with headersFinished := true } = t' ∧
            clm (handleHeaderFrame r.s st fr).2.1 = cm) →
      HFres r u sid st cm ((hdrUpd r u st fr).updStrm u fun s => { s with headersFinished := true }, e) a :=
    fun hv => ⟨rfl, T2, T3, T4, T5, _, tb1.upd _ rfl rfl, congrArg (·.2.2.1) hK, K_resume hK, hv⟩
  unfold hfHdr
  rw [hhfA_blk]
  generalize Frame.hasFlag fr.flags Gen.c_FlagEndHeaders = eh at S1 S2 ⊢
  generalize walkFrame r.s (some st) fr = w at S1 S2 ⊢
  cases hx : (handleHeaderFrame r.s st fr).2.2 with
  | some e =>
    rw [hx] at S1
    cases hA : StreamSM.handleHeaderFrame (absT st) (Frame.hasFlag fr.flags Gen.c_FlagEndStream) eh (hdrSelfDep st fr.body) (absBlk false w) with
    | error e0 => rw [hA] at S1; exact more S1
    | ok t0 => rw [hA] at S1; cases S1
  | none =>
    rw [hx] at S1
    obtain ⟨s1, s2, s3, s4, s5⟩ := S2 hx
    cases hA : StreamSM.handleHeaderFrame (absT st) (Frame.hasFlag fr.flags Gen.c_FlagEndStream) eh (hdrSelfDep st fr.body) (absBlk false w) with
    | error e0 => rw [hA] at S1; cases S1
    | ok t0 =>
      have ht0 := hhfA_ok hA
      have k8 : (handleHeaderFrame r.s st fr).2.1.recvBody = st.recvBody := congrArg (·.2.2.2.2.2.2.2) hK
      have hclm : clm (handleHeaderFrame r.s st fr).2.1 = (w.2.1.hasCL && w.2.1.cl != st.recvBody) := by
        simp only [clm, k8, s2, msgSt]
        congr 1
        rw [Bool.eq_iff_iff]; simp only [bne_iff_ne, ne_eq]; omega
      dsimp only
      cases eh with
      | false =>
        rw [if_neg Bool.false_ne_true, Bool.and_false, Bool.false_and, if_neg Bool.false_ne_true]
        exact more ⟨rfl, by rw [ht0]; exact absT_K hK _ (by rw [s5]; simp), hclm⟩
      | true =>
        rw [if_pos rfl, s4 rfl, s1]
        obtain ⟨v1, v2⟩ := validatePseudo_abs (handleHeaderFrame r.s st fr).2.1
        rw [← s2] at v1
        have hfin : absT { (handleHeaderFrame r.s st fr).2.1 with headersFinished := true } = t0 := by
          rw [ht0]; exact absT_K (a := { (handleHeaderFrame r.s st fr).2.1 with headersFinished := true }) hK true rfl
        cases hv : validatePseudo (handleHeaderFrame r.s st fr).2.1 with
        | none =>
          rw [v1.mp hv]
          exact done ⟨rfl, hfin, hclm⟩
        | some e =>
          have hq : Msg.pseudoOK w.2.1 = false := by
            cases hq : Msg.pseudoOK w.2.1
            · rfl
            · rw [v1.mpr hq] at hv; cases hv
          rw [v2 e hv, hq]
          exact done rfl

/-- **HEADERS on a stream of the table** (request block, trailers with and without END_STREAM, self-dependency, every block
class): `handleFrame` against the abstract model -/
theorem hf_headers {r : R} {u sid : Nat} {st : Strm} (h : TB r u sid st) (fr : Frame) (hwf : FrWF fr) (hres : st.state ≠ .reserved)
    (hs : fr.stream = sid) (hcl : 0 ≤ st.contentLength) (es eh : Bool) (prio : Option (Nat × Nat)) (frag : Bytes)
    (hb : fr.body = .headers es eh prio frag) (cm : Bool)
    (hcm : cm = ((walkFrame r.s (some st) fr).2.1.hasCL && (walkFrame r.s (some st) fr).2.1.cl != st.recvBody)) :
    HFspec r u sid st fr (absFrame r.s fr) cm := by
  unfold HFspec
  rw [handleFrame_eq, h.g]
  unfold StreamSM.handleFrame
  refine HFres.verify h (verifyState_abs r.s fr st hwf hres) fun _ _ => ?_
  obtain ⟨typ, flags, sid', len, body⟩ := fr
  simp only at hb hs; subst hs; subst hb; subst hcm
  simp only [FrWF] at hwf; obtain ⟨rfl, rfl, rfl⟩ := hwf
  obtain rfl := h.id
  simp only [absFrame, h.l]
  show HFres r u _ st _ (hfHeaders r u st _) _
  rw [hfHeaders_eq]
  exact ite_rel (by rw [rank_abs hres]; exact Iff.rfl) (fun _ => HFres.err h rfl _) fun _ => hf_hdr h _ rfl rfl hcl

theorem hf_cont {r : R} {u sid : Nat} {st : Strm} (h : TB r u sid st) (fr : Frame) (hwf : FrWF fr) (hres : st.state ≠ .reserved)
    (hs : fr.stream = sid) (hcl : 0 ≤ st.contentLength) (eh : Bool) (frag : Bytes)
    (hb : fr.body = .continuation eh frag) (cm : Bool)
    (hcm : cm = ((walkFrame r.s (some st) fr).2.1.hasCL && (walkFrame r.s (some st) fr).2.1.cl != st.recvBody)) :
    HFspec r u sid st fr (absFrame r.s fr) cm := by
  unfold HFspec
  rw [handleFrame_eq, h.g]
  unfold StreamSM.handleFrame
  refine HFres.verify h (verifyState_abs r.s fr st hwf hres) fun _ _ => ?_
  obtain ⟨typ, flags, sid', len, body⟩ := fr
  simp only at hb hs; subst hs; subst hb; subst hcm
  simp only [FrWF] at hwf; obtain ⟨rfl, rfl⟩ := hwf
  simp only [absFrame, h.l]
  show HFres r u sid' st _ (hfHeaders r u st _) _
  rw [hfHeaders_eq]
  exact ite_rel (by rw [rank_abs hres]; exact Iff.rfl) (fun _ => HFres.err h rfl _) fun _ => hf_hdr h _ rfl rfl hcl

end H2.Server.Lock.Refine
