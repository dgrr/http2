import H2.Proofs.StreamSMRefine.Run2
/-!
# C08 refinement — run level: `BX []` (while no GOAWAY has been written every stream of the table is neither idle
nor closed and its id is not in `resetByUs`) through the stream loop, the read loop and whole runs
-/
namespace H2.Server.Lock.Refine
open H2.Frame (Frame Body)
open H2.Server

section
variable {r r' : R} {D H E : List Nat}

theorem unknownStream_some {fr : Frame} {wc : Bool} {uid : Nat} (h : (unknownStream r fr wc).2 = some uid) :
    uid = r.s.nextUid ∧ (unknownStream r fr wc).1 = withNew r fr ∧ fr.typ = Gen.c_FrameHeaders ∧ r.s.lastID < fr.stream ∧
    r.s.resetByUs.contains fr.stream = false :=
  unknownStream_outcomes
    (P := fun x => x.2 = some uid → uid = r.s.nextUid ∧ x.1 = withNew r fr ∧ fr.typ = Gen.c_FrameHeaders ∧ r.s.lastID < fr.stream ∧
      r.s.resetByUs.contains fr.stream = false) r fr wc
    (fun _ _ h => nomatch h) (fun _ _ h => nomatch h) (fun _ _ h => nomatch h) (fun _ _ h => nomatch h) (fun _ h => nomatch h)
    (fun _ _ h => nomatch h) (fun _ _ _ _ h => nomatch h) (fun _ _ _ h => nomatch h) (fun _ h => nomatch h)
    (fun ht hrb _ _ _ hl _ h => ⟨(Option.some.inj h).symm, rfl, ht, hl, hrb⟩) h

theorem unknownStream_bx (fr : Frame) (wc : Bool) (hb : BX [] r) (hnf : ∀ k ∈ KL r, k.2.1 ≠ fr.stream) :
    (unknownStream r fr wc).2 = none → BX [] (unknownStream r fr wc).1 := by
  have hrefuse : BX [] (writeReset { r with s := { r.s with lastRefused := max r.s.lastRefused fr.stream } } fr.stream
      Gen.c_RefusedStreamError) := by
    refine hb.weak id (fun k hk hx => ⟨hk, hx⟩) fun k hk _ hh => ?_
    rcases writeReset_rb _ _ _ _ hh with h | h
    · exact h
    · exact absurd h (hnf k hk)
  exact unknownStream_cases (P := fun x => x.2 = none → BX [] x.1) r fr wc (fun _ => hb)
    (fun _ => hb.congr (congrArg (List.map key) (ccw_keeps r _).1) (ccw_keeps r _).2.2.2.2 (consumeConnWindow_closing r _))
    (fun _ _ _ => BX.closed (closeIfDone_cl (writeGoAway_cl _ _ _ _))) (fun _ _ _ => BX.closed rfl)
    (fun _ => hrefuse) (fun _ _ _ _ _ h => nomatch h)

theorem slStreamFrame_bx (hi : Inv D H E r) (hb : BX [] r) (fr : Frame) : BX [] (slStreamFrame r fr) := by
  have hnf : (if fr.stream ≤ r.s.lastID then r.s.strms.find? (·.id == fr.stream) else none) = none →
      ∀ k ∈ KL r, k.2.1 ≠ fr.stream := by
    intro hf k hk he
    simp only [KL, List.mem_map] at hk
    obtain ⟨x, hx, rfl⟩ := hk
    have hle : x.id ≤ r.s.lastID := by
      have := hi.ile x.sk (List.mem_map_of_mem hx); simpa [Strm.sk] using this
    simp only [key] at he
    rw [if_pos (he ▸ hle)] at hf
    have := List.find?_eq_none.mp hf x hx
    simp [he] at this
  refine slStreamFrame_cases r fr (fun st hf => ?_) (fun hf hu => ?_) (fun uid hf hu => ?_)
  · have hf' : r.s.strms.find? (·.id == fr.stream) = some st := by
      split at hf
      · exact hf
      · cases hf
    have hm : st ∈ r.s.strms := List.mem_of_find?_eq_some hf'
    have hid : st.id = fr.stream := by simpa using List.find?_some hf'
    have hg : r.getStrm st.uid = some st := find_uid_of_mem _ _ hi.uidNodup hm
    refine knownStream_bx hi hg fr hid _ (fun hc k hk _ => hb hc k hk (by simp)) (fun hc => ?_)
    obtain ⟨g1, g2, g3⟩ := hb hc (key st) (List.mem_map_of_mem hm) (by simp)
    exact ⟨g3, g2, fun h => absurd h g1⟩
  · exact unknownStream_bx fr r.s.closing hb (hnf hf) hu
  · obtain ⟨e1, e2, e3, _, e4⟩ := unknownStream_some hu
    have hi1 : Inv D H E (withNew r fr) := e2 ▸ unknownStream_inv fr r.s.closing hi
    have hnu : ∀ x ∈ r.s.strms, ¬ x.uid = r.s.nextUid := fun x hx e => by
      have := hi.ult x.sk (List.mem_map_of_mem hx); simp [Strm.sk] at this; omega
    have hg : (withNew r fr).getStrm r.s.nextUid = some (newStrm r fr) := by
      simp only [R.getStrm, withNew, List.find?_append]
      rw [List.find?_eq_none.mpr (by intro x hx; simpa using hnu x hx)]
      simp [newStrm]
    rw [e2, e1]
    refine knownStream_bx hi1 hg fr rfl _ ?_ (fun _ => ⟨e4, by simp [newStrm], fun _ => e3⟩)
    intro hc k hk hku
    simp only [KL, withNew, List.map_append, List.map_cons, List.map_nil, List.mem_append, List.mem_singleton] at hk
    rcases hk with hk | rfl
    · exact hb hc k hk (by simp)
    · exact absurd rfl hku

/-! ## `flushStreams`, `closeDone` -/

theorem closeDone_eff (hun : (r.s.strms.map (·.uid)).Nodup) (hidn : (r.s.strms.map (·.id)).Nodup) (u : Nat) :
    (∀ k ∈ KL (closeDone r u), k ∈ KL r ∧ k.1 ≠ u) ∧ (closeDone r u).s.resetByUs = r.s.resetByUs ∧
    (closeDone r u).s.closing = r.s.closing := by
  simp only [closeDone]
  have hs : ∀ k ∈ KL (r.updStrm u fun s => { s with state := .closed }), k.1 ≠ u → k ∈ KL r := (eff_close u 0 r).2.1
  have hun' : ((r.updStrm u fun s => { s with state := StState.closed }).s.strms.map (·.uid)).Nodup := by
    rw [show (r.updStrm u fun s => { s with state := StState.closed }).s.strms.map (·.uid) = r.s.strms.map (·.uid) from
      map_keep_pi (·.uid) _ _ _ fun _ => rfl]; exact hun
  have hidn' : ((r.updStrm u fun s => { s with state := StState.closed }).s.strms.map (·.id)).Nodup := by
    rw [show (r.updStrm u fun s => { s with state := StState.closed }).s.strms.map (·.id) = r.s.strms.map (·.id) from
      map_keep_pi (·.id) _ _ _ fun _ => rfl]; exact hidn
  cases hg : (r.updStrm u fun s => { s with state := StState.closed }).getStrm u with
  | none =>
    rw [fe_closeStream_none hg]
    exact ⟨fun k hk => ⟨hs k hk (getStrm_none_key hg k hk), getStrm_none_key hg k hk⟩, rfl, rfl⟩
  | some st =>
    obtain ⟨c1, c2, c3⟩ := closeStream_eff hun' hidn' hg
    exact ⟨fun k hk => ⟨hs k (c1 k hk).1 (c1 k hk).2, (c1 k hk).2⟩, c2, c3⟩

theorem kl_id_inj (hidn : (r.s.strms.map (·.id)).Nodup) {k k' : Nat × Nat × StState} (hk : k ∈ KL r) (hk' : k' ∈ KL r)
    (h : k.2.1 = k'.2.1) : k = k' := by
  obtain ⟨x, hx, rfl⟩ := List.mem_map.mp hk
  obtain ⟨x', hx', rfl⟩ := List.mem_map.mp hk'
  rw [nodup_map_inj (·.id) _ hidn x x' hx hx' h]

theorem flushOne_bx (acc : R × List Nat) (u : Nat) (a : Inv D H E acc.1) (b : BX acc.2 acc.1) :
    BX (flushOne acc u).2 (flushOne acc u).1 := by
  refine flushOne_cases (P := fun x => BX x.2 x.1) acc u b fun st hg => ?_
  have hc := C1.of_nodup a.uidNodup u
  have q := sendData_local u (r := acc.1)
  refine b.weak (by rw [q.closing]; exact id) (fun k hk hx => ⟨q.kl hc ▸ hk, fun hx' => hx ?_⟩) ?_
  · dsimp only
    split
    · exact List.mem_append_left _ hx'
    · exact hx'
  · intro k hk hx hh
    rcases q.rb hc _ hh with h | ⟨hfin, k0, hk0, hu0, hid0⟩
    · exact h
    · -- an RST_STREAM went out on `u`, the response is over, `u` is on the list: and `k` is the key of `u`
      refine absurd ?_ hx
      dsimp only
      rw [if_pos hfin, kl_id_inj a.idNodup (q.kl hc ▸ hk) hk0 hid0.symm, hu0]
      exact List.mem_append_right _ (List.mem_singleton.mpr rfl)

theorem flushStreams_bx (hi : Inv D H E r) (hb : BX [] r) : BX [] (flushStreams r) := by
  simp only [flushStreams]
  -- the first fold collects the streams whose response ended; everything outside that list stays good
  have h1 := foldl_inv (fun acc => Inv D H E acc.1 ∧ BX acc.2 acc.1) flushOne
    (fun acc u h => ⟨flushOne_inv acc u h.1, flushOne_bx acc u h.1 h.2⟩) (r.s.strms.map (·.uid)) (r, []) ⟨hi, hb⟩
  -- the second fold closes them one by one
  have h2 : ∀ (l X : List Nat) (x : R), Inv D H E x → BX X x →
      (∀ k ∈ KL x, k.1 ∈ X → k.1 ∈ l) → BX [] (l.foldl closeDone x) := by
    intro l
    induction l with
    | nil =>
      intro X x _ b hx hc k hk _
      exact b hc k hk (fun h => by have := hx k hk h; cases this)
    | cons u l ih =>
      intro X x hn b hx
      obtain ⟨c1, c2, c3⟩ := closeDone_eff hn.uidNodup hn.idNodup u
      refine ih X _ (closeDone_inv u hn) ?_ ?_
      · exact b.weak (by rw [c3]; exact id) (fun k hk hxx => ⟨(c1 k hk).1, hxx⟩) (fun k _ _ hh => c2 ▸ hh)
      · intro k hk hX
        obtain ⟨hk0, hne⟩ := c1 k hk
        rcases List.mem_cons.mp (hx k hk0 hX) with h | h
        · exact absurd h hne
        · exact h
  exact h2 _ _ _ h1.1 h1.2 (fun k _ h => h)

theorem applyDelta_kl (d : Int) (l : List Strm) : (applyDelta d l).1.map key = l.map key := by
  induction l with
  | nil => rfl
  | cons a l ih =>
    simp only [applyDelta]
    split
    · simp [key]
    · simp [key, ih]

theorem closeIfClosing_bx {X : List Nat} (h : BX X r) : BX X (closeIfClosing r) := stopIf_bx _ h

theorem slFrame_bx (hi : Inv D H E r) (hb : BX [] r) (fr : Frame) : BX [] (slFrame r fr) := by
  have hf : Inv D H E ({ r with fwd := r.fwd ++ [fr] } : R) := hi.congr rfl rfl rfl rfl rfl rfl rfl
  have hbf : BX [] ({ r with fwd := r.fwd ++ [fr] } : R) := hb.congr rfl rfl rfl
  refine slFrame_cases r fr (fun _ => hb) (fun _ _ => BX.closed rfl) (fun st _ => ?_)
    (fun _ _ => closeIfClosing_bx (hbf.congr rfl rfl rfl)) (fun _ _ => BX.closed rfl)
    (fun inc _ => closeIfClosing_bx (flushStreams_bx (hi.congr rfl rfl rfl rfl rfl rfl rfl) (hb.congr rfl rfl rfl)))
    (closeIfClosing_bx hbf) (fun _ => slStreamFrame_bx hf hbf fr)
  have h2 : Inv D H E (withInitWin (applyTableSize { r with fwd := r.fwd ++ [fr] } st) st) :=
    (applyTableSize_inv st hf).congr (applyDelta_sk _ _) (applyDelta_sk2 _ _) rfl rfl rfl rfl rfl
  exact closeIfClosing_bx (flushStreams_bx h2 (hbf.congr (applyDelta_kl _ _) rfl rfl))

/-! ## a handler reporting back -/

theorem kl_uid (r : R) : r.s.strms.map (·.uid) = (KL r).map (·.1) := by simp [KL, key, List.map_map, Function.comp_def]
theorem kl_id (r : R) : r.s.strms.map (·.id) = (KL r).map (·.2.1) := by simp [KL, key, List.map_map, Function.comp_def]

theorem answered_bx (hi : Inv D H E r) (hb : BX [] r) (u : Nat) (resp : Resp) : BX [] (answered r u resp) := by
  have hc := C1.of_nodup hi.uidNodup u
  have q := (Local.field u r fun s => { s with handlerRunning := false }).trans
    (finishRequest_local u resp (r := r.updStrm u fun s => { s with handlerRunning := false }))
  have hkl := q.kl hc
  unfold answered
  generalize finishRequest (r.updStrm u fun s => { s with handlerRunning := false }) u resp = x at q hkl
  cases hx2 : x.2
  · rw [hx2] at q
    rw [if_neg Bool.false_ne_true]
    exact hb.congr hkl (q.rb_eq rfl) q.closing
  · rw [if_pos rfl]
    have hun : (x.1.s.strms.map (·.uid)).Nodup := by rw [kl_uid, hkl, ← kl_uid]; exact hi.uidNodup
    have hidn : (x.1.s.strms.map (·.id)).Nodup := by rw [kl_id, hkl, ← kl_id]; exact hi.idNodup
    obtain ⟨c1, c2, c3⟩ := closeDone_eff hun hidn u
    refine hb.weak (by rw [c3, q.closing]; exact id) (fun k hk hxx => ⟨hkl ▸ (c1 k hk).1, hxx⟩) ?_
    intro k hk _ hh
    rw [c2] at hh
    rcases q.rb hc _ hh with h | ⟨_, k0, hk0, hu0, hid0⟩
    · exact h
    · -- the RST_STREAM was on the stream that has just been closed, and `k` would be its key
      exact absurd (kl_id_inj hi.idNodup (hkl ▸ (c1 k hk).1) hk0 hid0.symm ▸ hu0) (c1 k hk).2

theorem slHandlerDone_bx (hi : Inv D H E r) (hb : BX [] r) (sid : Nat) (resp : Resp) : BX [] (slHandlerDone r sid resp) := by
  have h0 : ∀ r0, (r0 = r ∨ r0 = r.emit .handlerPanicLogged) → Inv D H E r0 ∧ BX [] r0 := by
    rintro r0 (rfl | rfl)
    · exact ⟨hi, hb⟩
    · exact ⟨emit_inv _ rfl rfl rfl hi, hb.congr rfl rfl rfl⟩
  refine slHandlerDone_cases r sid resp (fun r0 hr => (h0 r0 hr).2) (fun r0 st hr _ => ?_)
    (fun r0 st hr _ b => stopIf_bx b (answered_bx (h0 r0 hr).1 (h0 r0 hr).2 st.uid resp))
  exact releaseStream_cases _ st (fun _ => (h0 r0 hr).2.congr rfl rfl rfl) fun _ => (h0 r0 hr).2.congr rfl rfl rfl

/-! ## the read loop, steps, runs -/

theorem rlFrame_bx (hi : Inv D H E r) (hb : BX [] r) (fr : Frame) : BX [] (rlFrame r fr) := by
  have hci := contCheck_inv fr hi
  have hcb : BX [] (contCheck r fr).1 :=
    contCheck_cases (P := fun x => BX [] x.1) r fr (fun _ => BX.closed (writeGoAway_cl _ _ _ _)) (fun _ => hb.congr rfl rfl rfl)
  exact rlFrame_cases r fr (fun _ => hcb.congr rfl rfl rfl) (fun _ _ _ => BX.closed rfl)
    (fun _ => slFrame_bx hci hcb _) (fun _ _ _ => slFrame_bx (handleSettings_inv _ hci) (hcb.congr rfl rfl rfl) _)
    (fun _ _ => hcb.congr rfl rfl rfl) (fun _ => hcb)

theorem rlDrain_bx (fuel : Nat) (hi : Inv D H E r) (hb : BX [] r) : BX [] (rlDrain fuel r) := by
  induction fuel generalizing r with
  | zero => exact hb
  | succ n ih =>
    have hi' : ∀ k, Inv D H E ({ r with s := { r.s with inbuf := r.s.inbuf.drop k } } : R) :=
      fun k => hi.congr rfl rfl rfl rfl rfl rfl rfl
    have hb' : ∀ k, BX [] ({ r with s := { r.s with inbuf := r.s.inbuf.drop k } } : R) := fun k => hb.congr rfl rfl rfl
    exact rlDrain_cases n r hb (fun _ _ _ => ih (rlFrame_inv _ (hi' _)) (rlFrame_bx (hi' _) (hb' _) _))
      (fun _ => ih (hi' _) (hb' _)) (fun _ _ _ => BX.closed rfl) (hb.congr rfl rfl rfl)

theorem stepR_bx (s : Srv) (ev : Event) (hi : Inv D H E { s := s }) (hb : BX [] { s := s }) : BX [] (stepR s ev) := by
  simp only [stepR]
  have hs : ∀ x : R, BX [] x → BX [] (settle x) := fun x hx => settle_cases x hx (hx.congr rfl rfl rfl)
  apply hs
  cases ev with
  | bytes b => exact rlDrain_bx _ (hi.congr rfl rfl rfl rfl rfl rfl rfl) (hb.congr rfl rfl rfl)
  | done sid resp => exact slHandlerDone_bx hi hb sid resp
  | cut => exact hb.congr rfl rfl rfl
  | idle => exact BX.closed rfl

end

theorem runFrom_bx {D H E : List Nat} (s : Srv) (evs : List Event) (hi : InvS D H E s) (hb : BX [] { s := s }) :
    BX [] { s := (runFrom s evs).1 } := by
  induction evs generalizing s D H E with
  | nil => exact hb
  | cons ev evs ih =>
    simp only [runFrom]
    exact ih _ (step_invS ev hi) ((stepR_bx s ev hi hb).congr rfl rfl rfl)

theorem run_bx (cfg : Cfg) (evs : List Event) : BX [] { s := (run cfg evs).1 } :=
  runFrom_bx _ evs (init_invS cfg) (fun _ k hk => by simp [KL] at hk)

theorem reachable_live (cfg : Cfg) (evs : List Event) (hc : (run cfg evs).1.closing = false) :
    ∀ st ∈ (run cfg evs).1.strms, st.state ≠ .idle ∧ st.state ≠ .closed ∧ (run cfg evs).1.resetByUs.contains st.id = false := by
  intro st hm
  exact run_bx cfg evs hc (key st) (List.mem_map_of_mem hm) (by simp)

theorem reachable_sinv' (cfg : Cfg) (evs : List Event) (ib : Bytes) (hc : (run cfg evs).1.closing = false) :
    SInv { (run cfg evs).1 with inbuf := ib } :=
  reachable_sinv cfg evs ib (fun st hm => ⟨(reachable_live cfg evs hc st hm).1, (reachable_live cfg evs hc st hm).2.1⟩)
    (fun st hm => (reachable_live cfg evs hc st hm).2.2)

/-- **Step refinement in every reachable state before the first GOAWAY**: the only side condition left is that the frame's
stream (if in the table) has no response data waiting to go out -/
theorem reachable_frame_refines' (cfg : Cfg) (evs : List Event) (ib : Bytes) (fr : Frame) (hwf : FrWF fr) (h0 : fr.stream ≠ 0)
    (hsl : (run cfg evs).1.slStopped = false) (hc : (run cfg evs).1.closing = false)
    (hnr : ∀ st, lookup (run cfg evs).1 fr.stream = some st → resume st = false) :
    let s : Srv := { (run cfg evs).1 with inbuf := ib }
    absReaction (StreamSM.react (absPos s fr.stream) (absFrame s fr) (absCtx s fr.stream (some fr))).1 =
      fullReaction (rlFrame { s := s } fr).out fr.stream ∧
    (isConn (StreamSM.react (absPos s fr.stream) (absFrame s fr) (absCtx s fr.stream (some fr))).1 = false →
      absPos (rlFrame { s := s } fr).s fr.stream =
        (StreamSM.react (absPos s fr.stream) (absFrame s fr) (absCtx s fr.stream (some fr))).2) :=
  frame_refines _ fr (reachable_sinv' cfg evs ib hc) hwf h0 hsl hnr

end H2.Server.Lock.Refine
