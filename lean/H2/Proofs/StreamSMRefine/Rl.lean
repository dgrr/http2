import H2.Proofs.StreamSMRefine.Step
/-!
# C08 refinement — one parsed frame through the read loop (`rlFrame`): exactly what `Lock.StreamSM.checkFrame` compares
-/
namespace H2.Server.Lock.Refine
open H2.Frame (Frame Body)
open H2.Server
open H2.Server.StreamSM (Pos Fr Ctx Reaction Code TSt Cmp Inc Blk BlockOn)

/-- the read loop's verdict, read off the full state and the frame -/
def rlOf (s : Srv) (fr : Frame) : Bool :=
  if s.expectCont != 0 then !(fr.typ == Gen.c_FrameContinuation && fr.stream == s.expectCont)
  else if fr.typ == Gen.c_FrameContinuation then true
  else if fr.typ == Gen.c_FramePing || fr.typ == Gen.c_FramePushPromise then true
  else fr.stream % 2 == 0

theorem absPos_cases_odd (s : Srv) (sid : Nat) (hodd : sid % 2 = 1) :
    (∃ a b c d, absPos s sid = .tab a b c d) ∨ (∃ a b c, absPos s sid = .out a b c) := by
  cases hl : lookup s sid with
  | some st => exact Or.inl ⟨_, _, _, _, absPos_tab hodd hl⟩
  | none => exact Or.inr ⟨_, _, _, absPos_out hodd hl⟩

theorem rl_eq (p : Pos) (f : Fr) (c : Ctx) :
    StreamSM.rl p f c =
      if c.block != .none then
        (if !(frTag f == Gen.c_FrameContinuation && c.block == .this) then some (.connErr .protocol) else none)
      else if frTag f == Gen.c_FrameContinuation then some (.connErr .protocol)
      else if frTag f == Gen.c_FrameContinuation + 1 then some .ignore
      else if frTag f == Gen.c_FramePing || frTag f == Gen.c_FramePushPromise then some (.connErr .protocol)
      else match p with
        | .even => some (.connErr .protocol)
        | _ => none := by
  cases f <;> rfl

theorem rl_abs (s : Srv) (fr : Frame) (hwf : FrWF fr) :
    StreamSM.rl (absPos s fr.stream) (absFrame s fr) (absCtx s fr.stream (some fr)) =
      if rlOf s fr then some (.connErr .protocol) else none := by
  have hext : (fr.typ == Gen.c_FrameContinuation + 1) = false :=
    beq_eq_false_iff_ne.mpr (Nat.ne_of_lt (Nat.lt_succ_of_le (absFrame_tag s fr hwf).1))
  have hblock : (absCtx s fr.stream (some fr)).block =
      if s.expectCont == 0 then .none else if s.expectCont == fr.stream then .this else .other := rfl
  rw [rl_eq, hblock, absFrame_tag_beq s fr hwf _ (by decide) (by decide), absFrame_tag_beq s fr hwf _ (by decide) (by decide),
    absFrame_tag_beq s fr hwf _ (by decide) (by decide), absFrame_tag_beq s fr hwf _ (by decide) (by decide), hext]
  unfold rlOf
  by_cases he : s.expectCont = 0
  · simp only [he, beq_self_eq_true, if_true, bne_self_eq_false, Bool.false_eq_true, if_false]
    cases fr.typ == Gen.c_FrameContinuation
    case true => rfl
    cases fr.typ == Gen.c_FramePing || fr.typ == Gen.c_FramePushPromise
    case true => rfl
    simp only [Bool.false_eq_true, if_false]
    by_cases hp : fr.stream % 2 = 0
    · rw [absPos_even hp]; simp only [hp, beq_self_eq_true, if_true]
    · have hodd : fr.stream % 2 = 1 := by omega
      rcases absPos_cases_odd s fr.stream hodd with ⟨a, b, c, d, e⟩ | ⟨a, b, c, e⟩ <;> rw [e] <;> simp +decide only [hodd, if_false]
  · have hne : (s.expectCont == 0) = false := beq_eq_false_iff_ne.mpr he
    simp only [hne, Bool.false_eq_true, if_false, bne, Bool.not_false, if_true]
    cases fr.typ == Gen.c_FrameContinuation
    case false => split <;> rfl
    by_cases hs : s.expectCont = fr.stream
    · simp +decide only [hs, beq_self_eq_true, if_true, Bool.and_self, Bool.not_true, Bool.false_eq_true, if_false]
    · have h1 : (s.expectCont == fr.stream) = false := beq_eq_false_iff_ne.mpr hs
      have h2 : (fr.stream == s.expectCont) = false := beq_eq_false_iff_ne.mpr (Ne.symm hs)
      simp +decide only [h1, h2, Bool.false_eq_true, if_false, Bool.and_false, Bool.not_false, if_true]

theorem SInv.ec {s : Srv} (h : SInv s) (e : Nat) : SInv { s with expectCont := e } :=
  ⟨h.un, h.idn, h.ult, h.ile, h.live, h.cl, h.nrb⟩

theorem contCheck_pass (s : Srv) (fr : Frame) (hr : rlOf s fr = false) :
    (∃ e, contCheck { s := s } fr = ({ s := { s with expectCont := e } }, false)) ∧
    fr.typ ≠ Gen.c_FramePing ∧ fr.typ ≠ Gen.c_FramePushPromise := by
  simp only [rlOf] at hr
  by_cases he : s.expectCont = 0
  · simp only [he, bne_self_eq_false, Bool.false_eq_true, if_false] at hr
    by_cases hc : fr.typ = Gen.c_FrameContinuation
    · simp [hc] at hr
    · by_cases hpi : fr.typ = Gen.c_FramePing
      · simp +decide [hpi] at hr
      · by_cases hpp : fr.typ = Gen.c_FramePushPromise
        · simp +decide [hpp] at hr
        · refine ⟨?_, hpi, hpp⟩
          simp only [contCheck, he, bne_self_eq_false, Bool.false_eq_true, if_false]
          have hc' : (fr.typ == Gen.c_FrameContinuation) = false := by simpa using hc
          simp only [hc', Bool.false_eq_true, if_false]
          split
          · exact ⟨_, rfl⟩
          · exact ⟨s.expectCont, rfl⟩
  · have hne : (s.expectCont != 0) = true := by simpa using he
    simp only [hne, if_true, Bool.not_eq_false', Bool.and_eq_true, beq_iff_eq] at hr
    obtain ⟨hc, hs⟩ := hr
    refine ⟨?_, by rw [hc]; decide, by rw [hc]; decide⟩
    simp only [contCheck, hne, if_true, hc, hs, bne_self_eq_false, Bool.or_self, Bool.false_eq_true, if_false]
    split
    · exact ⟨_, rfl⟩
    · exact ⟨s.expectCont, rfl⟩

@[simp] theorem rlStop_out (r : R) : (rlStop r).out = r.out := rfl

/-- the read loop's own answer: GOAWAY(PROTOCOL_ERROR) and the loop stops; before that at most `expectCont` has moved -/
def Rejected (s : Srv) (x : R) : Prop :=
  ∃ e tag, x = rlStop (writeGoAway { s := { s with expectCont := e } } 0 Gen.c_ProtocolError tag)

theorem rlFrame_rejects (s : Srv) (fr : Frame) (h0 : fr.stream ≠ 0) (hr : rlOf s fr = true) : Rejected s (rlFrame { s := s } fr) := by
  -- the CONTINUATION check ends the loop with such a GOAWAY, or it lets through a frame that `rlFrame` itself rejects
  have hc : ((contCheck { s := s } fr).2 = true ∧ ∃ tag, (contCheck { s := s } fr).1 = writeGoAway { s := s } 0 Gen.c_ProtocolError tag) ∨
      ((contCheck { s := s } fr).2 = false ∧ (∃ e, (contCheck { s := s } fr).1 = { s := { s with expectCont := e } }) ∧
        (if fr.typ == Gen.c_FramePing || fr.typ == Gen.c_FramePushPromise then true else fr.stream % 2 == 0) = true) := by
    unfold rlOf at hr
    unfold contCheck
    by_cases he : (s.expectCont != 0) = true
    · rw [if_pos he, Bool.not_and, ← bne, ← bne] at hr
      rw [if_pos he, if_pos hr]
      exact Or.inl ⟨rfl, _, rfl⟩
    rw [if_neg he] at hr ⊢
    by_cases hc : (fr.typ == Gen.c_FrameContinuation) = true
    · rw [if_pos hc]; exact Or.inl ⟨rfl, _, rfl⟩
    rw [if_neg hc] at hr ⊢
    exact Or.inr (ite_ind (P := fun c : R × Bool => c.2 = false ∧ (∃ e, c.1 = { s := { s with expectCont := e } }) ∧ _)
      (fun _ => ⟨rfl, ⟨_, rfl⟩, hr⟩) fun _ => ⟨rfl, ⟨s.expectCont, rfl⟩, hr⟩)
  unfold rlFrame
  dsimp only
  rcases hc with ⟨h1, tag, h2⟩ | ⟨h1, ⟨e, h2⟩, h3⟩
  · rw [if_pos h1, h2]; exact ⟨s.expectCont, tag, rfl⟩
  rw [h1, h2, if_neg Bool.false_ne_true, if_pos (bne_iff_ne.mpr h0)]
  refine ite_ind (fun _ => ⟨e, _, rfl⟩) fun hev => ?_
  refine ite_ind (fun _ => ⟨e, _, rfl⟩) fun hpi => ?_
  refine ite_ind (fun _ => ⟨e, _, rfl⟩) fun hpp => ?_
  rw [Bool.not_eq_true] at hpi hpp hev
  rw [hpi, hpp, hev] at h3
  cases h3

theorem rlFrame_passes (s : Srv) (fr : Frame) (h0 : fr.stream ≠ 0) (hsl : s.slStopped = false) (hr : rlOf s fr = false) :
    ∃ e, rlFrame { s := s } fr =
      if fr.stream % 2 = 0 then rlStop (writeGoAway { s := { s with expectCont := e } } 0 Gen.c_ProtocolError "invalid stream id")
      else slStreamFrame { s := { s with expectCont := e }, fwd := [fr] } fr := by
  obtain ⟨⟨e, hcc⟩, hnp, hnpp⟩ := contCheck_pass s fr hr
  refine ⟨e, ?_⟩
  unfold rlFrame
  dsimp only
  rw [hcc, if_neg Bool.false_ne_true, if_pos (bne_iff_ne.mpr h0)]
  by_cases hev : fr.stream % 2 = 0
  · rw [if_pos hev, if_pos (beq_iff_eq.mpr hev)]
  · rw [if_neg hev, if_neg (fun h => hev (beq_iff_eq.mp h)), if_neg (fun h => hnp (beq_iff_eq.mp h)),
      if_neg (fun h => hnpp (beq_iff_eq.mp h))]
    unfold slFrame
    rw [if_neg (by rw [hsl]; exact Bool.false_ne_true), if_neg (fun h => h0 (beq_iff_eq.mp h))]
    rfl

/-- **Step refinement, one parsed frame through the read loop** — the statement of `Lock.StreamSM.checkFrame`: in a state
with `SInv`, stream loop running, for every parsed frame with a stream id whose stream (if in the table) has no response
data waiting to go out, the reaction string of `StreamSM.react` on the adapter's abstraction equals the one read off the
full model's outputs for the frame, and unless the reaction is a connection error the abstract next place is `absPos` of
the state after. -/
theorem frame_refines (s : Srv) (fr : Frame) (hI : SInv s) (hwf : FrWF fr) (h0 : fr.stream ≠ 0) (hsl : s.slStopped = false)
    (hnr : ∀ st, lookup s fr.stream = some st → resume st = false) :
    absReaction (StreamSM.react (absPos s fr.stream) (absFrame s fr) (absCtx s fr.stream (some fr))).1 =
      fullReaction (rlFrame { s := s } fr).out fr.stream ∧
    (isConn (StreamSM.react (absPos s fr.stream) (absFrame s fr) (absCtx s fr.stream (some fr))).1 = false →
      absPos (rlFrame { s := s } fr).s fr.stream =
        (StreamSM.react (absPos s fr.stream) (absFrame s fr) (absCtx s fr.stream (some fr))).2) := by
  rw [react_eq, rl_abs s fr hwf]
  by_cases hr : rlOf s fr = true
  · -- the read loop answers itself: GOAWAY(PROTOCOL_ERROR)
    obtain ⟨e, tag, hrl⟩ := rlFrame_rejects s fr h0 hr
    rw [if_pos hr, hrl]
    exact ⟨reaction_str (by rw [fullRC_eq]; rfl), fun h => by cases h⟩
  · -- the frame goes on to the stream loop
    rw [Bool.not_eq_true] at hr
    obtain ⟨e, hrl⟩ := rlFrame_passes s fr h0 hsl hr
    rw [hr, if_neg Bool.false_ne_true, hrl]
    by_cases hev : fr.stream % 2 = 0
    · rw [absPos_even hev, if_pos hev]
      exact ⟨reaction_str (by rw [fullRC_eq]; rfl), fun h => by cases h⟩
    · have hb := reactSL_block (absPos s fr.stream) (absFrame s fr) (absCtx s fr.stream (some fr))
        (absCtx { s with expectCont := e } fr.stream (some fr)).block
      rw [if_neg hev, ← hb]
      exact sl_refines { s := { s with expectCont := e }, fwd := [fr] } fr (hI.ec e) hwf (by omega) rfl hnr

end H2.Server.Lock.Refine
