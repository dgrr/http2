import H2.Proofs.HpackDec
/-! Helper lemmas for C16: totality of the HPACK and Huffman decoder models (`H2.Hpack.Dec.next` as it is in
Hpack/Model.lean, `H2.Huffman.decode`): every successful step consumes input, decoded strings are bounded by it. -/
namespace H2.Huffman
open H2

theorem fact_minlen : Gen.huffLens.all (fun n => decide (5 ≤ n)) = true := by decide +kernel

theorem code_len_ge (x : Nat) (hx : x < 256) : 5 ≤ (code x).length := by
  rw [← huffLens_length] at hx
  have := List.all_eq_true.mp fact_minlen _ (List.getElem_mem hx)
  simpa [code, bitsOf_length, List.getD_eq_getElem?_getD, hx] using this

theorem encBits_len_ge (s : List Nat) (hs : ∀ x ∈ s, x < 256) : 5 * s.length ≤ (encBits s).length := by
  induction s with
  | nil => simp [encBits]
  | cons x t ih =>
    have h1 := code_len_ge x (hs x (by simp))
    have h2 := ih (fun y hy => hs y (by simp [hy]))
    simp only [encBits, List.flatMap_cons, List.length_append, List.length_cons] at *
    omega

/-- **huff_total**: Huffman decoding is a total function whose output is bounded by its input: every
symbol costs at least 5 bits -/
theorem decode_bound (b s : Bytes) (h : decode b = some s) : 5 * s.length ≤ 8 * b.length := by
  unfold decode at h
  obtain ⟨k, _, hbits, hs⟩ := (dec_iff _ _).1 h
  have h1 := encBits_len_ge s hs
  have h2 := unpack_length b
  rw [hbits] at h2
  simp only [List.length_append, List.length_replicate] at h2
  omega

end H2.Huffman
namespace H2.Hpack
open H2

theorem readString_bound (b s r : Bytes) (h : readString b = .ok s r) :
    r.length < b.length ∧ 5 * s.length ≤ 8 * (b.length - r.length) := by
  refine ⟨readString_progress b s r h, ?_⟩
  obtain ⟨n, r', hi, hn, rfl, hs⟩ := readString_ok h
  have := readInt_progress _ _ _ _ hi
  have hb : 5 * s.length ≤ 8 * n := by
    rcases hs with rfl | hd
    · rw [List.length_take]; omega
    · have := Huffman.decode_bound _ _ hd
      rw [List.length_take] at this; omega
  rw [List.length_drop]; omega

theorem readName_lt (st : DecState) (n : Nat) (b name r : Bytes) (h : readName st n b = .inl (some (name, r))) :
    r.length < b.length := by
  unfold readName at h
  split at h
  · cases h
  · split at h
    · split at h
      · rename_i hs
        have := readString_progress _ _ _ hs
        cases h; simp; omega
      · cases h
      · cases h
    · split at h
      · rename_i hi
        have := readInt_progress _ _ _ _ hi
        split at h
        · cases h; omega
        · cases h
      · cases h
      · cases h

theorem readLiteral_bound (st : DecState) (n : Nat) (b name v r : Bytes)
    (h : readLiteral st n b = .inl (some (name, v, r))) :
    r.length < b.length ∧ 5 * v.length ≤ 8 * (b.length - r.length) := by
  unfold readLiteral at h
  split at h
  · rename_i hn
    have h1 := readName_lt _ _ _ _ _ hn
    split at h
    · rename_i hs
      have h2 := readString_bound _ _ _ hs
      cases h; omega
    · cases h
    · cases h
  · cases h
  · cases h

theorem nextFuel_lt (fuel : Nat) (st : DecState) (bs : Bool) (fp : Nat) (b : Bytes) (st' : DecState) (f : Option Field)
    (rest : Bytes) (hne : b ≠ []) (h : nextFuel fuel st bs fp b = .ok st' f rest) : rest.length < b.length := by
  rw [nextFuel_eq] at h
  obtain ⟨w, hb, hw, hn⟩ := stepFuel_suffix _ _ _ _ _ _ _ _ h
  cases f with
  | none => rw [hn rfl]; exact List.length_pos_iff.mpr hne
  | some f => exact length_lt_of_suffix (hw rfl) hb

end H2.Hpack
