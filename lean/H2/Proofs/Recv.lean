import H2.Server.Abs.Recv
/-! Helper lemmas for C14, server half (abstract receive-credit model `H2.Server.Abs.Recv`). -/
namespace H2.Server.Abs.Recv

theorem maxWin_val : maxWin = 4194304 := by decide

structure Inv (st : St) : Prop where
  lo : maxWin / 2 ≤ st.recvWin
  hi : st.recvWin ≤ maxWin
  lostLe : st.lost ≤ st.received
  cons : (st.credited : Int) + (maxWin - st.recvWin) = (st.received : Int) - st.lost
  leds : ∀ l ∈ st.leds, l.credited + l.final = l.received
  nz : ∀ sid inc, Rec.wu sid inc ∈ st.trace → 0 < inc

theorem init_inv : Inv init := by
  constructor <;> simp [init, maxWin_val]

/-- what one `consumeConnWindow` does to the ledger -/
structure ConnSpec (st : St) (n : Nat) (st' : St) : Prop where
  lo : maxWin / 2 ≤ st'.recvWin
  hi : st'.recvWin ≤ maxWin
  bal : (st'.credited : Int) + (maxWin - st'.recvWin) = (st.credited : Int) + (maxWin - st.recvWin) + n
  received : st'.received = st.received
  lost : st'.lost = st.lost
  leds : st'.leds = st.leds
  nz : (∀ sid inc, Rec.wu sid inc ∈ st.trace → 0 < inc) → ∀ sid inc, Rec.wu sid inc ∈ st'.trace → 0 < inc

theorem consumeConn_spec (st : St) (n : Nat) (lo : maxWin / 2 ≤ st.recvWin) (hi : st.recvWin ≤ maxWin) :
    ConnSpec st n (consumeConn st n) := by
  simp only [consumeConn]
  have hv := maxWin_val
  split
  · rename_i h0; subst h0
    constructor <;> first | rfl | omega | (intro h; exact h)
  · split
    · rename_i h0 hlt
      have hpos : 0 ≤ maxWin - (st.recvWin - n) := by omega
      constructor
      · simp only []; omega
      · simp only []; omega
      · simp only [Int.natCast_add, Int.toNat_of_nonneg hpos]; omega
      · rfl
      · rfl
      · rfl
      · intro h sid inc hm
        simp only [List.mem_append, List.mem_singleton] at hm
        rcases hm with hm | hm
        · exact h sid inc hm
        · injection hm with h1 h2
          omega
    · rename_i h0 hge
      constructor <;> simp only [] <;> first | omega | rfl | (intro h; exact h)

theorem bump_leds {sid recv cred fin : Nat} (hb : cred + fin = recv) :
    ∀ ls : List Led, (∀ l ∈ ls, l.credited + l.final = l.received) →
      ∀ l ∈ bump sid recv cred fin ls, l.credited + l.final = l.received := by
  intro ls
  induction ls with
  | nil =>
    intro _ l hl
    simp only [bump, List.mem_singleton] at hl
    subst hl; exact hb
  | cons x xs ih =>
    intro h l hl
    simp only [bump] at hl
    split at hl
    · simp only [List.mem_cons] at hl
      rcases hl with rfl | hl
      · have := h x (by simp); simp only []; omega
      · exact h l (by simp [hl])
    · simp only [List.mem_cons] at hl
      rcases hl with rfl | hl
      · exact h l (by simp)
      · exact ih (fun l hl => h l (by simp [hl])) l hl

/-- `n` octets have been counted as received but not yet against the connection window: `consumeConn` restores the invariant -/
theorem consumeConn_inv {st : St} {n : Nat} (lo : maxWin / 2 ≤ st.recvWin) (hi : st.recvWin ≤ maxWin)
    (ll : st.lost ≤ st.received) (cons : (st.credited : Int) + (maxWin - st.recvWin) + n = (st.received : Int) - st.lost)
    (leds : ∀ l ∈ st.leds, l.credited + l.final = l.received) (nz : ∀ sid inc, Rec.wu sid inc ∈ st.trace → 0 < inc) :
    Inv (consumeConn st n) := by
  have sp := consumeConn_spec st n lo hi
  refine ⟨sp.lo, sp.hi, ?_, ?_, ?_, sp.nz nz⟩
  · rw [sp.lost, sp.received]; exact ll
  · have := sp.bal; rw [sp.lost, sp.received]; omega
  · rw [sp.leds]; exact leds

theorem step_inv {st : St} (e : Ev) (h : Inv st) : Inv (step st e) := by
  obtain ⟨lo, hi, ll, cons, leds, nz⟩ := h
  cases e with
  | accepted sid len es =>
    simp only [step]
    split
    · rename_i h0; subst h0
      exact ⟨lo, hi, by simpa using ll, by simpa using cons, bump_leds (by rfl) _ leds, nz⟩
    · cases es with
      | true =>
        simp only [if_true]
        exact consumeConn_inv lo hi (by simp only []; omega) (by simp only [Int.natCast_add]; omega)
          (bump_leds (by omega) _ leds) nz
      | false =>
        simp only [Bool.false_eq_true, if_false]
        refine consumeConn_inv lo hi (by simp only []; omega) (by simp only [Int.natCast_add]; omega)
          (bump_leds (by omega) _ leds) fun s inc hm => ?_
        rcases List.mem_append.mp hm with hm | hm
        · exact nz s inc hm
        · cases List.mem_singleton.mp hm; omega
  | dropped sid len =>
    exact consumeConn_inv lo hi (by simp only []; omega) (by simp only [Int.natCast_add]; omega) leds nz
  | connErr sid len =>
    simp only [step]
    exact ⟨lo, hi, by simp only []; omega, by simp only []; omega, leds, nz⟩

theorem run_inv (evs : List Ev) : ∀ st, Inv st → Inv (run st evs) := by
  induction evs with
  | nil => intro st h; exact h
  | cons e es ih => intro st h; exact ih _ (step_inv e h)

end H2.Server.Abs.Recv
