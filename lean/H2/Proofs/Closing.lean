import H2.Server.Abs.Closing
/-! Helper lemmas for C10 (abstract GOAWAY / closing model `H2.Server.Abs.Closing`). -/
namespace H2.Server.Abs.Closing

structure Inv (st : St) : Prop where
  tblLe : ∀ id ∈ st.tbl, id ≤ st.lastID
  dispLe : ∀ d, Rec.dispatched d ∈ st.trace → d ≤ st.lastID
  gaGe : ∀ l c, Rec.goAway l c ∈ st.trace → st.lastID ≤ l
  gaClosing : ∀ l c, Rec.goAway l c ∈ st.trace → st.closing = true

theorem init_inv : Inv init := by
  constructor <;> simp [init]

theorem trace_inv {st : St} (h : Inv st) (r : Rec) (lr : Nat) (hd : ∀ d, r = .dispatched d → d ≤ st.lastID)
    (hg : ∀ l c, r ≠ .goAway l c) : Inv { st with lastRefused := lr, trace := st.trace ++ [r] } := by
  refine ⟨h.tblLe, fun d hm => ?_, fun l c hm => ?_, fun l c hm => ?_⟩ <;>
    rcases List.mem_append.mp hm with hm | hm
  · exact h.dispLe d hm
  · exact hd d (List.mem_singleton.mp hm).symm
  · exact h.gaGe l c hm
  · exact absurd (List.mem_singleton.mp hm).symm (hg l c)
  · exact h.gaClosing l c hm
  · exact absurd (List.mem_singleton.mp hm).symm (hg l c)

theorem writeGoAway_inv {st : St} (sid code : Nat) (h : Inv st) : Inv (writeGoAway st sid code) := by
  simp only [writeGoAway]
  refine ⟨h.tblLe, fun d hm => ?_, fun l c hm => ?_, fun _ _ _ => rfl⟩ <;>
    rcases List.mem_append.mp hm with hm | hm
  · exact h.dispLe d hm
  · cases List.mem_singleton.mp hm
  · exact h.gaGe l c hm
  · cases List.mem_singleton.mp hm; simp only []; split <;> omega

theorem stopped_inv {st : St} (h : Inv st) : Inv { st with stopped := true } := ⟨h.1, h.2, h.3, h.4⟩

theorem finish_inv {st : St} (m : Mode) (h : Inv st) : Inv (finish st m) := by
  cases m <;> simp only [finish]
  · exact stopped_inv h
  · split
    · exact stopped_inv h
    · exact h
  · exact h

theorem offend_inv {st : St} (o : Offence) (sid : Nat) (h : Inv st) : Inv (offend st o sid) :=
  finish_inv _ (writeGoAway_inv _ _ h)

/-- a stream is opened: the connection is not closing, so no GOAWAY has been written yet -/
theorem open_inv {st : St} {id : Nat} (h : Inv st) (hcl : st.closing = false) (hgt : st.lastID < id) :
    Inv { st with tbl := st.tbl ++ [id], lastID := id, trace := st.trace ++ [.opened id] } := by
  refine ⟨fun x hx => ?_, fun d hm => ?_, fun l c hm => ?_, fun l c hm => ?_⟩ <;>
    rcases List.mem_append.mp (by assumption) with hm | hm
  · exact Nat.le_of_lt (Nat.lt_of_le_of_lt (h.tblLe x hm) hgt)
  · rw [List.mem_singleton.mp hm]; exact Nat.le_refl _
  · exact Nat.le_of_lt (Nat.lt_of_le_of_lt (h.dispLe d hm) hgt)
  · cases List.mem_singleton.mp hm
  · have := h.gaClosing l c hm; rw [hcl] at this; cases this
  · cases List.mem_singleton.mp hm
  · exact h.gaClosing l c hm
  · cases List.mem_singleton.mp hm

theorem step_inv {st : St} (e : Ev) (h : Inv st) : Inv (step st e) := by
  unfold step
  split
  · exact h
  · cases e with
    | hdrNew id full =>
      simp only [stepLive]
      split
      · exact h
      · split
        · exact trace_inv h _ _ (fun _ e => by cases e) (fun _ _ e => by cases e)
        · rename_i hnc
          split
          · exact offend_inv _ _ h
          · rename_i hge
            simp only [Bool.or_eq_true, decide_eq_true_eq, not_or, Nat.not_le, Bool.not_eq_true] at hnc hge
            exact open_inv h hnc.2 hge.1
    | offence o sid => exact offend_inv o sid h
    | dispatch id =>
      simp only [stepLive]
      split
      · rename_i hc
        exact trace_inv h _ st.lastRefused (fun _ e => by cases e; exact h.tblLe _ (by simpa using hc))
          (fun _ _ e => by cases e)
      · exact h
    | close id => exact ⟨fun x hx => h.tblLe x (List.mem_of_mem_erase hx), h.2, h.3, h.4⟩
    | check =>
      simp only [stepLive]
      split
      · exact stopped_inv h
      · exact h
    | peerGone => exact stopped_inv h

theorem run_inv (evs : List Ev) : ∀ st, Inv st → Inv (run st evs) := by
  induction evs with
  | nil => intro st h; exact h
  | cons e es ih => intro st h; exact ih _ (step_inv e h)

theorem run_append (a b : List Ev) : ∀ st, run st (a ++ b) = run (run st a) b := by
  induction a with
  | nil => intro st; rfl
  | cons e es ih => intro st; simp only [List.cons_append, run]; exact ih _

/-- after a GOAWAY whose mode is not `cont` the code has looked -/
theorem finish_looks (st : St) (m : Mode) (hm : m ≠ .cont) :
    canClose (finish st m) = true → (finish st m).stopped = true := by
  cases m with
  | stop => intro _; rfl
  | ifDone =>
    simp only [finish]
    by_cases hcc : canClose st = true
    · simp only [hcc, if_true]; intro _; trivial
    · simp only [hcc]; intro h; exact absurd h hcc
  | cont => exact absurd rfl hm

/-! ## once closing, always closing: no stream is opened any more -/

def openedOf (t : List Rec) : List Nat :=
  t.filterMap fun r => match r with | .opened id => some id | _ => none

/-- how a later state relates to a closing one -/
structure Frozen (s s' : St) : Prop where
  closing : s'.closing = true
  lastID : s'.lastID = s.lastID
  opened : openedOf s'.trace = openedOf s.trace
  tbl : ∀ id ∈ s'.tbl, id ∈ s.tbl

theorem openedOf_append_other (t : List Rec) (r : Rec) (h : ∀ id, r ≠ .opened id) :
    openedOf (t ++ [r]) = openedOf t := by
  unfold openedOf
  rw [List.filterMap_append]
  cases r <;> simp_all

theorem finish_frozen {s st : St} (m : Mode) (hw : Frozen s st) : Frozen s (finish st m) := by
  cases m <;> simp only [finish]
  · exact ⟨hw.1, hw.2, hw.3, hw.4⟩
  · split
    · exact ⟨hw.1, hw.2, hw.3, hw.4⟩
    · exact hw
  · exact hw

theorem offend_frozen {s : St} (o : Offence) (sid : Nat) :
    Frozen s (offend s o sid) := by
  apply finish_frozen
  simp only [writeGoAway]
  exact ⟨rfl, rfl, openedOf_append_other _ _ (by intro id h; cases h), fun _ h => h⟩

theorem step_frozen {s : St} (e : Ev) (hc : s.closing = true) : Frozen s (step s e) := by
  have refl : Frozen s s := ⟨hc, rfl, rfl, fun _ h => h⟩
  unfold step
  split
  · exact refl
  · cases e with
    | hdrNew id full =>
      simp only [stepLive, hc, Bool.or_true, if_true]
      split
      · exact refl
      · exact ⟨rfl, rfl, openedOf_append_other _ _ (by intro id h; cases h), fun _ h => h⟩
    | offence o sid => exact offend_frozen o sid
    | dispatch id =>
      simp only [stepLive]
      split
      · exact ⟨hc, rfl, openedOf_append_other _ _ (by intro id h; cases h), fun _ h => h⟩
      · exact refl
    | close id => exact ⟨hc, rfl, rfl, fun _ h => List.mem_of_mem_erase h⟩
    | check =>
      simp only [stepLive]
      split
      · exact ⟨hc, rfl, rfl, fun _ h => h⟩
      · exact refl
    | peerGone => exact ⟨hc, rfl, rfl, fun _ h => h⟩

theorem run_frozen (evs : List Ev) : ∀ s, s.closing = true → Frozen s (run s evs) := by
  induction evs with
  | nil => intro s hc; exact ⟨hc, rfl, rfl, fun _ h => h⟩
  | cons e es ih =>
    intro s hc
    have h1 := step_frozen e hc
    have h2 := ih _ h1.closing
    exact ⟨h2.closing, h2.lastID.trans h1.lastID, h2.opened.trans h1.opened, fun id h => h1.tbl id (h2.tbl id h)⟩

/-! ## the connection closes once the promised streams are done

The stream loop works in iterations (one frame taken off the reader, or one handler reporting back); an
iteration is a short list of the model's events. The code looks whether it can close at the end of
the iterations that may have changed the answer. -/

/-- closing and nothing left to wait for means the stream loop has stopped -/
def Closed (s : St) : Prop := s.closing = true → canClose s = true → s.stopped = true

theorem stepLive_looks (s : St) (e : Ev) (he : looksAfter e = true) : Closed (stepLive s e) := by
  unfold Closed
  cases e with
  | check =>
    simp only [stepLive]
    intro hc hcc
    split at hc <;> simp_all
  | peerGone => intro _ _; rfl
  | offence o sid =>
    simp only [stepLive, offend]
    simp only [looksAfter, bne_iff_ne, ne_eq] at he
    intro _ hcc
    exact finish_looks _ _ he hcc
  | hdrNew id full => simp [looksAfter] at he
  | dispatch id => simp [looksAfter] at he
  | close id => simp [looksAfter] at he

theorem looks_closed (s : St) (e : Ev) (he : looksAfter e = true) : Closed (step s e) := by
  unfold step
  split
  · rename_i h
    simp only [Bool.and_eq_true] at h
    intro _ _; exact h.1
  · exact stepLive_looks s e he

theorem harmless_closed (s : St) (e : Ev) (he : harmless e = true) (h : Closed s) : Closed (step s e) := by
  unfold step
  split
  · exact h
  · rename_i hns
    have h0 : s.stopped = false := by
      cases e <;> simp_all [harmless, survivesStop]
    cases e with
    | hdrNew id full =>
      simp only [stepLive]
      split
      · exact h
      · split
        · intro hc hcc; have := h hc hcc; rw [h0] at this; cases this
        · rename_i hnc
          have hcl : s.closing = false := by
            simp only [Bool.or_eq_true, not_or, Bool.not_eq_true] at hnc; exact hnc.2
          split
          · intro _ hcc
            exact finish_looks _ _ (by decide) hcc
          · intro hc; simp only [hcl] at hc; cases hc
    | dispatch id =>
      simp only [stepLive]
      split
      · intro hc hcc; have := h hc hcc; rw [h0] at this; cases this
      · exact h
    | offence o sid => simp [harmless] at he
    | close id => simp [harmless] at he
    | check => simp [harmless] at he
    | peerGone => simp [harmless] at he

theorem run_harmless (it : List Ev) : ∀ s, it.all harmless = true → Closed s → Closed (run s it) := by
  induction it with
  | nil => intro s _ h; exact h
  | cons e es ih =>
    intro s ha h
    simp only [List.all_cons, Bool.and_eq_true] at ha
    exact ih _ ha.2 (harmless_closed s e ha.1 h)

theorem run_iter (it : List Ev) (s : St) (hok : okIter it = true) (h : Closed s) : Closed (run s it) := by
  unfold okIter at hok
  by_cases ha : it.all harmless = true
  · exact run_harmless it s ha h
  · simp only [ha, Bool.false_or] at hok
    cases hl : it.getLast? with
    | none =>
      have : it = [] := List.getLast?_eq_none_iff.mp hl
      subst this; exact h
    | some e =>
      rw [hl] at hok
      obtain ⟨pre, rfl⟩ := List.getLast?_eq_some_iff.mp hl
      rw [run_append]
      exact looks_closed _ e hok

theorem run_iters (iters : List (List Ev)) : ∀ s, (∀ it ∈ iters, okIter it = true) → Closed s → Closed (run s iters.flatten) := by
  induction iters with
  | nil => intro s _ h; exact h
  | cons it rest ih =>
    intro s hok h
    simp only [List.flatten_cons, run_append]
    exact ih _ (fun x hx => hok x (List.mem_cons_of_mem _ hx)) (run_iter it s (hok it (List.mem_cons_self)) h)

end H2.Server.Abs.Closing
