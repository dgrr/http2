import H2.Proofs.ClientSerial
/-! Serial client model: the teardown `dieWith` (every request still in the table gets a result, none is replaced) and
`afterWrites`, which tears the connection down when a step writes more than the transport still takes (`failwrite`, C12). -/
namespace H2.Client

theorem dieWith_dead (c : Conn) (e : Err) : (dieWith c e).dead = true := rfl

theorem dieWith_table_empty (c : Conn) (e : Err) : (dieWith c e).reqQueued = [] := rfl

def dieMap (c : Conn) (e : Err) (r : Req) : Req := if (c.reqQueued.any fun p => p.2 == r.tag) then r.resolve e else r

theorem dieMap_tag (c : Conn) (e : Err) (r : Req) : (dieMap c e r).tag = r.tag := by
  unfold dieMap; split
  · exact resolve_tag r e
  · rfl

theorem dieWith_shape (c : Conn) (e : Err) :
    ∃ l, dieWith c e = { c with lastErr := l, dead := true, outQ := [], winTok := false,
                                reqs := c.reqs.map (dieMap c e), reqQueued := [] } := by
  obtain ⟨l, h⟩ := setLastErr_shape c e
  unfold dieWith
  rw [h]
  exact ⟨l, rfl⟩

theorem dieWith_resolves (c : Conn) (e : Err) (r : Req) (hr : r ∈ c.reqs)
    (hq : (c.reqQueued.any fun p => p.2 == r.tag) = true) :
    ∃ r' ∈ (dieWith c e).reqs, r'.tag = r.tag ∧ (r'.errBuf.isSome = true ∨ r'.done = true) := by
  obtain ⟨l, h⟩ := dieWith_shape c e
  refine ⟨r.resolve e, ?_, resolve_tag r e, Req.resolve_settled r e⟩
  rw [h]
  exact List.mem_map.mpr ⟨r, hr, if_pos hq⟩

/-- with `dieWith_resolves`: exactly one result per request -/
theorem dieWith_keeps (c : Conn) (e x : Err) (r' : Req) (hr : r' ∈ (dieWith c e).reqs) :
    ∃ r ∈ c.reqs, r'.tag = r.tag ∧ (r.errBuf = some x → r'.errBuf = some x) := by
  obtain ⟨l, h⟩ := dieWith_shape c e
  rw [h] at hr
  obtain ⟨r, hm, rfl⟩ := List.mem_map.mp hr
  refine ⟨r, hm, dieMap_tag c e r, fun hx => ?_⟩
  unfold dieMap
  split
  · exact Req.resolve_keeps r e x hx
  · exact hx

/-- `afterWrites` written with projections -/
theorem afterWrites_eq (c : Conn) (fs : List OutFrame) :
    afterWrites c fs = match (wireBytes c fs).1.wbudget with
      | none => ((wireBytes c fs).1, .frames (wireFrames c fs))
      | some b =>
        if (wireBytes c fs).2 ≤ b then
          ({ (wireBytes c fs).1 with wbudget := some (b - (wireBytes c fs).2) }, .frames (wireFrames c fs))
        else (dieWith (wireBytes c fs).1 .writeErr, .dead) := rfl

theorem afterWrites_over (c : Conn) (fs : List OutFrame) (b : Nat)
    (hb : (wireBytes c fs).1.wbudget = some b) (ho : b < (wireBytes c fs).2) :
    (afterWrites c fs).1 = dieWith (wireBytes c fs).1 .writeErr ∧ (afterWrites c fs).1.dead = true := by
  rw [afterWrites_eq, hb]
  dsimp only
  rw [if_neg (Nat.not_le.mpr ho)]
  exact ⟨rfl, rfl⟩

theorem afterWrites_within (c : Conn) (fs : List OutFrame) (b : Nat)
    (hb : (wireBytes c fs).1.wbudget = some b) (hw : (wireBytes c fs).2 ≤ b) :
    (afterWrites c fs).1 = { (wireBytes c fs).1 with wbudget := some (b - (wireBytes c fs).2) } := by
  rw [afterWrites_eq, hb]
  dsimp only
  rw [if_pos hw]

/-- a transport that never fails: the write-failure layer changes nothing a caller or the peer can see -/
theorem afterWrites_never (c : Conn) (fs : List OutFrame) (hb : (wireBytes c fs).1.wbudget = none) :
    (afterWrites c fs).1 = (wireBytes c fs).1 := by
  rw [afterWrites_eq, hb]

end H2.Client
