import H2.Proofs.MsgRefineTrailers
/-!
# C20 — refinement, header blocks in several frames at the frame level

* `fieldLoop_setState`, `feedBlock_setState`, `cutsOK_setState` — the field loop neither reads nor writes the stream state
  (`handleState` changes it between the HEADERS frame and the first CONTINUATION frame)
* `hdrFrames`, `ContBlock`, `hdrFrames_conts`, `hdrFrames_block`, **`hdrFrames_whole`** — iterating `handleHeaderFrame` over the
  `Frame` values of one block IS `feedBlock` on their fragments, hence (by `feedBlock_whole`) the block in one frame
* `cont_frame`, `conts_R` — the CONTINUATION frames of a block through `handleFrame` / `knownStream` (`runReq`)
-/
namespace H2.Server.Lock
open H2.Server H2.Frame

/-! ## the stream state is not the loop's business -/

theorem fieldUpdate_setState (st : Strm) (f : Hpack.Field) (σ : StState) :
    fieldUpdate { st with state := σ } f = { fieldUpdate st f with state := σ } := by
  -- no condition of `fieldUpdate` reads the stream: setting the state goes through the branching to the leaves
  show _ = (fun y : Strm => { y with state := σ }) (fieldUpdate st f)
  generalize hg : (fun y : Strm => { y with state := σ }) = g
  unfold fieldUpdate
  dsimp only
  cases parseUint f.value <;> simp only [apply_ite g] <;> subst hg <;> rfl

theorem fieldVerdict_setState (cfg : Server.Cfg) (st : Strm) (f : Hpack.Field) (σ : StState) :
    fieldVerdict cfg { st with state := σ } f = fieldVerdict cfg st f := rfl

def setState (σ : StState) (x : Srv × Strm × Option SErr) : Srv × Strm × Option SErr := (x.1, { x.2.1 with state := σ }, x.2.2)

theorem fieldLoop_setState (σ : StState) (fuel : Nat) (s : Srv) (st : Strm) (bs eh : Bool) (fp : Nat) (b : Bytes) :
    fieldLoop fuel s { st with state := σ } bs eh fp b = setState σ (fieldLoop fuel s st bs eh fp b) := by
  induction fuel generalizing s st fp b with
  | zero => rfl
  | succ n ih =>
    cases b with
    | nil => rfl
    | cons c cs =>
      simp only [fieldLoop]
      cases Hpack.Dec.next s.dec bs fp (c :: cs) with
      | needMore =>
        dsimp only
        split
        · split <;> rfl
        · rfl
      | err => rfl
      | ok dec fo rest =>
        cases fo with
        | none => rfl
        | some f =>
          simp only [fieldStep]
          have hv : fieldVerdict s.cfg { { st with state := σ } with fieldSeen := true } f =
              fieldVerdict s.cfg { st with fieldSeen := true } f := rfl
          have hu : fieldUpdate { { st with state := σ } with fieldSeen := true } f =
              { fieldUpdate { st with fieldSeen := true } f with state := σ } :=
            fieldUpdate_setState { st with fieldSeen := true } f σ
          rw [hv, hu]
          cases fieldVerdict s.cfg { st with fieldSeen := true } f with
          | some e => rfl
          | none => exact ih _ _ _ _

theorem feedPiece_setState (σ : StState) (s : Srv) (st : Strm) (eh : Bool) (p : Bytes) :
    feedPiece s { st with state := σ } eh p = setState σ (feedPiece s st eh p) :=
  fieldLoop_setState σ _ s { st with prevHdr := [] } _ eh 0 _

theorem feedBlock_setState (σ : StState) : ∀ (ps : List Bytes) (s : Srv) (st : Strm),
    feedBlock s { st with state := σ } ps = setState σ (feedBlock s st ps) := by
  intro ps
  induction ps with
  | nil => intro s st; rfl
  | cons p ps ih =>
    intro s st
    cases ps with
    | nil => exact feedPiece_setState σ s st true p
    | cons q qs =>
      rw [feedBlock_cons, feedBlock_cons, feedPiece_setState]
      cases he : (feedPiece s st false p).2.2 with
      | none => simp only [setState, he]; exact ih _ _
      | some e => simp only [setState, he]

theorem cutsOK_setState (σ : StState) : ∀ (ps : List Bytes) (s : Srv) (st : Strm),
    cutsOK s { st with state := σ } ps ↔ cutsOK s st ps := by
  intro ps
  induction ps with
  | nil => intro s st; rfl
  | cons p ps ih =>
    intro s st
    cases ps with
    | nil => rfl
    | cons q qs =>
      rw [cutsOK_cons, cutsOK_cons, feedPiece_setState]
      exact and_congr Iff.rfl (forall_congr' fun _ => ih _ _)

/-! ## the frames of one block through `handleHeaderFrame` -/

/-- `handleHeaderFrame` frame after frame, up to the first frame it refuses -/
def hdrFrames (s : Srv) (st : Strm) : List Frame → Srv × Strm × Option SErr
  | [] => (s, st, none)
  | fr :: frs =>
    match (handleHeaderFrame s st fr).2.2 with
    | none => hdrFrames (handleHeaderFrame s st fr).1 (handleHeaderFrame s st fr).2.1 frs
    | some _ => handleHeaderFrame s st fr

/-- CONTINUATION frames with the fragments `ps`; END_HEADERS on the last one and only there -/
inductive ContBlock : List Frame → List Bytes → Prop
  | last (fr : Frame) (p : Bytes) : fr.typ = Gen.c_FrameContinuation → fr.body = .continuation true p →
      Frame.hasFlag fr.flags Gen.c_FlagEndHeaders = true → ContBlock [fr] [p]
  | cons (fr f2 : Frame) (frs : List Frame) (p q : Bytes) (ps : List Bytes) : fr.typ = Gen.c_FrameContinuation →
      fr.body = .continuation false p → Frame.hasFlag fr.flags Gen.c_FlagEndHeaders = false →
      ContBlock (f2 :: frs) (q :: ps) → ContBlock (fr :: f2 :: frs) (p :: q :: ps)

theorem hdrFrames_one (s : Srv) (st : Strm) (fr : Frame) : hdrFrames s st [fr] = handleHeaderFrame s st fr := by
  unfold hdrFrames
  rcases handleHeaderFrame s st fr with ⟨a, b, _ | e⟩ <;> rfl

theorem feedPiece_fin (s : Srv) (st : Strm) (eh : Bool) (p : Bytes) :
    (feedPiece s st eh p).2.1.headersFinished = st.headersFinished :=
  congrArg Ctl.headersFinished (fieldLoop_ctl _ s { st with prevHdr := [] } _ eh 0 _).1

theorem hdrFrames_conts {cs : List Frame} {ps : List Bytes} (hc : ContBlock cs ps) : ∀ (s : Srv) (st : Strm),
    st.headersFinished = false → hdrFrames s st cs = feedBlock s st ps := by
  induction hc with
  | last fr p _ hb _ =>
    intro s st hfin
    rw [hdrFrames_one, hhf_cont s st fr true p hb hfin]
    rfl
  | cons fr f2 frs p q ps _ hb _ _ ih =>
    intro s st hfin
    rw [feedBlock_cons, ← hhf_cont s st fr false p hb hfin]
    unfold hdrFrames
    cases he : (handleHeaderFrame s st fr).2.2 with
    | some e => rfl
    | none => exact ih _ _ (by rw [hhf_cont s st fr false p hb hfin, feedPiece_fin]; exact hfin)

theorem hdrFrames_block (s : Srv) (st : Strm) (frH : Frame) (cs : List Frame) (es : Bool) (prio : Option (Nat × Nat)) (p0 : Bytes)
    (ps : List Bytes) (hb : frH.body = .headers es false prio p0) (hfin : st.headersFinished = false)
    (hprio : ∀ dep w, prio = some (dep, w) → (dep == st.id) = false) (hc : ContBlock cs ps) :
    hdrFrames s st (frH :: cs) = feedBlock s { st with fieldSeen := false } (p0 :: ps) := by
  have hh := hhf_headers s st frH es false prio p0 hb hfin hprio
  obtain ⟨q, qs, rfl⟩ : ∃ q qs, ps = q :: qs := by cases hc <;> exact ⟨_, _, rfl⟩
  rw [feedBlock_cons, ← hh]
  unfold hdrFrames
  cases he : (handleHeaderFrame s st frH).2.2 with
  | some e => rfl
  | none => exact hdrFrames_conts hc _ _ (by rw [hh, feedPiece_fin]; exact hfin)

/-- **`feedBlock_whole` over `Frame` values**: a request block sent as HEADERS + CONTINUATION frames, handled by
`handleHeaderFrame` frame after frame, ends with the verdict `handleHeaderFrame` gives the whole block in ONE HEADERS frame with
END_HEADERS — and, when accepted, with the same `msgSt` and decoder state -/
theorem hdrFrames_whole (s : Srv) (st : Strm) (frH frW : Frame) (cs : List Frame) (es es' : Bool) (prio prio' : Option (Nat × Nat))
    (p0 : Bytes) (ps : List Bytes) (hb : frH.body = .headers es false prio p0) (hfin : st.headersFinished = false)
    (hprio : ∀ dep w, prio = some (dep, w) → (dep == st.id) = false) (hc : ContBlock cs ps)
    (hW : frW.body = .headers es' true prio' (p0 :: ps).flatten)
    (hprio' : ∀ dep w, prio' = some (dep, w) → (dep == st.id) = false)
    (hg : st.Good) (hcut : cutsOK s { st with fieldSeen := false } (p0 :: ps)) :
    absFin (hdrFrames s st (frH :: cs)) = absFin (handleHeaderFrame s st frW) := by
  rw [hdrFrames_block s st frH cs es prio p0 ps hb hfin hprio hc,
    feedBlock_whole (p0 :: ps) s { st with fieldSeen := false } (by simp) hg hcut,
    hhf_headers s st frW es' true prio' _ hW hfin hprio']
  rfl

/-! ## the loop reads the decoder and the configuration only -/

theorem fieldLoop_congr (fuel : Nat) (s s' : Srv) (hd : s.dec = s'.dec) (hc : s.cfg = s'.cfg) (st : Strm) (bs eh : Bool) (fp : Nat)
    (b : Bytes) :
    (fieldLoop fuel s st bs eh fp b).2 = (fieldLoop fuel s' st bs eh fp b).2 ∧
    (fieldLoop fuel s st bs eh fp b).1.dec = (fieldLoop fuel s' st bs eh fp b).1.dec := by
  induction fuel generalizing s s' st fp b with
  | zero => exact ⟨rfl, hd⟩
  | succ n ih =>
    cases b with
    | nil => exact ⟨rfl, hd⟩
    | cons c cs =>
      simp only [fieldLoop]
      rw [← hd, ← hc]
      cases Hpack.Dec.next s.dec bs fp (c :: cs) with
      | needMore =>
        dsimp only
        split
        · split <;> exact ⟨rfl, rfl⟩
        · exact ⟨rfl, rfl⟩
      | err => exact ⟨rfl, hd⟩
      | ok dec fo rest =>
        cases fo with
        | none => exact ⟨rfl, rfl⟩
        | some f =>
          simp only [fieldStep]
          cases fieldVerdict s.cfg { st with fieldSeen := true } f with
          | some e => exact ⟨rfl, rfl⟩
          | none => exact ih _ _ (by rfl) (by rfl) _ _ _

theorem feedBlock_congr : ∀ (ps : List Bytes) (s s' : Srv) (st : Strm), s.dec = s'.dec → s.cfg = s'.cfg →
    (feedBlock s st ps).2 = (feedBlock s' st ps).2 ∧ (feedBlock s st ps).1.dec = (feedBlock s' st ps).1.dec := by
  intro ps
  induction ps with
  | nil => intro s s' st hd _; exact ⟨rfl, hd⟩
  | cons p ps ih =>
    intro s s' st hd hc
    have h := fun eh => fieldLoop_congr ((st.prevHdr ++ p).length + 1) s s' hd hc { st with prevHdr := [] } (!st.fieldSeen) eh 0 (st.prevHdr ++ p)
    cases ps with
    | nil => exact h true
    | cons q qs =>
      rw [feedBlock_cons, feedBlock_cons]
      obtain ⟨h1, h2⟩ : (feedPiece s st false p).2 = (feedPiece s' st false p).2 ∧ _ := h false
      have k := fun s => (fieldLoop_ctl ((st.prevHdr ++ p).length + 1) s { st with prevHdr := [] } (!st.fieldSeen) false 0 (st.prevHdr ++ p)).2.2
      rw [h1]
      cases (feedPiece s' st false p).2.2 with
      | none => exact ih _ _ _ h2 ((k s).trans (hc.trans (k s').symm))
      | some e => exact ⟨h1, h2⟩

/-! ## the CONTINUATION frames of a block through `handleFrame` -/

/-- the stream in the middle of its request block -/
def Mid (st : Strm) : Prop := st.headersFinished = false ∧ st.state = .open ∧ st.responded = false

/-- what the CONTINUATION frames of a block lead to, in terms of the result `(st', e, dec)` of `feedBlock` on their fragments -/
def ContsOutcome (r : R) (uid : Nat) (O : Strm → Prop) (frames rest : List Frame) (sid : Nat) (st' : Strm) (e : Option SErr)
    (dec : Hpack.DecState) : Prop :=
  match e with
  | some e => ∃ o, sig (runReq r uid (frames ++ rest)).out = sig r.out ++ [o] ∧ Answers sid o (absErr e)
  | none =>
    match validatePseudo st' with
    | some e => ∃ o, sig (runReq r uid (frames ++ rest)).out = sig r.out ++ [o] ∧ Answers sid o (absErr e)
    | none => ∃ r1, runReq r uid (frames ++ rest) = runReq r1 uid rest ∧ Tbl r1 uid { st' with headersFinished := true } O ∧
        st'.prevHdr = [] ∧ sig r1.out = sig r.out ∧ r1.s.dec = dec ∧ r1.s.cfg = r.s.cfg

theorem feedPiece_end (s : Srv) (st : Strm) (p : Bytes) (h : (feedPiece s st true p).2.2 = none) :
    (feedPiece s st true p).2.1.prevHdr = [] := by
  have h2 := fieldLoop_state _ s { st with prevHdr := [] } (!st.fieldSeen) true 0 (st.prevHdr ++ p) h
  cases ht : (decRun ((st.prevHdr ++ p).length + 1) s.dec (!st.fieldSeen) 0 (st.prevHdr ++ p)).2 with
  | clean d => rw [ht] at h2; exact h2.2.1
  | cut d r => rw [ht] at h2; cases h2.1
  | bad => rw [ht] at h2; exact h2.elim

theorem cont_frame (r : R) (uid : Nat) (fr : Frame) (st : Strm) (O : Strm → Prop) (ht : Tbl r uid st O) (hm : Mid st)
    (htyp : fr.typ = Gen.c_FrameContinuation) (eh : Bool) (p : Bytes) (hb : fr.body = .continuation eh p)
    (heh : Frame.hasFlag fr.flags Gen.c_FlagEndHeaders = eh) :
    headersPrelude r fr = (r, true) ∧ Tbl (hdrUpd r uid st fr) uid (feedPiece r.s st eh p).2.1 O ∧
    (hdrUpd r uid st fr).s.dec = (feedPiece r.s st eh p).1.dec ∧ (hdrUpd r uid st fr).s.cfg = r.s.cfg ∧
    (feedPiece r.s st eh p).2.1.ctl = st.ctl ∧
    handleFrame r uid fr =
      match (feedPiece r.s st eh p).2.2 with
      | some e => (hdrUpd r uid st fr, some e)
      | none =>
        if eh then
          ((hdrUpd r uid st fr).updStrm uid fun x => { x with headersFinished := (feedPiece r.s st eh p).2.1.prevHdr.isEmpty },
           if (feedPiece r.s st eh p).2.1.prevHdr.isEmpty then validatePseudo (feedPiece r.s st eh p).2.1
           else some (.goAway Gen.c_ProtocolError "END_HEADERS received on an incomplete stream"))
        else (hdrUpd r uid st fr, none) := by
  have hh := hhf_cont r.s st fr eh p hb hm.1
  have hF := hf_hdr r uid fr st ht.get (.inr htyp) (.inl hm.2.1)
  unfold hfHdr at hF
  have t1 := ht.hdrUpd fr
  rw [hh] at hF t1
  rw [heh] at hF
  exact ⟨headersPrelude_other r fr (by rw [htyp]; decide), t1, congrArg (·.1.dec) hh, hhf_cfg r.s st fr,
    (fieldLoop_ctl _ r.s { st with prevHdr := [] } _ eh 0 _).1, hF⟩

/-- **the CONTINUATION frames of a block through the body of the stream loop**: what `feedBlock` on their fragments says -/
theorem conts_R (uid : Nat) (O : Strm → Prop) (rest : List Frame) {cs : List Frame} {ps : List Bytes} (hc : ContBlock cs ps) :
    ∀ (r : R) (st : Strm), Tbl r uid st O → Mid st →
    ContsOutcome r uid O cs rest st.id (feedBlock r.s st ps).2.1 (feedBlock r.s st ps).2.2 (feedBlock r.s st ps).1.dec := by
  induction hc with
  | last fr p htyp hb heh =>
    intro r st ht hm
    obtain ⟨hp, t1, hd, hcfg, kc, hF⟩ := cont_frame r uid fr st O ht hm htyp true p hb heh
    have hpv := feedPiece_end r.s st p
    show ContsOutcome r uid O [fr] rest st.id (feedPiece r.s st true p).2.1 (feedPiece r.s st true p).2.2 (feedPiece r.s st true p).1.dec
    generalize feedPiece r.s st true p = x at *
    obtain ⟨s1, st1, e1⟩ := x
    have hid : st1.id = st.id := congrArg Ctl.id kc
    have hresp1 : st1.responded = false := (congrArg Ctl.responded kc).trans hm.2.2
    simp only [ContsOutcome, List.cons_append, List.nil_append]
    cases e1 with
    | some e =>
      exact ⟨_, runReq_refused r uid fr rest st1 e hp (by rw [hF]) (by rw [hF]; exact t1.get) hresp1 (by rw [hF]; rfl),
        hid ▸ errOut_answers _ _ _⟩
    | none =>
      have hpv := hpv rfl
      simp only at hpv hF ⊢
      simp only [hpv, List.isEmpty_nil, if_true] at hF
      have t2 := t1.upd (fun x => { x with headersFinished := true }) (fun _ h => h)
      cases hvp : validatePseudo st1 with
      | some e =>
        rw [hvp] at hF
        exact ⟨_, runReq_refused r uid fr rest { st1 with headersFinished := true } e hp (by rw [hF]) (by rw [hF]; exact t2.get)
          hresp1 (by rw [hF]; rfl), hid ▸ errOut_answers _ { st1 with headersFinished := true } _⟩
      | none =>
        rw [hvp] at hF
        have hst1 : st1.state = .open := (congrArg Ctl.state kc).trans hm.2.1
        have hS : handleState fr { st1 with headersFinished := true } = { st1 with headersFinished := true } := by
          rw [handleState_open fr { st1 with headersFinished := true } (by rw [htyp]; decide) hst1, htyp]; rfl
        obtain ⟨k1, k2⟩ := knownStream_open_tbl r uid fr _ _ O hp (by rw [hF]) (by rw [hF]; exact t2) hS hst1 hresp1
        rw [hF] at k1
        exact ⟨_, runReq_step r uid fr rest (by rw [k1]; rfl), k2, hpv, by rw [k1]; rfl, by rw [k1]; exact hd, by rw [k1]; exact hcfg⟩
  | cons fr f2 frs p q ps htyp hb heh hc' ih =>
    intro r st ht hm
    obtain ⟨hp, t1, hd, hcfg, kc, hF⟩ := cont_frame r uid fr st O ht hm htyp false p hb heh
    have kcfg : (feedPiece r.s st false p).1.cfg = r.s.cfg := (fieldLoop_ctl _ r.s { st with prevHdr := [] } _ false 0 _).2.2
    have kfin := feedPiece_fin r.s st false p
    rw [feedBlock_cons]
    generalize feedPiece r.s st false p = x at *
    obtain ⟨s1, st1, e1⟩ := x
    have hid : st1.id = st.id := congrArg Ctl.id kc
    have hresp1 : st1.responded = false := (congrArg Ctl.responded kc).trans hm.2.2
    cases e1 with
    | some e =>
      exact ⟨_, runReq_refused r uid fr _ st1 e hp (by rw [hF]) (by rw [hF]; exact t1.get) hresp1 (by rw [hF]; rfl),
        hid ▸ errOut_answers _ _ _⟩
    | none =>
      simp only [Bool.false_eq_true, if_false] at hF ⊢
      have hst1 : st1.state = .open := (congrArg Ctl.state kc).trans hm.2.1
      have hS : handleState fr st1 = st1 := by
        rw [handleState_open fr st1 (by rw [htyp]; decide) hst1, htyp]; rfl
      obtain ⟨k1, k2⟩ := knownStream_open_tbl r uid fr _ _ O hp (by rw [hF]) (by rw [hF]; exact t1) hS hst1 hresp1
      rw [hF] at k1
      have IH := ih (knownStream r uid fr false) st1 k2 ⟨kfin.trans hm.1, hst1, hresp1⟩
      obtain ⟨c1, c2⟩ := feedBlock_congr (q :: ps) (knownStream r uid fr false).s s1 st1 (by rw [k1]; exact hd)
        (by rw [k1]; exact hcfg.trans kcfg.symm)
      have kout : sig (knownStream r uid fr false).out = sig r.out := by rw [k1]; rfl
      have kcfg' : (knownStream r uid fr false).s.cfg = r.s.cfg := by rw [k1]; exact hcfg
      rw [c1, c2] at IH
      simp only [ContsOutcome, List.cons_append, hid, kout, kcfg', runReq_step r uid fr _ kout] at IH ⊢
      exact IH

theorem feedBlock_ctl : ∀ (ps : List Bytes) (s : Srv) (st : Strm),
    (feedBlock s st ps).2.1.ctl = st.ctl ∧ (st.Good → (feedBlock s st ps).2.1.Good) ∧ (feedBlock s st ps).1.cfg = s.cfg := by
  intro ps
  induction ps with
  | nil => intro s st; exact ⟨rfl, id, rfl⟩
  | cons p ps ih =>
    intro s st
    have hc := fieldLoop_ctl ((st.prevHdr ++ p).length + 1) s { st with prevHdr := [] } (!st.fieldSeen)
    cases ps with
    | nil => exact hc true 0 (st.prevHdr ++ p)
    | cons q qs =>
      rw [feedBlock_cons]
      obtain ⟨a, b, c⟩ := hc false 0 (st.prevHdr ++ p)
      cases he : (feedPiece s st false p).2.2 with
      | some e => exact ⟨a, b, c⟩
      | none =>
        obtain ⟨a', b', c'⟩ := ih (feedPiece s st false p).1 (feedPiece s st false p).2.1
        exact ⟨a'.trans a, fun h => b' (b h), c'.trans c⟩

/-- the result of `feedBlock` in terms of the message model: `Msg.loop` over the fields the WHOLE block decodes to -/
theorem feedBlock_spec (ps : List Bytes) (s : Srv) (st : Strm) (hne : ps ≠ []) (hg : st.Good) (hc : cutsOK s st ps) :
    absFin (feedBlock s st ps) =
      specC s.cfg (msgSt st) (coarse (decRun ((st.prevHdr ++ ps.flatten).length + 1) s.dec (!st.fieldSeen) 0 (st.prevHdr ++ ps.flatten))) := by
  rw [feedBlock_whole ps s st hne hg hc]
  exact fieldLoop_final _ s { st with prevHdr := [] } _ 0 _ hg.1

end H2.Server.Lock
