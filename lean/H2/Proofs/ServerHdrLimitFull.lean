import H2.Proofs.ServerSlotsFull
/-!
# MaxHeaderListSize on the full server model (second half of C13's "what a handler is given")

For every configuration and every event list: in every reachable state of `H2.Server.step`, every stream whose handler
is running — in the table or abandoned — has a header list (RFC 7540 §6.5.2 size, all its header blocks together) of at
most `cfg.maxHeaderList` when that limit is on, and so has every stream of the table that has not been closed.

The invariant `HL` is per stream: (1) not closed → `hdrListSize ≤ limit`; (2) handler running → `hdrListSize ≤ limit`,
the header section is finished and the stream is at least half-closed (so no further header block is ever decoded for
it). Clause (1) is broken for one stream between `handleFrame` (the field loop adds the size of the offending field
before it reports the error) and `onFrameError` (which closes the stream): `HLw uid`.

(3) `hd`, for every stream of the table at every moment (F68 repaired): the octets of a header field that is not complete
yet, carried over to the next CONTINUATION frame (`prevHdr`, Go `previousHeaderBytes`), are at most `heldFactor` = 4 times
the limit — `held_header_octets_bounded`. The field loop checks before it stores.
-/
namespace H2.Server

/-- what the header-list accounting needs of a stream -/
structure Hl where
  uid : Nat
  state : StState
  hsz : Nat
  running : Bool
  hfin : Bool
  held : Nat

def Strm.hl (st : Strm) : Hl :=
  ⟨st.uid, st.state, st.hdrListSize, st.handlerRunning, st.headersFinished, st.prevHdr.length⟩

def hls (r : R) : List Hl := r.s.strms.map Strm.hl

/-- clause (2): a stream whose handler runs -/
def PW (cfg : Cfg) (t : Hl) : Prop :=
  cfg.maxHeaderList > 0 → t.running = true → (t.hsz : Int) ≤ cfg.maxHeaderList ∧ t.hfin = true ∧ t.state.rank ≥ 3

/-- clause (1): a stream that is not closed -/
def P1 (cfg : Cfg) (t : Hl) : Prop :=
  cfg.maxHeaderList > 0 → t.state ≠ .closed → (t.hsz : Int) ≤ cfg.maxHeaderList

def POK (cfg : Cfg) (t : Hl) : Prop := P1 cfg t ∧ PW cfg t

/-- clause (3): the octets of an unfinished header field a stream holds -/
def PH (cfg : Cfg) (t : Hl) : Prop :=
  cfg.maxHeaderList > 0 → (t.held : Int) ≤ (heldFactor : Int) * cfg.maxHeaderList

structure HL (cfg : Cfg) (r : R) : Prop where
  cf : r.s.cfg = cfg
  ok : ∀ t ∈ hls r, POK cfg t
  ab : ∀ a ∈ r.s.abandoned, cfg.maxHeaderList > 0 → (a.hdrListSize : Int) ≤ cfg.maxHeaderList
  hd : ∀ t ∈ hls r, PH cfg t

/-- the weak form: entries with uid `uid` may break clause (1) -/
structure HLw (cfg : Cfg) (uid : Nat) (r : R) : Prop where
  cf : r.s.cfg = cfg
  ok : ∀ t ∈ hls r, PW cfg t ∧ (t.uid ≠ uid → P1 cfg t)
  ab : ∀ a ∈ r.s.abandoned, cfg.maxHeaderList > 0 → (a.hdrListSize : Int) ≤ cfg.maxHeaderList
  hd : ∀ t ∈ hls r, PH cfg t


def Strm.Acct.hl (a : Strm.Acct) : Hl := ⟨a.uid, a.state, a.hdrListSize, a.handlerRunning, a.headersFinished, a.prevHdr.length⟩

section
variable {cfg : Cfg} {r r' : R}

theorem HL.weak (h : HL cfg r) (uid : Nat) : HLw cfg uid r :=
  ⟨h.cf, fun t ht => ⟨(h.ok t ht).2, fun _ => (h.ok t ht).1⟩, h.ab, h.hd⟩

theorem HL.congr (h : HL cfg r) (hs : hls r' = hls r) (ha : r'.s.abandoned = r.s.abandoned) (hc : r'.s.cfg = r.s.cfg) :
    HL cfg r' :=
  ⟨by rw [hc]; exact h.cf, by rw [hs]; exact h.ok, by rw [ha]; exact h.ab, by rw [hs]; exact h.hd⟩

theorem HLw.congr {uid : Nat} (h : HLw cfg uid r) (hs : hls r' = hls r) (ha : r'.s.abandoned = r.s.abandoned)
    (hc : r'.s.cfg = r.s.cfg) : HLw cfg uid r' :=
  ⟨by rw [hc]; exact h.cf, by rw [hs]; exact h.ok, by rw [ha]; exact h.ab, by rw [hs]; exact h.hd⟩

theorem mem_updStrm {uid : Nat} {f : Strm → Strm} {x : Strm} (hx : x ∈ (r.updStrm uid f).s.strms) :
    ∃ y ∈ r.s.strms, (y.uid ≠ uid ∧ x = y) ∨ (y.uid = uid ∧ x = f y) := by
  obtain ⟨y, hy, rfl⟩ := List.mem_map.mp hx
  refine ⟨y, hy, ?_⟩
  by_cases hu : y.uid = uid
  · have hb : (y.uid == uid) = true := by simpa using hu
    rw [if_pos hb]; exact Or.inr ⟨hu, rfl⟩
  · have hb : ¬ (y.uid == uid) = true := by simpa using hu
    rw [if_neg hb]; exact Or.inl ⟨hu, rfl⟩

/-- the entries of the table after an in-place update: those with another uid are as before, the others are images
under `f` -/
theorem forall_hls_upd {Q Q' : Hl → Prop} {uid : Nat} {f : Strm → Strm} (h : ∀ t ∈ hls r, Q t)
    (hk : ∀ x ∈ r.s.strms, x.uid ≠ uid → Q x.hl → Q' x.hl) (hf : ∀ x ∈ r.s.strms, x.uid = uid → Q x.hl → Q' (f x).hl) :
    ∀ t ∈ hls (r.updStrm uid f), Q' t := by
  intro t ht
  obtain ⟨y, hy, rfl⟩ := List.mem_map.mp ht
  obtain ⟨x, hx, ⟨hu, e⟩ | ⟨hu, e⟩⟩ := mem_updStrm hy
  · rw [e]; exact hk x hx hu (h _ (List.mem_map_of_mem hx))
  · rw [e]; exact hf x hx hu (h _ (List.mem_map_of_mem hx))

/-- in-place update: the new entries with that uid are in order whenever the old ones were -/
theorem HL.upd (h : HL cfg r) (uid : Nat) (f : Strm → Strm)
    (hf : ∀ x ∈ r.s.strms, x.uid = uid → POK cfg x.hl → POK cfg (f x).hl)
    (hh : ∀ x ∈ r.s.strms, x.uid = uid → PH cfg x.hl → PH cfg (f x).hl := by intro _ _ _ hp; exact hp) :
    HL cfg (r.updStrm uid f) :=
  ⟨h.cf, forall_hls_upd h.ok (fun _ _ _ hp => hp) hf, h.ab, forall_hls_upd h.hd (fun _ _ _ hp => hp) hh⟩

/-- an update that keeps state, size, `handlerRunning`, `headersFinished` and the held octets -/
theorem HL.updK (h : HL cfg r) (uid : Nat) (f : Strm → Strm) (hf : ∀ x, (f x).hl = x.hl) : HL cfg (r.updStrm uid f) :=
  h.upd uid f (fun _ _ _ hp => by rw [hf]; exact hp) (fun _ _ _ hp => by rw [hf]; exact hp)

theorem POK.close {t : Hl} (h : PW cfg t) (t' : Hl) (h1 : t'.state = .closed) (h2 : t'.hsz = t.hsz) (h3 : t'.running = t.running)
    (h4 : t'.hfin = t.hfin) : POK cfg t' := by
  refine ⟨fun _ hne => absurd h1 hne, fun hpos hr => ?_⟩
  rw [h3] at hr
  obtain ⟨a, b, _⟩ := h hpos hr
  rw [h1, h2, h4]
  exact ⟨a, b, by decide⟩

/-- closing the stream that may break clause (1) repairs the invariant -/
theorem HLw.updClose {uid : Nat} (h : HLw cfg uid r) : HL cfg (r.updStrm uid fun s => { s with state := .closed }) :=
  ⟨h.cf, forall_hls_upd h.ok (fun _ _ hu hp => ⟨hp.2 hu, hp.1⟩) (fun _ _ _ hp => POK.close hp.1 _ rfl rfl rfl rfl), h.ab,
   forall_hls_upd h.hd (fun _ _ _ hp => hp) (fun _ _ _ hp => hp)⟩

theorem HL.updClose (h : HL cfg r) (uid : Nat) : HL cfg (r.updStrm uid fun s => { s with state := .closed }) :=
  (h.weak uid).updClose

theorem HLw.updK {uid : Nat} (h : HLw cfg uid r) (uid' : Nat) (f : Strm → Strm) (hf : ∀ x, (f x).hl = x.hl) :
    HLw cfg uid (r.updStrm uid' f) :=
  ⟨h.cf, forall_hls_upd h.ok (fun _ _ _ hp => hp) (fun _ _ _ hp => by rw [hf]; exact hp), h.ab,
   forall_hls_upd h.hd (fun _ _ _ hp => hp) (fun _ _ _ hp => by rw [hf]; exact hp)⟩

/-- update of the exempt stream: the new entries keep the uid and satisfy clauses (2) and (3) -/
theorem HLw.updW {uid : Nat} (h : HLw cfg uid r) (f : Strm → Strm)
    (hf : ∀ x ∈ r.s.strms, x.uid = uid → (f x).uid = uid ∧ PW cfg (f x).hl ∧ PH cfg (f x).hl) :
    HLw cfg uid (r.updStrm uid f) :=
  ⟨h.cf, forall_hls_upd h.ok (fun _ _ _ hp => hp)
      (fun x hx hu _ => ⟨(hf x hx hu).2.1, fun hne => absurd (hf x hx hu).1 hne⟩), h.ab,
   forall_hls_upd h.hd (fun _ _ _ hp => hp) (fun x hx hu _ => (hf x hx hu).2.2)⟩

theorem HL.of (h : HL cfg r) {uid : Nat} {st : Strm} (hg : r.getStrm uid = some st) : POK cfg st.hl :=
  h.ok _ (List.mem_map_of_mem (getStrm_mem hg).1)

/-- replacing the stream `getStrm uid` returns by one with the same skeleton -/
theorem HL.updC (h : HL cfg r) (uid : Nat) (st st' : Strm) (hg : r.getStrm uid = some st) (hs : st'.hl = st.hl) :
    HL cfg (r.updStrm uid fun _ => st') :=
  h.upd uid _ (fun _ _ _ _ => by rw [hs]; exact h.of hg)
    (fun _ _ _ _ => by rw [hs]; exact h.hd _ (List.mem_map_of_mem (getStrm_mem hg).1))

theorem HL.triv (hpos : ¬ cfg.maxHeaderList > 0) (hc : r.s.cfg = cfg) : HL cfg r :=
  ⟨hc, fun _ _ => ⟨fun h => absurd h hpos, fun h => absurd h hpos⟩, fun _ _ h => absurd h hpos, fun _ _ h => absurd h hpos⟩

end

/-! ## the field loop: no error means the running size stayed within the limit; what it leaves of an unfinished field
is within `heldFactor` times the limit -/

theorem fieldUpdate_hdr (st : Strm) (f : Hpack.Field) :
    (fieldUpdate st f).hdrListSize = st.hdrListSize + f.name.length + f.value.length + 32 ∧
    (fieldUpdate st f).prevHdr = st.prevHdr :=
  fieldUpdate_cases (P := fun x => x.hdrListSize = (counted st f).hdrListSize ∧ x.prevHdr = st.prevHdr) st f
    ⟨rfl, rfl⟩ ⟨rfl, rfl⟩ ⟨rfl, rfl⟩ ⟨rfl, rfl⟩ ⟨rfl, rfl⟩ ⟨rfl, rfl⟩ ⟨rfl, rfl⟩ (fun _ _ => ⟨rfl, rfl⟩) ⟨rfl, rfl⟩ ⟨rfl, rfl⟩

theorem fieldVerdict_none_limit (cfg : Cfg) (st : Strm) (f : Hpack.Field) (h : fieldVerdict cfg st f = none)
    (hpos : cfg.maxHeaderList > 0) :
    ((st.hdrListSize + f.name.length + f.value.length + 32 : Nat) : Int) ≤ cfg.maxHeaderList :=
  fieldVerdict_cases (P := fun v => v = none → _) cfg st f
    (fun hc _ => by
      simp only [Bool.and_eq_true, decide_eq_true_eq, not_and, Int.not_lt] at hc
      exact hc hpos)
    nofun nofun nofun h

/-- the octets of an unfinished field a stream holds are within the bound (trivially so when the limit is off) -/
def HeldOK (cfg : Cfg) (st : Strm) : Prop :=
  cfg.maxHeaderList > 0 → (st.prevHdr.length : Int) ≤ (heldFactor : Int) * cfg.maxHeaderList

theorem heldTooLong_false {cfg : Cfg} {tail : Bytes} (h : ¬ heldTooLong cfg tail = true) (hpos : cfg.maxHeaderList > 0) :
    (tail.length : Int) ≤ (heldFactor : Int) * cfg.maxHeaderList := by
  simp only [heldTooLong, Bool.and_eq_true, decide_eq_true_eq, not_and, Int.not_lt] at h
  exact h hpos

/-- the field loop checks before it adds, and before it stores: without an error the running size stays within the
limit; with or without one, an unfinished field is stored only when it is within the bound -/
theorem fieldLoop_checks (fuel : Nat) (s : Srv) (st : Strm) (bs eh : Bool) (fp : Nat) (b : Bytes) :
    (s.cfg.maxHeaderList > 0 → (st.hdrListSize : Int) ≤ s.cfg.maxHeaderList → (fieldLoop fuel s st bs eh fp b).2.2 = none →
      ((fieldLoop fuel s st bs eh fp b).2.1.hdrListSize : Int) ≤ s.cfg.maxHeaderList) ∧
    (HeldOK s.cfg st → HeldOK s.cfg (fieldLoop fuel s st bs eh fp b).2.1) := by
  induction fuel generalizing s st fp b with
  | zero => exact ⟨fun _ _ hn => (nomatch hn), id⟩
  | succ n ih =>
    cases b with
    | nil => exact ⟨fun _ h0 _ => h0, id⟩
    | cons c cs =>
      unfold fieldLoop
      cases Hpack.Dec.next s.dec bs fp (c :: cs) with
      | needMore =>
        let P : Srv × Strm × Option SErr → Prop := fun x =>
          (s.cfg.maxHeaderList > 0 → (st.hdrListSize : Int) ≤ s.cfg.maxHeaderList → x.2.2 = none →
            (x.2.1.hdrListSize : Int) ≤ s.cfg.maxHeaderList) ∧ (HeldOK s.cfg st → HeldOK s.cfg x.2.1)
        exact ite_ind (P := P)
          (fun _ => ite_ind (P := P) (fun _ => ⟨fun _ _ hn => (nomatch hn), id⟩)
            fun hh => ⟨fun _ h0 _ => h0, fun _ hpos => heldTooLong_false hh hpos⟩)
          fun _ => ⟨fun _ _ hn => (nomatch hn), id⟩
      | err => exact ⟨fun _ _ hn => (nomatch hn), id⟩
      | ok dec fo rest =>
        cases fo with
        | none => exact ⟨fun _ h0 _ => h0, id⟩
        | some f =>
          obtain ⟨e1, e2⟩ := fieldUpdate_hdr { st with fieldSeen := true } f
          have hheld : HeldOK s.cfg st → HeldOK s.cfg (fieldUpdate { st with fieldSeen := true } f) :=
            fun h0 hpos => by rw [e2]; exact h0 hpos
          dsimp only [fieldStep]
          cases hv : fieldVerdict s.cfg { st with fieldSeen := true } f with
          | some e => exact ⟨fun _ _ hn => (nomatch hn), hheld⟩
          | none =>
            obtain ⟨i1, i2⟩ := ih { s with dec := dec } (fieldUpdate { st with fieldSeen := true } f) (fp + 1) rest
            exact ⟨fun hpos _ hn => i1 hpos (by rw [e1]; exact fieldVerdict_none_limit s.cfg _ f hv hpos) hn,
              fun h0 => i2 (hheld h0)⟩

theorem hdrTrailer_hdr (st : Strm) (eh : Bool) :
    (hdrTrailer st eh).hdrListSize = st.hdrListSize ∧ (hdrTrailer st eh).prevHdr = st.prevHdr :=
  ite_ind (P := fun x : Strm => x.hdrListSize = st.hdrListSize ∧ x.prevHdr = st.prevHdr) (fun _ => ⟨rfl, rfl⟩) fun _ =>
    ite_ind (P := fun x : Strm => x.hdrListSize = st.hdrListSize ∧ x.prevHdr = st.prevHdr) (fun _ => ⟨rfl, rfl⟩)
      fun _ => ⟨rfl, rfl⟩

theorem hdrPre_hdr (st : Strm) (isCont eh : Bool) :
    (hdrPre st isCont eh).hdrListSize = st.hdrListSize ∧ (hdrPre st isCont eh).prevHdr = [] := by
  cases isCont <;> exact ⟨(hdrTrailer_hdr st eh).1, rfl⟩

theorem handleHeaderFrame_limit (s : Srv) (st : Strm) (fr : Frame.Frame) (hpos : s.cfg.maxHeaderList > 0)
    (h0 : (st.hdrListSize : Int) ≤ s.cfg.maxHeaderList) (hn : (handleHeaderFrame s st fr).2.2 = none) :
    ((handleHeaderFrame s st fr).2.1.hdrListSize : Int) ≤ s.cfg.maxHeaderList := by
  revert hn
  rw [handleHeaderFrame_eq]
  let P : Srv × Strm × Option SErr → Prop := fun x => x.2.2 = none → (x.2.1.hdrListSize : Int) ≤ s.cfg.maxHeaderList
  exact ite_ind (P := P) (fun _ => nofun) fun _ => ite_ind (P := P) (fun _ => nofun) fun _ =>
    ite_ind (P := P) (fun _ => nofun) fun _ => (fieldLoop_checks ..).1 hpos
      (by rw [(hdrPre_hdr st (hdrParts fr.body).1 (Frame.hasFlag fr.flags Gen.c_FlagEndHeaders)).1]; exact h0)

/-- `handleHeaderFrame` leaves the stream with an unfinished field within the bound (it empties `prevHdr` before
the loop; where it fails before the loop the stream holds what it held) -/
theorem handleHeaderFrame_held (s : Srv) (st : Strm) (fr : Frame.Frame) (h0 : HeldOK s.cfg st) :
    HeldOK s.cfg (handleHeaderFrame s st fr).2.1 := by
  have hz : HeldOK s.cfg (hdrPre st (hdrParts fr.body).1 (Frame.hasFlag fr.flags Gen.c_FlagEndHeaders)) := by
    intro hpos
    rw [(hdrPre_hdr ..).2]
    simp only [List.length_nil, heldFactor]; omega
  rw [handleHeaderFrame_eq]
  let P : Srv × Strm × Option SErr → Prop := fun x => HeldOK s.cfg x.2.1
  exact ite_ind (P := P) (fun _ => h0) fun _ =>
    ite_ind (P := P) (fun _ hpos => by rw [(hdrTrailer_hdr ..).2]; exact h0 hpos) fun _ =>
      ite_ind (P := P) (fun _ => (fieldLoop_checks ..).2 hz) fun _ => (fieldLoop_checks ..).2 hz

/-! ## preservation: the moves, on top of `SF` (which says that the table has one entry per uid) -/

section Pres
variable {cfg : Cfg} {G : List Nat} {L : Nat} {r : R}

theorem writeGoAway_hl (sid code : Nat) (tag : String) (h : HL cfg r) : HL cfg (writeGoAway r sid code tag) := by
  obtain ⟨k1, k2, _, _, _, _, k7, _, _⟩ := writeGoAway_keeps r sid code tag
  exact h.congr (by simp only [hls, k1]) k2 k7

theorem writeGoAway_hlw {uid : Nat} (sid code : Nat) (tag : String) (h : HLw cfg uid r) :
    HLw cfg uid (writeGoAway r sid code tag) := by
  obtain ⟨k1, k2, _, _, _, _, k7, _, _⟩ := writeGoAway_keeps r sid code tag
  exact h.congr (by simp only [hls, k1]) k2 k7

/-- `writeError` on the exempt stream closes it -/
theorem writeError_hlw (uid : Nat) (e : SErr) (h : HLw cfg uid r) : HLw cfg uid (writeError r uid e) :=
  writeError_cases r uid e (fun _ => h) (fun _ _ _ _ _ => (writeGoAway_hlw _ _ _ h).updClose.weak uid)
    fun st code _ _ => (HLw.congr (r' := writeReset r st.id code) h rfl rfl rfl).updClose.weak uid

/-- a stream closed while its handler runs goes to `abandoned`: clause (2) held for it -/
theorem closeStream_hl (uid : Nat) (h : HL cfg r) : HL cfg (closeStream r uid) := by
  have hsub : ∀ st : Strm, ∀ t ∈ (delFirst r.s.strms st.id).map Strm.hl, t ∈ hls r := by
    intro st t ht
    obtain ⟨x, hx, rfl⟩ := List.mem_map.mp ht
    exact List.mem_map_of_mem ((delFirst_sublist _ _).subset hx)
  refine closeStream_outcomes r uid (fun _ => h)
    (fun st hg hrun => ⟨h.cf, fun t ht => h.ok t (hsub st t ht), fun a ha hpos => ?_, fun t ht => h.hd t (hsub st t ht)⟩)
    fun st _ _ => ?_
  · rcases List.mem_append.mp ha with ha | ha
    · exact h.ab a ha hpos
    · rw [List.mem_singleton.mp ha]
      exact ((h.of hg).2 hpos hrun).1
  · exact releaseStream_cases (P := HL cfg) _ st
      (fun _ => ⟨h.cf, fun t ht => h.ok t (hsub st t ht), h.ab, fun t ht => h.hd t (hsub st t ht)⟩)
      fun _ => ⟨h.cf, fun t ht => h.ok t (hsub st t ht), h.ab, fun t ht => h.hd t (hsub st t ht)⟩

theorem SF.kept_hl : Kept fun r => SF cfg G L r ∧ HL cfg r where
  same h ha hr ho :=
    ⟨SF.kept.same h.1 ha hr ho, h.2.congr (map_of_accts Strm.Acct.hl ha) (congrArg (·.1) hr) (congrArg (·.2.2.2.2.2.1) hr)⟩
  emit o hg hd h := ⟨SF.kept.emit o hg hd h.1, h.2.congr rfl rfl rfl⟩
  reset sid code h := ⟨writeReset_sf sid code h.1, h.2.congr rfl rfl rfl⟩
  goAway sid code tag hs h := ⟨writeGoAway_sf sid code tag hs h.1, writeGoAway_hl sid code tag h.2⟩
  close uid h := ⟨SF.kept.close uid h.1, h.2.updClose uid⟩
  the h := SF.kept.the h.1
  closeStream uid h := ⟨closeStream_sf uid h.1, closeStream_hl uid h.2⟩

/-! ## the steps -/

/-- the header case of `handleFrame`, reached only for a stream that is not (at least half-closed and past its header
section): in particular not for a stream whose handler runs. The stream may now be over the limit — exactly when the
loop reported an error. -/
theorem hhf_hl (uid : Nat) (st : Strm) (fr : Frame.Frame) (hg : r.getStrm uid = some st) (hl : hdrLate st fr = false)
    (h : HL cfg r) :
    HLw cfg uid (hdrUpd r uid st fr) ∧
    ((handleHeaderFrame r.s st fr).2.2 = none → HL cfg (hdrUpd r uid st fr) ∧
      ∀ fin, HL cfg ((hdrUpd r uid st fr).updStrm uid fun s => { s with headersFinished := fin })) := by
  obtain ⟨k1, k2⟩ := handleHeaderFrame_keeps r.s st fr
  have h0 : HL cfg ({ r with s := (handleHeaderFrame r.s st fr).1 } : R) := by
    rw [k1]; exact h.congr rfl rfl rfl
  obtain ⟨hm, hu⟩ := getStrm_mem hg
  have hp := h.of hg
  have e1 : (handleHeaderFrame r.s st fr).2.1.uid = uid := (congrArg Strm.Core.uid k2).trans hu
  have e2 : (handleHeaderFrame r.s st fr).2.1.state = st.state := congrArg Strm.Core.state k2
  have e3 : (handleHeaderFrame r.s st fr).2.1.handlerRunning = st.handlerRunning := congrArg Strm.Core.handlerRunning k2
  -- the handler of this stream does not run (when the limit is on): it would be half-closed with its header section done
  have hrun : cfg.maxHeaderList > 0 → (handleHeaderFrame r.s st fr).2.1.handlerRunning = false := by
    intro hpos
    rw [e3]
    cases hr : st.handlerRunning
    · rfl
    · obtain ⟨_, hf, hk⟩ := hp.2 hpos hr
      have hf : st.headersFinished = true := hf
      have : hdrLate st fr = true := by
        simp only [hdrLate, continuingHeaders, hf, Bool.not_true, Bool.and_false, Bool.not_false, Bool.and_true,
          decide_eq_true_eq]
        exact hk
      rw [hl] at this; cases this
  have pw : ∀ fin, PW cfg ({ (handleHeaderFrame r.s st fr).2.1 with headersFinished := fin } : Strm).hl :=
    fun fin hpos hr => by
      have := hrun hpos
      rw [show (handleHeaderFrame r.s st fr).2.1.handlerRunning = true from hr] at this
      cases this
  have ph : PH cfg (handleHeaderFrame r.s st fr).2.1.hl := by
    have := handleHeaderFrame_held r.s st fr (by rw [h.cf]; exact h.hd st.hl (List.mem_map_of_mem hm))
    rw [h.cf] at this
    exact this
  have p1 : (handleHeaderFrame r.s st fr).2.2 = none → P1 cfg (handleHeaderFrame r.s st fr).2.1.hl := by
    intro hn hpos hne
    have hne : st.state ≠ .closed := by rw [← e2]; exact hne
    have := handleHeaderFrame_limit r.s st fr (by rw [h.cf]; exact hpos) (by rw [h.cf]; exact hp.1 hpos hne) hn
    rw [h.cf] at this
    exact this
  refine ⟨(h0.weak uid).updW _ fun _ _ _ => ⟨e1, pw _, ph⟩, fun hn => ?_⟩
  have h1 : HL cfg (hdrUpd r uid st fr) := h0.upd uid _ (fun _ _ _ _ => ⟨p1 hn, pw _⟩) (fun _ _ _ _ => ph)
  refine ⟨h1, fun fin => h1.upd uid _ fun x hx hxu _ => ?_⟩
  -- every entry with that uid is the stream the loop returned
  obtain ⟨y, _, ⟨hne, e⟩ | ⟨_, e⟩⟩ := mem_updStrm hx
  · rw [e] at hxu; exact absurd hxu hne
  · rw [e]; exact ⟨p1 hn, pw fin⟩

/-- after `handleFrame` the stream the frame was for may be over the limit, but only when an error is returned -/
theorem handleFrame_hl (uid : Nat) (fr : Frame.Frame) (hs : SF cfg G L r) (h : HL cfg r) :
    HLw cfg uid (handleFrame r uid fr).1 ∧ ((handleFrame r uid fr).2 = none → HL cfg (handleFrame r uid fr).1) :=
  have ok : ∀ {r' : R} {e : Option SErr}, HL cfg r' → HLw cfg uid r' ∧ (e = none → HL cfg r') :=
    fun h' => ⟨h'.weak uid, fun _ => h'⟩
  have hd : ∀ st, r.getStrm uid = some st → SF cfg G L (r.updStrm uid fun _ => recvd st fr) ∧
      HL cfg (r.updStrm uid fun _ => recvd st fr) :=
    fun st hg => ⟨(data_sf uid st fr hg hs).1, h.updC uid st _ hg rfl⟩
  handleFrame_outcomes (P := fun x => HLw cfg uid x.1 ∧ (x.2 = none → HL cfg x.1)) r uid fr
    (fun _ => ok h) (fun _ _ _ _ _ => ok h) (fun _ _ _ => ok h)
    (fun _ st _ hg hl _ => ⟨(hhf_hl uid st fr hg hl h).1, nofun⟩)
    (fun _ st hg hl hx => ⟨(hhf_hl uid st fr hg hl h).1, fun _ => ((hhf_hl uid st fr hg hl h).2 hx).1⟩)
    (fun _ st hg hl hx _ => ok (((hhf_hl uid st fr hg hl h).2 hx).2 _))
    (fun _ st hg _ => ok (SF.kept_hl.consumeConnWindow _ (hd st hg)).2)
    (fun _ st hg hc => ok (SF.kept_hl.consumeRecvWindow _ _ _
      ⟨(data_sf uid st fr hg hs).2 hc, (hd st hg).2.updK _ _ fun _ => rfl⟩).2)
    (fun _ _ _ _ => ok (h.updK _ _ fun _ => rfl))

/-- `onFrameError` after `handleFrame`: an error closes the stream that may be over the limit -/
theorem onFrameError_hl (uid : Nat) (e : Option SErr) (hw : HLw cfg uid r) (hn : e = none → HL cfg r) :
    HL cfg (onFrameError r uid e).1 :=
  onFrameError_cases (P := fun x => HL cfg x.1) r uid e hn fun _ _ _ => (writeError_hlw _ _ hw).updClose

theorem rank_closed {s : StState} (h : s.rank ≥ 4) : s = .closed := by
  cases s <;> first | rfl | cases (by decide : ¬ _) h

/-- a stream that only moves on in its life (`handleState`) stays in order -/
theorem POK.mono {t t' : Hl} (hp : POK cfg t) (h2 : t'.hsz = t.hsz) (h3 : t'.running = t.running) (h4 : t'.hfin = t.hfin)
    (hr : t.state.rank ≤ t'.state.rank) : POK cfg t' := by
  refine ⟨fun hpos hne => ?_, fun hpos hrun => ?_⟩
  · rw [h2]
    refine hp.1 hpos fun hc => hne (rank_closed ?_)
    rw [hc] at hr; exact hr
  · rw [h3] at hrun
    obtain ⟨a, b, c⟩ := hp.2 hpos hrun
    rw [h2, h4]
    exact ⟨a, b, Nat.le_trans c hr⟩

/-- the dispatch: only for a stream that is half-closed with its header section finished — so within the limit -/
theorem dispatch_hl (uid : Nat) (st : Strm) (hg : r.getStrm uid = some st) (hst : st.state = .halfClosed)
    (hfin : st.headersFinished = true) (hs : SF cfg G L r) (h : HL cfg r) :
    HL cfg (dispatch (r.updStrm uid fun s => { s with responded := true }) uid st) := by
  have h1 : HL cfg (r.updStrm uid fun s => { s with responded := true }) := h.updK _ _ fun _ => rfl
  refine HL.congr (r := (r.updStrm uid fun s => { s with responded := true }).updStrm uid
    fun s => { s with handlerRunning := true }) ?_ rfl rfl rfl
  refine h1.upd uid _ fun x hx hxu hp => ?_
  obtain ⟨y, hy, ⟨hne, e⟩ | ⟨hyu, e⟩⟩ := mem_updStrm hx
  · rw [e] at hxu; exact absurd hxu hne
  · rw [hs.the hg y hy hyu] at e
    subst e
    refine ⟨hp.1, fun hpos _ => ⟨hp.1 hpos ?_, hfin, ?_⟩⟩
    · show st.state ≠ .closed
      rw [hst]; decide
    · show st.state.rank ≥ 3
      rw [hst]; decide

/-- a new stream: idle, nothing counted yet, no handler -/
theorem new_hl (fr : Frame.Frame) (h : HL cfg r) : HL cfg (withNew r fr) := by
  have hs : hls (withNew r fr) = hls r ++ [⟨r.s.nextUid, .idle, 0, false, false, 0⟩] := by
    simp only [hls, withNew, List.map_append]
    rfl
  refine ⟨h.cf, ?_, h.ab, ?_⟩
  · intro t ht
    rw [hs] at ht
    rcases List.mem_append.mp ht with ht | ht
    · exact h.ok t ht
    · simp only [List.mem_singleton] at ht; subst ht
      exact ⟨fun hpos _ => Int.le_of_lt hpos, fun _ hr => nomatch hr⟩
  · intro t ht
    rw [hs] at ht
    rcases List.mem_append.mp ht with ht | ht
    · exact h.hd t ht
    · simp only [List.mem_singleton] at ht; subst ht
      intro hpos; simp only [heldFactor]; omega

theorem SF.steps_hl : Steps fun r => SF cfg G L r ∧ HL cfg r where
  toKept := SF.kept_hl
  frame uid fr h :=
    ⟨SF.steps.frame uid fr h.1,
     onFrameError_hl uid _ (handleFrame_hl uid fr h.1 h.2).1 (handleFrame_hl uid fr h.1 h.2).2⟩
  handleState uid fr h :=
    ⟨SF.steps.handleState uid fr h.1,
     h.2.upd uid _ (fun x _ _ hp => by rw [handleState_after]; exact hp.mono rfl rfl rfl (x.state.rank_after fr))
      (fun x _ _ hp => by rw [handleState_after]; exact hp)⟩
  dispatch uid st hg hst hfin h := ⟨SF.steps.dispatch uid st hg hst hfin h.1, dispatch_hl uid st hg hst hfin h.1 h.2⟩
  withNew fr ht hl hc hid hfs h := ⟨SF.steps.withNew fr ht hl hc hid hfs h.1, new_hl fr h.2⟩
  handlerDone uid h :=
    ⟨SF.steps.handlerDone uid h.1, h.2.upd uid _ fun _ _ _ hp => ⟨hp.1, fun _ hr => nomatch hr⟩⟩
  release := @fun r st hm h =>
    have hl : HL cfg { r with s := { r.s with abandoned := r.s.abandoned.filter (·.uid != st.uid) } } :=
      ⟨h.2.cf, h.2.ok, fun a ha => h.2.ab a (List.mem_filter.mp ha).1, h.2.hd⟩
    ⟨release_sf st hm h.1, ite_ind (P := HL cfg) (fun _ => hl.congr rfl rfl rfl) fun _ => hl⟩

theorem stepR_hl (s : Srv) (ev : Event) (hs : SF cfg G L { s := s }) (h : HL cfg { s := s }) : HL cfg (stepR s ev) :=
  (SF.steps_hl.stepR s ev ⟨hs, h⟩).2

end Pres

/-! ## runs -/

def HLS (cfg : Cfg) (s : Srv) : Prop := HL cfg { s := s }

theorem step_hls {cfg : Cfg} {G : List Nat} {s : Srv} (ev : Event) (hs : SFS cfg G s) (h : HLS cfg s) :
    HLS cfg (step s ev).1 :=
  (stepR_hl s ev hs h).congr rfl rfl rfl

theorem runFrom_hls {cfg : Cfg} {G : List Nat} {s : Srv} (evs : List Event) (hs : SFS cfg G s) (h : HLS cfg s) :
    HLS cfg (runFrom s evs).1 := by
  induction evs generalizing s G with
  | nil => exact h
  | cons ev evs ih => exact ih (step_sfs ev hs).1 (step_hls ev hs h)

theorem init_hls (cfg : Cfg) : HLS cfg { cfg := cfg } :=
  ⟨rfl, fun _ ht => (nomatch ht), fun _ ha => (nomatch ha), fun _ ht => (nomatch ht)⟩

theorem run_hls (cfg : Cfg) (evs : List Event) : HLS cfg (run cfg evs).1 :=
  runFrom_hls evs (init_sfs cfg) (init_hls cfg)

/-- run level: with MaxHeaderListSize set, in every reachable state every stream
whose handler is running — in the table or abandoned — has a header list of at most that size (RFC 7540 §6.5.2 size,
summed over all its header blocks); such a stream of the table has its header section finished and is at least
half-closed (no further header block is decoded for it: its size is final); and every stream of the table that is not
closed is within the limit at every moment. -/
theorem handler_headers_within_limit (cfg : Cfg) (evs : List Event) (hpos : cfg.maxHeaderList > 0) :
    (∀ st ∈ (run cfg evs).1.strms, st.handlerRunning = true →
      (st.hdrListSize : Int) ≤ cfg.maxHeaderList ∧ st.headersFinished = true ∧ st.state.rank ≥ StState.halfClosed.rank) ∧
    (∀ a ∈ (run cfg evs).1.abandoned, (a.hdrListSize : Int) ≤ cfg.maxHeaderList) ∧
    (∀ st ∈ (run cfg evs).1.strms, st.state ≠ .closed → (st.hdrListSize : Int) ≤ cfg.maxHeaderList) := by
  have h := run_hls cfg evs
  refine ⟨fun st hst hr => ?_, fun a ha => h.ab a ha hpos, fun st hst hne => ?_⟩
  · exact (h.ok st.hl (List.mem_map_of_mem hst)).2 hpos hr
  · exact (h.ok st.hl (List.mem_map_of_mem hst)).1 hpos hne

/-- run level: with MaxHeaderListSize set, in every reachable state every stream of the
table holds at most `heldFactor` = 4 times MaxHeaderListSize octets of a header field that is not complete yet
(`prevHdr`, Go `strm.previousHeaderBytes`) — however many HEADERS/CONTINUATION frames the peer has sent. The bound is
attained (`Ex.cutRun`). -/
theorem held_header_octets_bounded (cfg : Cfg) (evs : List Event) (hpos : cfg.maxHeaderList > 0) :
    ∀ st ∈ (run cfg evs).1.strms, (st.prevHdr.length : Int) ≤ 4 * cfg.maxHeaderList := by
  intro st hst
  exact (run_hls cfg evs).hd st.hl (List.mem_map_of_mem hst) hpos

/-- step level, under the invariant: where the stream loop hands a request to a
handler (`dispatchOrSend` emits a dispatch record for the stream `st` it was given), that stream's header list is
within the limit -/
theorem dispatch_within_header_limit {cfg : Cfg} {r : R} (h : HL cfg r) (uid : Nat) (st : Strm) (hg : r.getStrm uid = some st)
    (hd : cnt .dispatch (dispatchOrSend r uid st).out ≠ cnt .dispatch r.out) (hpos : cfg.maxHeaderList > 0) :
    (st.hdrListSize : Int) ≤ cfg.maxHeaderList := by
  have hst : st.state = .halfClosed := ((dispatchOrSend_starts r uid st).resolve_right fun hn => hd hn.2).1.1
  refine (h.of hg).1 hpos ?_
  show st.state ≠ .closed
  rw [hst]; decide

/-! non-vacuity: MaxHeaderListSize = 200. GET / http has a header list of 42 + 43 + 38 = 123 octets: dispatched.
The same three fields and twice `accept-encoding: gzip, deflate` (60 octets each) make 243: the second of them breaks
the limit — GOAWAY(ENHANCE_YOUR_CALM), no dispatch; the handler of stream 1 is still running with its 123 octets. -/
namespace Ex

/-- HEADERS(sid, GET / http, accept-encoding ×2, END_STREAM | END_HEADERS) -/
def bigHdrs (sid : Nat) : Event := .bytes [0, 0, 5, 1, 5, 0, 0, 0, sid, 0x82, 0x86, 0x84, 0x90, 0x90]

def hdrRun : List Event := [settings0, hdrs 1, bigHdrs 3]

example : fm tag (runOuts { maxHeaderList := 200 } hdrRun) = [("dispatch", 1), ("goaway", 3)] := by decide +kernel
example : (run { maxHeaderList := 200 } hdrRun).1.strms.map (fun st => (st.id, st.hdrListSize, st.handlerRunning)) =
    [(1, 123, true), (3, 243, false)] := by decide +kernel
example : ((run { maxHeaderList := 200 } hdrRun).1.strms.filter (·.id == 3)).map (·.state) = [.closed] := by decide +kernel

/-- HEADERS(sid, no flags): a literal field without indexing, name `a`, whose value announces 127 octets, with `n`
of them: `5 + n` octets of a field that never ends in this frame -/
def cutHdrs (sid n : Nat) : Event := .bytes ([0, 0, 5 + n, 1, 0, 0, 0, 0, sid, 0x00, 0x01, 0x61, 0x7f, 0x00] ++ List.replicate n 0x78)
/-- CONTINUATION(sid, no flags) with `n` more octets of the value -/
def moreCont (sid n : Nat) : Event := .bytes ([0, 0, n, 9, 0, 0, 0, 0, sid] ++ List.replicate n 0x78)

/-- MaxHeaderListSize = 10, so 40 octets may be held: 5 + 30, then 5 more — held; one more — GOAWAY, nothing held -/
def cutRun : List Event := [settings0, cutHdrs 1 30, moreCont 1 5]

example : (run { maxHeaderList := 10 } cutRun).1.strms.map (fun st => (st.id, st.prevHdr.length)) = [(1, 40)] ∧
    fm tag (runOuts { maxHeaderList := 10 } cutRun) = [] := by decide +kernel
example : (run { maxHeaderList := 10 } (cutRun ++ [moreCont 1 1])).1.strms.map (fun st => (st.id, st.prevHdr.length)) = [(1, 0)] ∧
    fm tag (runOuts { maxHeaderList := 10 } (cutRun ++ [moreCont 1 1])) = [("goaway", 1)] := by decide +kernel
/-- with the check off the same octets are kept -/
example : (run { maxHeaderList := -1 } (cutRun ++ [moreCont 1 1])).1.strms.map (fun st => (st.id, st.prevHdr.length)) = [(1, 41)] := by
  decide +kernel

end Ex

end H2.Server
