import H2.Proofs.ServerFlowFull
/-!
# Receive-side credit of the full server model, step level (C14, server role)

The run-level statements (`recv_ledger`, `recv_conservation`, `recv_never_overcredits`, `no_zero_increment`) are in
`ServerFlowFull.lean`, where the invariant is. Here: what `consumeConnWindow` / `consumeRecvWindow` do to the state and
the outputs, and that the three places where the model meets a DATA frame it accepts, drops (request-body limit) or
ignores (stream reset by this side) charge exactly `fr.length` octets through them.
-/
namespace H2.Server
open H2.Frame (Frame Body)

/-- `r'` is `r` after `n` received octets have been charged to the connection window -/
def Charged (r r' : R) (n : Nat) : Prop :=
  ∃ l, r'.out = r.out ++ l ∧ r'.s.recvWin + (n : Int) = r.s.recvWin + (cred0 l : Int) ∧ (∀ o ∈ l, o.bad = false) ∧
    sentC l = 0

theorem Charged.of_eq (r : R) {r1 r' : R} {n : Nat} (h : Charged r1 r' n) (ho : r1.out = r.out) (hw : r1.s.recvWin = r.s.recvWin) :
    Charged r r' n := by
  obtain ⟨l, a, b, c, d⟩ := h
  exact ⟨l, by rw [a, ho], by rw [b, hw], c, d⟩

/-- `consumeConnWindow`: nothing for `n = 0`; otherwise the window goes down by `n`, and when that takes it below
half of 4 MiB one `WINDOW_UPDATE(0, inc)` with `inc = 4 MiB − (recvWin − n) > 0` is written and the window is 4 MiB again -/
theorem consumeConnWindow_spec (r : R) (n : Nat) :
    (n = 0 → consumeConnWindow r n = r) ∧
    (n ≠ 0 → r.s.recvWin - n < (Gen.c_serverMaxWindow : Int) / 2 →
      (consumeConnWindow r n).out = r.out ++ [.wu 0 ((Gen.c_serverMaxWindow : Int) - (r.s.recvWin - n)).toNat] ∧
      (consumeConnWindow r n).s.recvWin = Gen.c_serverMaxWindow ∧
      0 < ((Gen.c_serverMaxWindow : Int) - (r.s.recvWin - n)).toNat) ∧
    (n ≠ 0 → ¬ r.s.recvWin - n < (Gen.c_serverMaxWindow : Int) / 2 →
      (consumeConnWindow r n).out = r.out ∧ (consumeConnWindow r n).s.recvWin = r.s.recvWin - n) := by
  rw [consumeConnWindow_eq]
  refine ⟨?_, ?_, ?_⟩
  · intro h; simp [h]
  · intro h1 h2
    have : (n == 0) = false := by simpa using h1
    rw [this]
    simp only [Bool.false_eq_true, if_false, h2, if_true]
    exact ⟨rfl, rfl, by omega⟩
  · intro h1 h2
    have : (n == 0) = false := by simpa using h1
    rw [this]
    simp only [Bool.false_eq_true, if_false, h2]
    exact ⟨by simp [setRecv], rfl⟩

theorem consumeConnWindow_charged (r : R) (n : Nat) : Charged r (consumeConnWindow r n) n := by
  obtain ⟨h0, h1, h2⟩ := consumeConnWindow_spec r n
  by_cases hn : n = 0
  · rw [h0 hn, hn]; exact ⟨[], by simp, by simp, by simp, rfl⟩
  · by_cases hc : r.s.recvWin - n < (Gen.c_serverMaxWindow : Int) / 2
    · obtain ⟨a, b, c⟩ := h1 hn hc
      refine ⟨_, a, ?_, ?_, rfl⟩
      · rw [b]; simp only [cred0_single, Out.credit, if_true]; omega
      · intro o ho; simp only [List.mem_singleton] at ho; subst ho
        simp only [Out.bad, beq_eq_false_iff_ne, ne_eq]; omega
    · obtain ⟨a, b⟩ := h2 hn hc
      exact ⟨[], by simp [a], by rw [b]; simp, by simp, rfl⟩

/-- `consumeRecvWindow`: a non-empty frame that does not end its stream gets its whole length back on the stream
at once, before the connection is looked at -/
theorem consumeRecvWindow_stream_credit (r : R) (st : Strm) (fr : Frame) (n : Nat) (hn : n ≠ 0)
    (hes : Frame.hasFlag fr.flags Gen.c_FlagEndStream = false) :
    consumeRecvWindow r st fr n = consumeConnWindow (r.emit (.wu st.id n)) n := by
  rw [consumeRecvWindow_eq, if_pos ⟨hn, hes⟩]

/-- … and a frame that ends its stream gets no stream credit (nothing is owed on a stream the peer has finished) -/
theorem consumeRecvWindow_final (r : R) (st : Strm) (fr : Frame) (n : Nat)
    (hes : Frame.hasFlag fr.flags Gen.c_FlagEndStream = true) :
    consumeRecvWindow r st fr n = consumeConnWindow r n := by
  rw [consumeRecvWindow_eq, if_neg (fun h => by rw [hes] at h; cases h.2)]

theorem consumeRecvWindow_charged (r : R) (st : Strm) (fr : Frame) (n : Nat) (hid : st.id ≠ 0) :
    Charged r (consumeRecvWindow r st fr n) n := by
  rw [consumeRecvWindow_eq]
  refine ite_ind (P := fun x => Charged r (consumeConnWindow x n) n) (fun hc => ?_) (fun _ => consumeConnWindow_charged r n)
  -- the stream's WINDOW_UPDATE comes first; it is no connection credit
  obtain ⟨l, a, b, c, d⟩ := consumeConnWindow_charged (r.emit (.wu st.id n)) n
  refine ⟨.wu st.id n :: l, by rw [a]; simp, ?_, ?_, ?_⟩
  · have e : cred0 (.wu st.id n :: l) = cred0 l := by
      show cred0 ([.wu st.id n] ++ l) = _
      rw [cred0_append]; simp [Out.credit, hid]
    rw [e]; exact b
  · intro o ho
    rcases List.mem_cons.mp ho with ho | ho
    · subst ho; simpa [Out.bad] using hc.1
    · exact c o ho
  · show sentC ([.wu st.id n] ++ l) = 0
    rw [sentC_append, d]; rfl

/-- a DATA frame for a stream that may receive (in the table, headers finished, not half-closed or closed, frame
allowed in its state) is charged `fr.length` octets — whether it is accepted or dropped by the request-body limit -/
theorem handleFrame_data_charged (r : R) (uid : Nat) (fr : Frame) (st : Strm) (hg : r.getStrm uid = some st)
    (hv : verifyState st fr = none) (ht : fr.typ = Gen.c_FrameData) (hf : st.headersFinished = true)
    (hr : ¬ st.state.rank ≥ StState.halfClosed.rank) (hid : st.id ≠ 0) :
    Charged r (handleFrame r uid fr).1 fr.length ∧
      ((handleFrame r uid fr).2 = none ∨ (handleFrame r uid fr).2 = some (.reset Gen.c_EnhanceYourCalm)) := by
  rw [handleFrame_eq, hg]
  simp only [hv, ht]
  have e1 : (Gen.c_FrameData == Gen.c_FrameHeaders || Gen.c_FrameData == Gen.c_FrameContinuation) = false := rfl
  simp only [e1, Bool.false_eq_true, if_false, beq_self_eq_true, if_true]
  unfold hfData
  simp only [hf, Bool.not_true, Bool.false_eq_true, if_false, hr]
  split
  · refine ⟨?_, Or.inr rfl⟩
    exact Charged.of_eq r (consumeConnWindow_charged _ _) rfl rfl
  · refine ⟨?_, Or.inl rfl⟩
    exact Charged.of_eq r (consumeRecvWindow_charged _ _ _ _ hid) rfl rfl

/-- a DATA frame for a stream this side has reset is ignored, but charged to the connection -/
theorem unknownStream_data_ignored (r : R) (fr : Frame) (wc : Bool) (hc : r.s.resetByUs.contains fr.stream = true)
    (ht : fr.typ = Gen.c_FrameData) : unknownStream r fr wc = (consumeConnWindow r fr.length, none) := by
  unfold unknownStream
  rw [if_pos hc]
  have : (fr.typ == Gen.c_FrameData) = true := by rw [ht]; rfl
  rw [if_pos this]

theorem unknownStream_data_charged (r : R) (fr : Frame) (wc : Bool) (hc : r.s.resetByUs.contains fr.stream = true)
    (ht : fr.typ = Gen.c_FrameData) : Charged r (unknownStream r fr wc).1 fr.length := by
  rw [unknownStream_data_ignored r fr wc hc ht]
  exact consumeConnWindow_charged r fr.length

/-! non-vacuity at step level: half the window is out; one more octet takes it below half: one increment of
2 097 153 and the window is full again -/
example : (consumeConnWindow { s := { recvWin := 2097152 } } 1).out.map Out.toString = ["WU(0,2097153)"] ∧
    (consumeConnWindow { s := { recvWin := 2097152 } } 1).s.recvWin = 4194304 := by decide +kernel
example : (consumeConnWindow { s := {} } 100).out.length = 0 ∧ (consumeConnWindow { s := {} } 100).s.recvWin = 4194204 := by
  decide +kernel

end H2.Server
