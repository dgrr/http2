import H2.Proofs.HpackInt
import H2.Props.C15
/-! String literals (RFC 7541 §5.2): `readString` inverts `writeString` (Huffman part: C15). -/
namespace H2.Hpack
open H2

theorem writeString_head (s : Bytes) (huff : Bool) :
    ∃ h tl, writeString s huff = h :: tl ∧ decide (h ≥ 128) = huff := by
  unfold writeString
  cases huff
  · obtain ⟨x, tl, hx, hlt⟩ := writeInt_head 7 0 s.length
    exact ⟨0 + x, tl ++ s, by simp [hx], by simp; omega⟩
  · obtain ⟨x, tl, hx, hlt⟩ := writeInt_head 7 128 (Huffman.encode s).length
    exact ⟨128 + x, tl ++ Huffman.encode s, by simp [hx], by simp⟩

theorem writeString_eq_encStr (s : Bytes) (huff : Bool) : writeString s huff = Spec.encStr s huff := by
  unfold writeString Spec.encStr
  cases huff <;> simp [writeInt_eq_encInt]

theorem readString_writeString (s rest : Bytes) (huff : Bool) (hs : WF s) (hl : Spec.strLen s huff < 2 ^ 64) :
    readString (writeString s huff ++ rest) = .ok s rest := by
  unfold writeString
  cases huff
  · simp only [Bool.false_eq_true, if_false, Spec.strLen] at hl ⊢
    obtain ⟨x, tl, htl, hlt⟩ := writeInt_head 7 0 s.length
    have hr := readInt_writeInt 7 0 s.length (s ++ rest) (by decide) (by decide) hl
    rw [htl] at hr ⊢
    simp only [List.append_assoc, List.cons_append] at hr ⊢
    unfold readString
    simp only [hr]
    have : ¬ (s ++ rest).length < s.length := by simp
    have hb : ¬ 0 + x ≥ 128 := by omega
    rw [if_neg this, if_neg hb]
    simp
  · simp only [if_true, Spec.strLen] at hl ⊢
    obtain ⟨x, tl, htl, hlt⟩ := writeInt_head 7 128 (Huffman.encode s).length
    have hr := readInt_writeInt 7 128 (Huffman.encode s).length (Huffman.encode s ++ rest) (by decide) (by decide) hl
    rw [htl] at hr ⊢
    simp only [List.append_assoc, List.cons_append] at hr ⊢
    unfold readString
    simp only [hr]
    have : ¬ (Huffman.encode s ++ rest).length < (Huffman.encode s).length := by simp
    have hb : 128 + x ≥ 128 := by omega
    rw [if_neg this, if_pos hb]
    simp [H2.Props.C15.decode_encode s hs]

theorem readString_ok {b s r : Bytes} (h : readString b = .ok s r) :
    ∃ n r', readInt 7 b = .ok n r' ∧ n ≤ r'.length ∧ r = r'.drop n ∧
      (s = r'.take n ∨ Huffman.decode (r'.take n) = some s) := by
  cases b with
  | nil => cases h
  | cons b0 rest =>
    unfold readString at h
    cases hi : readInt 7 (b0 :: rest) with
    | needMore => simp [hi] at h
    | overflow => simp [hi] at h
    | ok n r' =>
      simp only [hi] at h
      by_cases h1 : r'.length < n
      · simp [h1] at h
      · simp only [h1, if_false] at h
        refine ⟨n, r', rfl, by omega, ?_⟩
        by_cases h2 : b0 ≥ 128
        · simp only [h2, if_true] at h
          cases hd : Huffman.decode (r'.take n) with
          | none => simp [hd] at h
          | some s' =>
            simp only [hd] at h
            cases h
            exact ⟨rfl, .inr rfl⟩
        · simp only [h2, if_false] at h
          cases h
          exact ⟨rfl, .inl rfl⟩

theorem readString_suffix (b s r : Bytes) (h : readString b = .ok s r) : ∃ w, w ≠ [] ∧ b = w ++ r := by
  obtain ⟨n, r', hi, _, rfl, _⟩ := readString_ok h
  obtain ⟨w, hw, hb, _⟩ := readInt_suffix 7 _ _ _ hi
  exact ⟨w ++ r'.take n, by simp [hw], by rw [hb, List.append_assoc, List.take_append_drop]⟩

theorem readString_progress (b s r : Bytes) (h : readString b = .ok s r) : r.length < b.length := by
  obtain ⟨w, hw, hb⟩ := readString_suffix b s r h
  exact length_lt_of_suffix hw hb

end H2.Hpack
