import H2.Proofs.MsgRefine
import H2.Proofs.ServerOnce
import H2.Proofs.HpackSplit
/-!
# C20 — refinement, lifted over the loop: `fieldLoop` of the full server model IS `Msg.loop` of the message model

`MsgRefine.field_refines` is about one iteration. Here: for the octets of one header-bearing frame (`carried-over tail ++
fragment`), the full model's `fieldLoop` gives — through the projection `msgSt` — what `Msg.loop` gives on the list of fields
the decoder yields from those octets (`decRun`: the decoder's pass alone, no validation), followed by what the end of the
decoder's pass means (`tailVerdict`: nothing / octets carried over / COMPRESSION_ERROR / the unfinished field is too long).

* `decRun`            — the fields `Hpack.Dec.next` yields from the octets, and how the pass ends (`Tail`)
* `fieldLoop_refines` — `absOut (fieldLoop …) = loopSpec … (decRun …)` : same verdict, same resulting `msgSt`
* `fieldLoop_state`   — where no error is reported: decoder state, carried-over octets, `fieldSeen`
* `fieldLoop_ctl`     — the loop touches nothing else of the stream record (`Strm.ctl`)
* `Strm.Good`         — `0 ≤ contentLength` (hypothesis of `field_refines`) and `uri = path`: invariants of the loop
-/
namespace H2.Server.Lock
open H2.Server

def kv (f : Hpack.Field) : MsgSpec.Field := (f.name, f.value)

/-- how the decoder's pass over the octets of one frame ends -/
inductive Tail where
  /-- the octets are used up (or only dynamic table size updates were left): nothing is carried over -/
  | clean (dec : Hpack.DecState)
  /-- the octets end inside a representation: `rest` is what `nextField` hands back (size updates applied: `dec`) -/
  | cut (dec : Hpack.DecState) (rest : Bytes)
  /-- decoding error (or the fuel is used up: never, see `decRun_fuel`) -/
  | bad
deriving DecidableEq, Repr

/-- the decoder's pass: the control flow of `fieldLoop` with the validation left out -/
def decRun : Nat → Hpack.DecState → Bool → Nat → Bytes → List Hpack.Field × Tail
  | 0, _, _, _, _ => ([], .bad)
  | _, dec, _, _, [] => ([], .clean dec)
  | fuel + 1, dec, bs, fp, b =>
    match Hpack.Dec.next dec bs fp b with
    | .needMore => ([], .cut (Hpack.Dec.skipUpdates dec bs fp b).1 (Hpack.Dec.skipUpdates dec bs fp b).2)
    | .err => ([], .bad)
    | .ok dec' none _ => ([], .clean dec')
    | .ok dec' (some f) rest => (f :: (decRun fuel dec' bs (fp + 1) rest).1, (decRun fuel dec' bs (fp + 1) rest).2)

/-- these are the fields of `ServerOnce.loopFields` (the ones `handleHeaderFrame_view` folds `viewUpd` over) -/
theorem decRun_fields (fuel : Nat) (dec : Hpack.DecState) (bs : Bool) (fp : Nat) (b : Bytes) :
    (decRun fuel dec bs fp b).1 = loopFields fuel dec bs fp b := by
  induction fuel generalizing dec fp b with
  | zero => simp [decRun, loopFields]
  | succ n ih =>
    cases b with
    | nil => simp [decRun, loopFields]
    | cons c cs =>
      simp only [decRun, loopFields]
      cases hd : Hpack.Dec.next dec bs fp (c :: cs) with
      | needMore => rfl
      | err => rfl
      | ok dec' fo rest =>
        cases fo with
        | none => rfl
        | some f => simp [ih]

/-- what the end of the decoder's pass means to the loop: `none` = the frame is accepted -/
def tailVerdict (cfg : Server.Cfg) (eh : Bool) : Tail → Option SErr
  | .clean _ => none
  | .cut _ rest =>
    if eh then some (.goAway Gen.c_CompressionError "compression")
    else if heldTooLong cfg rest then some (.goAway Gen.c_EnhanceYourCalm "header field exceeds the maximum header list size")
    else none
  | .bad => some (.goAway Gen.c_CompressionError "compression")

/-- the message model's account of one frame: `Msg.loop` over the decoded fields, then the end of the pass -/
def loopSpec (cfg : Server.Cfg) (eh : Bool) (m : Msg.St) (run : List Hpack.Field × Tail) : Except Msg.Verdict Msg.St :=
  match Msg.loop (cfgOf cfg) m (run.1.map kv) with
  | .error v => .error v
  | .ok m' =>
    match tailVerdict cfg eh run.2 with
    | some e => .error (absErr e)
    | none => .ok m'

/-- the full model's result seen through the projection -/
def absOut (x : Srv × Strm × Option SErr) : Except Msg.Verdict Msg.St :=
  match x.2.2 with
  | some e => .error (absErr e)
  | none => .ok (msgSt x.2.1)

/-! ## invariants of the loop on the stream record -/

/-- `0 ≤ contentLength` (it starts at 0 and is only ever set to a parsed value) and `uri = path` (`:path` sets both) -/
def _root_.H2.Server.Strm.Good (st : Strm) : Prop := 0 ≤ st.contentLength ∧ st.uri = st.path

theorem fieldUpdate_good (st : Strm) (f : Hpack.Field) (h : st.Good) : (fieldUpdate st f).Good := by
  -- `uri` and `path` are only written together
  refine ⟨contentLength_nonneg st f h.1, ?_⟩
  exact fieldUpdate_cases (P := fun x => x.uri = x.path) st f h.2 rfl h.2 h.2 h.2 h.2 h.2 (fun _ _ => h.2) h.2 h.2

/-- everything of the stream record the field loop does not write -/
structure Ctl where
  uid : Nat
  id : Nat
  window : Int
  state : StState
  origType : Nat
  recvBody : Nat
  headersFinished : Bool
  responded : Bool
  handlerRunning : Bool
  body : Digest
  pendLen : Nat
  stream : Option BodyStream
deriving DecidableEq

def _root_.H2.Server.Strm.ctl (st : Strm) : Ctl :=
  ⟨st.uid, st.id, st.window, st.state, st.origType, st.recvBody, st.headersFinished, st.responded, st.handlerRunning,
   st.body, st.pendLen, st.stream⟩

theorem fieldUpdate_keeps (st : Strm) (f : Hpack.Field) :
    (fieldUpdate st f).ctl = st.ctl ∧ (fieldUpdate st f).prevHdr = st.prevHdr ∧
    (fieldUpdate st f).fieldSeen = st.fieldSeen :=
  fieldUpdate_cases (P := fun x => x.ctl = st.ctl ∧ x.prevHdr = st.prevHdr ∧ x.fieldSeen = st.fieldSeen) st f
    ⟨rfl, rfl, rfl⟩ ⟨rfl, rfl, rfl⟩ ⟨rfl, rfl, rfl⟩ ⟨rfl, rfl, rfl⟩ ⟨rfl, rfl, rfl⟩ ⟨rfl, rfl, rfl⟩ ⟨rfl, rfl, rfl⟩
    (fun _ _ => ⟨rfl, rfl, rfl⟩) ⟨rfl, rfl, rfl⟩ ⟨rfl, rfl, rfl⟩

theorem fieldLoop_ctl (fuel : Nat) (s : Srv) (st : Strm) (bs eh : Bool) (fp : Nat) (b : Bytes) :
    (fieldLoop fuel s st bs eh fp b).2.1.ctl = st.ctl ∧ (st.Good → (fieldLoop fuel s st bs eh fp b).2.1.Good) ∧
    (fieldLoop fuel s st bs eh fp b).1.cfg = s.cfg := by
  fun_induction fieldLoop fuel s st bs eh fp b
  -- the field is refused; the field is accepted and the loop goes on
  case case8 => exact ⟨(fieldUpdate_keeps _ _).1, fun h => fieldUpdate_good _ _ h, rfl⟩
  case case9 ih => exact ⟨ih.1.trans (fieldUpdate_keeps _ _).1, fun h => ih.2.1 (fieldUpdate_good _ _ h), ih.2.2⟩
  all_goals exact ⟨rfl, id, rfl⟩

theorem fieldLoop_cl (fuel : Nat) (s : Srv) (st : Strm) (bs eh : Bool) (fp : Nat) (b : Bytes) (h : 0 ≤ st.contentLength) :
    0 ≤ (fieldLoop fuel s st bs eh fp b).2.1.contentLength := by
  fun_induction fieldLoop fuel s st bs eh fp b
  case case8 => exact contentLength_nonneg _ _ h
  case case9 ih => exact ih (contentLength_nonneg _ _ h)
  all_goals exact h

/-! ## the loop refinement -/

theorem loop_cons (cfg : Msg.Cfg) (m : Msg.St) (f : MsgSpec.Field) (fs : List MsgSpec.Field) :
    Msg.loop cfg m (f :: fs) = match Msg.field cfg m f with
      | .error e => .error e
      | .ok m' => Msg.loop cfg m' fs := rfl

/-- **loop refinement**: the same verdict (accepted / RST_STREAM with the same code / GOAWAY with the same code) and, when the
frame is accepted, the same per-stream state -/
theorem fieldLoop_refines (fuel : Nat) (s : Srv) (st : Strm) (bs eh : Bool) (fp : Nat) (b : Bytes)
    (hcl : 0 ≤ st.contentLength) :
    absOut (fieldLoop fuel s st bs eh fp b) = loopSpec s.cfg eh (msgSt st) (decRun fuel s.dec bs fp b) := by
  induction fuel generalizing s st fp b with
  | zero => simp [fieldLoop, decRun, absOut, loopSpec, tailVerdict, Msg.loop]
  | succ n ih =>
    cases b with
    | nil => simp [fieldLoop, decRun, absOut, loopSpec, tailVerdict, Msg.loop]
    | cons c cs =>
      simp only [fieldLoop, decRun]
      cases hd : Hpack.Dec.next s.dec bs fp (c :: cs) with
      | needMore =>
        simp only [loopSpec, List.map_nil, Msg.loop, tailVerdict]
        cases eh
        · cases hh : heldTooLong s.cfg (Hpack.Dec.skipUpdates s.dec bs fp (c :: cs)).2
          · simp [absOut, msgSt]
          · simp [absOut]
        · simp [absOut]
      | err => simp [absOut, loopSpec, tailVerdict, Msg.loop]
      | ok dec fo rest =>
        cases fo with
        | none => simp [absOut, loopSpec, tailVerdict, Msg.loop]
        | some f =>
          have hr := field_refines s.cfg { st with fieldSeen := true } f hcl
          have hm : msgSt { st with fieldSeen := true } = msgSt st := rfl
          rw [hm] at hr
          simp only [fieldStep, loopSpec, List.map_cons, loop_cons, kv]
          rw [hr]
          cases hv : fieldVerdict s.cfg { st with fieldSeen := true } f with
          | some e => simp [absOut]
          | none =>
            simp only
            have := ih { s with dec := dec } (fieldUpdate { st with fieldSeen := true } f) (fp + 1) rest
              (contentLength_nonneg _ f hcl)
            rw [this]
            rfl

theorem fieldLoop_state (fuel : Nat) (s : Srv) (st : Strm) (bs eh : Bool) (fp : Nat) (b : Bytes)
    (hn : (fieldLoop fuel s st bs eh fp b).2.2 = none) :
    match (decRun fuel s.dec bs fp b).2 with
    | .clean dec => (fieldLoop fuel s st bs eh fp b).1 = { s with dec := dec } ∧
        (fieldLoop fuel s st bs eh fp b).2.1.prevHdr = st.prevHdr ∧
        (fieldLoop fuel s st bs eh fp b).2.1.fieldSeen = (st.fieldSeen || !(decRun fuel s.dec bs fp b).1.isEmpty)
    | .cut dec rest => eh = false ∧ heldTooLong s.cfg rest = false ∧
        (fieldLoop fuel s st bs eh fp b).1 = { s with dec := dec } ∧
        (fieldLoop fuel s st bs eh fp b).2.1.prevHdr = rest ∧
        (fieldLoop fuel s st bs eh fp b).2.1.fieldSeen = (st.fieldSeen || !(decRun fuel s.dec bs fp b).1.isEmpty)
    | .bad => False := by
  induction fuel generalizing s st fp b with
  | zero => simp [fieldLoop] at hn
  | succ n ih =>
    cases b with
    | nil => simp [fieldLoop, decRun]
    | cons c cs =>
      simp only [fieldLoop, decRun] at hn ⊢
      cases hd : Hpack.Dec.next s.dec bs fp (c :: cs) with
      | needMore =>
        simp only [hd] at hn ⊢
        cases eh
        · cases hh : heldTooLong s.cfg (Hpack.Dec.skipUpdates s.dec bs fp (c :: cs)).2
          · simp
          · simp [hh] at hn
        · simp at hn
      | err => simp [hd] at hn
      | ok dec fo rest =>
        cases fo with
        | none => simp
        | some f =>
          simp only [hd, fieldStep] at hn ⊢
          cases hv : fieldVerdict s.cfg { st with fieldSeen := true } f with
          | some e => simp [hv] at hn
          | none =>
            simp only [hv] at hn ⊢
            have := ih { s with dec := dec } (fieldUpdate { st with fieldSeen := true } f) (fp + 1) rest hn
            have hp : (fieldUpdate { st with fieldSeen := true } f).prevHdr = st.prevHdr := (fieldUpdate_keeps _ f).2.1
            have hs : (fieldUpdate { st with fieldSeen := true } f).fieldSeen = true := (fieldUpdate_keeps _ f).2.2
            cases ht : (decRun n dec bs (fp + 1) rest).2 with
            | clean d => simp only [ht] at this ⊢; simpa [hp, hs] using this
            | cut d r => simp only [ht] at this ⊢; simpa [hp, hs] using this
            | bad => simp only [ht] at this

theorem fieldLoop_clean (fuel : Nat) (s : Srv) (st : Strm) (bs eh : Bool) (fp : Nat) (b : Bytes) (hcl : 0 ≤ st.contentLength)
    (fs : List Hpack.Field) (d : Hpack.DecState) (hdec : decRun fuel s.dec bs fp b = (fs, .clean d)) :
    match Msg.loop (cfgOf s.cfg) (msgSt st) (fs.map kv) with
    | .error v => ∃ e, (fieldLoop fuel s st bs eh fp b).2.2 = some e ∧ absErr e = v
    | .ok m => (fieldLoop fuel s st bs eh fp b).2.2 = none ∧ msgSt (fieldLoop fuel s st bs eh fp b).2.1 = m ∧
        (fieldLoop fuel s st bs eh fp b).1 = { s with dec := d } ∧ (fieldLoop fuel s st bs eh fp b).2.1.prevHdr = st.prevHdr := by
  have h1 := fieldLoop_refines fuel s st bs eh fp b hcl
  have h2 := fieldLoop_state fuel s st bs eh fp b
  rw [hdec] at h1 h2
  simp only [absOut, loopSpec, tailVerdict] at h1 h2
  cases hl : Msg.loop (cfgOf s.cfg) (msgSt st) (fs.map kv) with
  | error v =>
    rw [hl] at h1
    cases he : (fieldLoop fuel s st bs eh fp b).2.2 with
    | none => rw [he] at h1; cases h1
    | some e => rw [he] at h1; exact ⟨e, rfl, by injection h1⟩
  | ok m =>
    rw [hl] at h1
    cases he : (fieldLoop fuel s st bs eh fp b).2.2 with
    | some e => rw [he] at h1; cases h1
    | none => rw [he] at h1; exact ⟨rfl, by injection h1, (h2 he).1, (h2 he).2.1⟩

/-! ## fuel: the octets at hand plus one is always enough -/

theorem next_progress {dec dec' : Hpack.DecState} {bs : Bool} {fp : Nat} {b rest : Bytes} {f : Hpack.Field}
    (h : Hpack.Dec.next dec bs fp b = .ok dec' (some f) rest) : rest.length < b.length := by
  rw [Hpack.next_eq_step] at h
  exact Hpack.step_progress _ _ _ _ _ _ _ h

theorem decRun_fuel : ∀ (n : Nat) (dec : Hpack.DecState) (bs : Bool) (fp : Nat) (b : Bytes),
    b.length < n → decRun n dec bs fp b = decRun (b.length + 1) dec bs fp b := by
  intro n
  induction n using Nat.strongRecOn with
  | _ n ih =>
    intro dec bs fp b h
    cases n with
    | zero => omega
    | succ n =>
      cases b with
      | nil => simp [decRun]
      | cons c cs =>
        simp only [List.length_cons, decRun]
        cases hd : Hpack.Dec.next dec bs fp (c :: cs) with
        | needMore => rfl
        | err => rfl
        | ok dec' fo rest =>
          cases fo with
          | none => rfl
          | some f =>
            have hlt := next_progress hd
            simp only [List.length_cons] at hlt h
            simp only
            rw [ih n (by omega) dec' bs (fp + 1) rest (by omega),
              ih (cs.length + 1) (by omega) dec' bs (fp + 1) rest (by omega)]

/-- the pass on octets at hand, in terms of `Hpack.Spec.step`, the fuel of the recursive call set to what it needs -/
theorem decRun_cons (dec : Hpack.DecState) (bs : Bool) (fp c : Nat) (cs : Bytes) :
    decRun ((c :: cs).length + 1) dec bs fp (c :: cs) =
      match Hpack.Spec.step dec bs fp (c :: cs) with
      | .needMore => ([], .cut (Hpack.Dec.skipUpdates dec bs fp (c :: cs)).1 (Hpack.Dec.skipUpdates dec bs fp (c :: cs)).2)
      | .err => ([], .bad)
      | .ok dec' none _ => ([], .clean dec')
      | .ok dec' (some f) rest =>
        (f :: (decRun (rest.length + 1) dec' bs (fp + 1) rest).1, (decRun (rest.length + 1) dec' bs (fp + 1) rest).2) := by
  rw [← Hpack.next_eq_step]
  simp only [List.length_cons, decRun]
  cases hd : Hpack.Dec.next dec bs fp (c :: cs) with
  | needMore => rfl
  | err => rfl
  | ok dec' fo rest =>
    cases fo with
    | none => rfl
    | some f =>
      have := next_progress hd
      dsimp only
      rw [decRun_fuel (cs.length + 1) dec' bs (fp + 1) rest (by simp only [List.length_cons] at this; omega)]

end H2.Server.Lock
