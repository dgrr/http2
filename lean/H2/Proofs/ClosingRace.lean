import H2.Server.Abs.Closing
/-!
The GOAWAY protocol with `goAwayMu` (F64 repaired): for every interleaving of any number of outside writers with
the stream loop, every GOAWAY covers what was dispatched before it and nothing is dispatched after the first one.
-/
namespace H2.Server.Abs.Closing.Locked

structure Inv (s : LSt) : Prop where
  ok : ∃ m g, s.trace.foldl ck (some (0, false)) = some (m, g) ∧ m ≤ s.lastID ∧
        (g = true → s.closing = true ∨ ∃ i, s.holder = some i ∧ s.pc i = 3)
  held : ∀ i, s.holder = some i → 1 ≤ s.pc i ∧ s.pc i ≤ 4 ∧ (2 ≤ s.pc i → s.loaded i = s.lastID)
  free : ∀ i, s.holder ≠ some i → s.pc i = 0 ∨ 5 ≤ s.pc i

theorem inv_init : Inv {} :=
  ⟨⟨0, false, rfl, Nat.le_refl _, by simp⟩, by simp, by simp⟩

theorem upd_same (f : Nat → Nat) (i v : Nat) : upd f i v i = v := by simp [upd]
theorem upd_other (f : Nat → Nat) (i v j : Nat) (h : j ≠ i) : upd f i v j = f j := by simp [upd, h]

theorem step_inv (s : LSt) (a : Act) (h : Inv s) : Inv (lstep s a) := by
  obtain ⟨⟨m, g, hf, hm, hg⟩, hheld, hfree⟩ := h
  cases a with
  | slHeaders id =>
    simp only [lstep]
    split
    · exact ⟨⟨m, g, hf, hm, hg⟩, hheld, hfree⟩
    · rename_i hnone
      have hn : s.holder = none := by
        cases hh : s.holder with
        | none => rfl
        | some j => simp [hh] at hnone
      split
      · refine ⟨⟨m, g, ?_, hm, hg⟩, hheld, hfree⟩
        simp [List.foldl_append, hf, ck]
      · rename_i hcl
        split
        · exact ⟨⟨m, g, hf, hm, hg⟩, hheld, hfree⟩
        · rename_i hid
          have hgf : g = false := by
            cases g with
            | false => rfl
            | true =>
              rcases hg rfl with hc | ⟨i, hi, _⟩
              · exact absurd hc hcl
              · rw [hn] at hi; cases hi
          subst hgf
          refine ⟨⟨max m id, false, ?_, ?_, by simp⟩, ?_, ?_⟩
          · simp [List.foldl_append, hf, ck]
          · show max m id ≤ id
            omega
          · intro i hi; rw [hn] at hi; cases hi
          · intro i hi; exact hfree i hi
  | w i strm =>
    -- a writer between its lock and its unlock is the holder
    have holds : 1 ≤ s.pc i → s.pc i ≤ 4 → s.holder = some i := fun h1 h4 =>
      Classical.byContradiction fun hh => by rcases hfree i hh with h0 | h5 <;> omega
    -- while it keeps the lock its step touches no other writer's counter
    have free' : s.holder = some i → ∀ v j, s.holder ≠ some j → upd s.pc i v j = 0 ∨ 5 ≤ upd s.pc i v j :=
      fun hi v j hj => by
        rw [upd_other _ _ _ _ fun e => hj (by rw [hi, e])]; exact hfree j hj
    have held' : s.holder = some i → ∀ (v : Nat) (ld : Nat → Nat), 1 ≤ v → v ≤ 4 → (2 ≤ v → ld i = s.lastID) →
        ∀ j, s.holder = some j → 1 ≤ upd s.pc i v j ∧ upd s.pc i v j ≤ 4 ∧ (2 ≤ upd s.pc i v j → ld j = s.lastID) :=
      fun hi v ld h1 h4 hl j hj => by
        rw [hi] at hj; cases hj; rw [upd_same]; exact ⟨h1, h4, hl⟩
    -- a GOAWAY is in the trace and the holder is not at step 3: the closing flag is up
    have keep : s.holder = some i → s.pc i ≠ 3 → g = true → s.closing = true :=
      fun hi hne hgt => (hg hgt).elim id fun ⟨j, hj, hj3⟩ => by rw [hi] at hj; cases hj; exact absurd hj3 hne
    simp only [lstep]
    split
    · -- pc i = 0: take the lock if it is free
      split
      · exact ⟨⟨m, g, hf, hm, hg⟩, hheld, hfree⟩
      · rename_i hnone
        have hn : s.holder = none := by
          cases hh : s.holder with
          | none => rfl
          | some j => simp [hh] at hnone
        refine ⟨⟨m, g, hf, hm, fun hgt => (hg hgt).elim .inl fun ⟨j, hj, _⟩ => by rw [hn] at hj; cases hj⟩, ?_, ?_⟩
        · intro j hj
          cases hj
          simp [upd_same]
        · intro j hj
          have hji : j ≠ i := fun e => hj (by simp [e])
          simp only [upd_other _ _ _ _ hji]
          exact hfree j (by rw [hn]; simp)
    · -- pc i = 1: load `lastID`
      rename_i hpc
      have hi := holds (by omega) (by omega)
      exact ⟨⟨m, g, hf, hm, fun hgt => .inl (keep hi (by omega) hgt)⟩, held' hi 2 _ (by omega) (by omega) (fun _ => upd_same ..), free' hi 2⟩
    · -- pc i = 2: queue the GOAWAY
      rename_i hpc
      have hi := holds (by omega) (by omega)
      have hl : s.loaded i = s.lastID := (hheld i hi).2.2 (by omega)
      refine ⟨⟨m, true, ?_, hm, fun _ => .inr ⟨i, hi, upd_same ..⟩⟩, held' hi 3 _ (by omega) (by omega) (fun _ => hl), free' hi 3⟩
      have : ¬ max (s.loaded i) strm < m := by rw [hl]; omega
      simp [List.foldl_append, hf, ck, this]
    · -- pc i = 3: set the closing flag
      rename_i hpc
      have hi := holds (by omega) (by omega)
      exact ⟨⟨m, g, hf, hm, fun _ => .inl rfl⟩,
        held' hi 4 _ (by omega) (by omega) (fun _ => (hheld i hi).2.2 (by omega)), free' hi 4⟩
    · -- pc i = 4: unlock
      rename_i hpc
      have hi := holds (by omega) (by omega)
      refine ⟨⟨m, g, hf, hm, fun hgt => .inl (keep hi (by omega) hgt)⟩, fun j hj => (by cases hj), fun j _ => ?_⟩
      by_cases hji : j = i
      · subst hji; simp [upd_same]
      · simp only [upd_other _ _ _ _ hji]
        exact hfree j (fun e => hji (by rw [hi] at e; cases e; rfl))
    · exact ⟨⟨m, g, hf, hm, hg⟩, hheld, hfree⟩

theorem run_inv (acts : List Act) : ∀ s, Inv s → Inv (lrun s acts) := by
  induction acts with
  | nil => intro s h; exact h
  | cons a as ih => intro s h; exact ih _ (step_inv s a h)

theorem run_truth (acts : List Act) : Truth (lrun {} acts).trace := by
  obtain ⟨m, g, hf, _, _⟩ := (run_inv acts {} inv_init).ok
  unfold Truth
  rw [hf]
  rfl

end H2.Server.Abs.Closing.Locked
