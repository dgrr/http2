import H2.Proofs.ClientRunGoAway
/-!
# Full serial client model: the counter `openStreams` never undercounts the table of waiting streams

`SlackLe c c'`: `openStreams − |reqQueued|` does not go down. It holds of every function of the model (for the handling of
a stream frame it is a clause of `Quiet`): a stream leaves the table with the counter decremented (`takeReq`) or without
(`dispatch`/`refuse` on a request its caller has taken back); a stream enters it with the counter incremented
(`writeRequest`). So in every reachable state
`|reqQueued| ≤ openStreams`, and with C18c (`headers_within_limit`): whenever HEADERS is written, the streams still
waiting for their response are fewer than the server's MAX_CONCURRENT_STREAMS.
-/
namespace H2.Client

def SlackLe (c c' : Conn) : Prop :=
  c.openStreams - (c.reqQueued.length : Int) ≤ c'.openStreams - (c'.reqQueued.length : Int)

theorem SlackLe.refl (c : Conn) : SlackLe c c := Int.le_refl _
theorem SlackLe.trans {a b c : Conn} (h1 : SlackLe a b) (h2 : SlackLe b c) : SlackLe a c := Int.le_trans h1 h2
theorem SlackLe.of_eq {c c' : Conn} (h1 : c'.openStreams = c.openStreams) (h2 : c'.reqQueued = c.reqQueued) : SlackLe c c' := by
  unfold SlackLe; rw [h1, h2]; exact Int.le_refl _

theorem slack_rdFrame (c : Conn) (f : Frame.Frame) : SlackLe c (rdFrame c f).1 := by
  unfold rdFrame
  split
  · split
    · split
      · exact SlackLe.refl c
      · obtain ⟨a, b, d, e, g, k, sw, p, w, h⟩ := handleSettings_shape c ‹Frame.SettingsVal›
        rw [h]; exact SlackLe.of_eq rfl rfl
    · obtain ⟨w, p, h⟩ := addWindow_shape c 0 ‹Nat›; rw [h]; exact SlackLe.of_eq rfl rfl
    · split
      · exact SlackLe.refl c
      · exact SlackLe.of_eq rfl rfl
    · simp only
      split
      · exact (quiet_setLastErr { c with goAway := true } .goaway).slack
      · exact (quiet_refuseAbove _ { c with goAway := true, closeRef := _, stateClosed := true }).slack
    · exact SlackLe.refl c
  · split
    · exact (quiet_setLastErr c _).slack
    · obtain ⟨w, p, h⟩ := addWindow_shape c f.stream ‹Nat›
      refine SlackLe.trans ?_ (quiet_dispatchLoop _ f).slack
      rw [h]; exact SlackLe.of_eq rfl rfl
    · exact ((quiet_consumeConnWindow c f.length).trans (quiet_dispatchLoop _ f)).slack
    · exact (quiet_dispatchLoop c f).slack

theorem slack_rdFrames (fs : List RdFrame) : ∀ c : Conn, SlackLe c (rdFrames fs c).1 := by
  induction fs with
  | nil => intro c; exact SlackLe.refl c
  | cons x xs ih =>
    intro c
    cases x with
    | unknown => simp only [rdFrames]; exact ih c
    | bad a b =>
      simp only [rdFrames]
      exact (quiet_setLastErr _ _).slack
    | frame f =>
      rw [rdFrames_cons_frame]
      split
      · exact SlackLe.refl c
      · split
        · exact slack_rdFrame c f
        · exact (slack_rdFrame c f).trans (ih _)

def CntOK (c : Conn) : Prop := (c.reqQueued.length : Int) ≤ c.openStreams

theorem CntOK.slack {c c' : Conn} (h : CntOK c) (s : SlackLe c c') : CntOK c' := by
  unfold CntOK SlackLe at *; omega

theorem CntOK.of_eq {c c' : Conn} (h : CntOK c) (h1 : c'.reqQueued = c.reqQueued) (h2 : c'.openStreams = c.openStreams) :
    CntOK c' := h.slack (SlackLe.of_eq h2 h1)

theorem cnt_dieWith {c : Conn} (h : CntOK c) (e : Err) : CntOK (dieWith c e) := by
  obtain ⟨l, hs⟩ := dieWith_shape c e
  rw [hs]; unfold CntOK at *; simp only [List.length_nil]; omega

theorem cnt_afterWrites {c : Conn} (h : CntOK c) (fs : List OutFrame) : CntOK (afterWrites c fs).1 := by
  rcases afterWrites_cases c fs with ⟨e, s, b, hh⟩ | ⟨e, s, hh⟩
  · rw [hh]; exact h
  · rw [hh]; exact cnt_dieWith (c := { c with enc := e, encTableSet := s }) h _

theorem cnt_drain {c : Conn} (h : CntOK c) : CntOK (drain c).1 := by
  obtain ⟨p, w, a, _, _, hs, -⟩ := drain_shape c; rw [hs]; exact h

theorem insertA_length_le {α} (l : List (Nat × α)) (k : Nat) (v : α) : (insertA l k v).length ≤ l.length + 1 := by
  induction l with
  | nil => simp [insertA]
  | cons x xs ih =>
    obtain ⟨k', v'⟩ := x
    simp only [insertA]
    split
    · simp
    · split
      · simp
      · simp only [List.length_cons]; omega

theorem cnt_writeRequest {c : Conn} (h : CntOK c) (r : ReqSpec) : CntOK (writeRequest c r).1 := by
  rcases writeRequest_shape c r with ⟨_, e⟩ | ⟨_, p, w, q, ds, e, _, _⟩ <;> rw [e]
  · exact h
  · unfold CntOK at *
    have := insertA_length_le c.reqQueued c.nextID r.tag
    simp only [wrOpen, updReq]; omega

theorem step_cnt (c : Conn) (ev : Event) (h : CntOK c) : CntOK (step c ev).1 := by
  refine step_cases c ev (step c ev) rfl (fun _ _ => h) (fun _ _ _ _ => h) (fun _ _ _ _ _ _ _ => h)
    (fun _ _ _ _ => h) ?_ ?_ ?_ (fun _ _ => cnt_dieWith h _) (fun _ _ _ => h)
  · intro r _ _ _
    exact cnt_afterWrites (cnt_drain (cnt_writeRequest (c := withReq c r.tag) h r)) _
  · intro b _ _ _
    have h1 : CntOK (bytesRead c b).1 :=
      CntOK.slack (c := { c with rdBuf := (bytesSplit c b).2 }) h (slack_rdFrames _ _)
    have hd : CntOK (die (bytesRead c b).1) := cnt_dieWith h1 .eof
    exact ⟨h1, hd.of_eq rfl rfl, hd, cnt_afterWrites (cnt_drain h1) _⟩
  · intro tag r _ _ _
    have h1 : CntOK (gaveUp c tag r.sid) := h.slack (quiet_gaveUp c tag r.sid).slack
    exact ⟨h, fun _ _ => ⟨h1, cnt_afterWrites h1 _⟩⟩

theorem init_cnt {c : Conn} (h : Init c) : CntOK c := by
  unfold CntOK; rw [h.reqQueued, h.openStreams]; simp

theorem run_cnt {c : Conn} (h : Init c) (evs : List Event) : CntOK (run c evs).1 :=
  run_inv (I := CntOK) step_cnt evs c (init_cnt h)

end H2.Client
