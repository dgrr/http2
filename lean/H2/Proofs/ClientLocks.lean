import H2.Client.Locks
/-! The request-lock model (`H2.Client.Locks`), repaired code: the holder of the lock can be read off the program counters. -/
namespace H2.Client.Locks

structure LockInv (s : S) : Prop where
  rd : s.holder = some .rd ↔ (s.rd = .holding ∨ s.rd = .finishing ∨ s.rd = .releasing)
  wl : s.holder = some .wl ↔ (s.wl = .holding ∨ s.wl = .failed ∨ s.wl = .sendHolding)
  other : s.holder ≠ some .timer ∧ s.holder ≠ some .caller

theorem lock_inv {s : S} (h : Reach true s) : LockInv s := by
  induction h with
  | init => constructor <;> simp
  | step _ st ih =>
    obtain ⟨h1, h2, h3⟩ := ih
    cases st <;> constructor <;> grind

end H2.Client.Locks
