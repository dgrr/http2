import H2.Proofs.MsgRefineDecide
/-!
# C20 — refinement, the long shape: HEADERS-block, DATA*, DATA(END_STREAM), through `knownStream`

* `Tbl` — what the proofs keep about the stream table: the record of the request's stream, that it is the only one with its
  uid, and a predicate on the other entries (they are never touched)
* `runReq` — the loop body over the consecutive frames of one stream up to the first frame that is answered
* `hf_data`, `data_frames`, `data_end_stream` — DATA frames
* `request_prefix` — `HEADERS(END_HEADERS), DATA*`: answered early, or the request is still coming in
* `long_request_data` — the outputs of `runReq` over `HEADERS, DATA*, DATA(END_STREAM)` against `Msg.validate`
-/
namespace H2.Server.Lock
open H2.Server H2.Frame

/-! ## the stream table -/

/-- `st` is the record of stream `uid`, the only entry with that uid; every other entry satisfies `O` -/
structure Tbl (r : R) (uid : Nat) (st : Strm) (O : Strm → Prop) : Prop where
  get : r.getStrm uid = some st
  only : ∀ x ∈ r.s.strms, x.uid = uid → x = st
  others : ∀ x ∈ r.s.strms, x.uid ≠ uid → O x

theorem Tbl.uid {r : R} {uid : Nat} {st : Strm} {O : Strm → Prop} (h : Tbl r uid st O) : st.uid = uid := by
  simpa using List.find?_some h.get

theorem Tbl.upd {r : R} {uid : Nat} {st : Strm} {O : Strm → Prop} (h : Tbl r uid st O) (f : Strm → Strm)
    (hf : ∀ x, x.uid = uid → (f x).uid = uid) : Tbl (r.updStrm uid f) uid (f st) O := by
  refine ⟨getStrm_upd r uid f st hf h.get, ?_, ?_⟩
  all_goals
    intro x hx hu
    simp only [R.updStrm, List.mem_map] at hx
    obtain ⟨y, hy, rfl⟩ := hx
    by_cases hyu : y.uid = uid
  · rw [h.only y hy hyu]; simp [h.uid]
  · simp [hyu] at hu
  · simp only [beq_iff_eq, hyu, if_true] at hu
    exact absurd (hf _ hyu) hu
  · simp only [beq_iff_eq, hyu, if_false] at hu ⊢
    exact h.others y hy hyu

theorem Tbl.congr {r r' : R} {uid : Nat} {st : Strm} {O : Strm → Prop} (h : Tbl r uid st O) (hs : r'.s.strms = r.s.strms) :
    Tbl r' uid st O :=
  ⟨by have := h.get; unfold R.getStrm at this ⊢; rw [hs]; exact this, by rw [hs]; exact h.only, by rw [hs]; exact h.others⟩

theorem Tbl.hdrUpd {r : R} {uid : Nat} {st : Strm} {O : Strm → Prop} (h : Tbl r uid st O) (fr : Frame) :
    Tbl (hdrUpd r uid st fr) uid (handleHeaderFrame r.s st fr).2.1 O := by
  obtain ⟨k1, k2⟩ := handleHeaderFrame_keeps r.s st fr
  have hu : (handleHeaderFrame r.s st fr).2.1.uid = st.uid := congrArg Strm.Core.uid k2
  exact (h.congr (r' := { r with s := (handleHeaderFrame r.s st fr).1 }) (by rw [k1])).upd _ (fun _ _ => hu.trans h.uid)

/-- the other streams opened by HEADERS have their header block behind them and are not idle with a lower id: what
`headersPrelude` looks at when a HEADERS frame arrives for stream `sid` -/
def Settled (sid : Nat) (x : Strm) : Prop :=
  (x.origType = Gen.c_FrameHeaders → x.headersFinished = true) ∧
  ¬ (x.id < sid ∧ x.state = .idle ∧ x.origType = Gen.c_FrameHeaders)

theorem prelude_ok (r : R) (uid : Nat) (st : Strm) (fr : Frame) (h : Tbl r uid st (Settled fr.stream))
    (hfin : st.headersFinished = true) (hid : st.id = fr.stream) : headersPrelude r fr = (r, true) := by
  have hall : ∀ x ∈ r.s.strms, Settled fr.stream x := by
    intro x hx
    by_cases hu : x.uid = uid
    · rw [h.only x hx hu]
      exact ⟨fun _ => hfin, fun hc => by omega⟩
    · exact h.others x hx hu
  exact headersPrelude_pass r fr (fun _ n hgp => (hall n (getPrevious_mem hgp).1).1 (getPrevious_mem hgp).2)
    fun _ x hx => (hall x hx).2

/-! ## the frames of one request, up to the first that is answered -/

def isWU : Out → Bool
  | .wu .. => true
  | _ => false

/-- the outputs that are not WINDOW_UPDATE frames (DATA frames are acknowledged with those) -/
def sig (l : List Out) : List Out := l.filter fun o => !isWU o

theorem sig_append (a b : List Out) : sig (a ++ b) = sig a ++ sig b := by simp [sig]

/-- the loop body over consecutive frames of stream `uid`, up to and including the first frame that is answered with
anything but WINDOW_UPDATE (a dispatch record, RST_STREAM, GOAWAY) -/
def runReq (r : R) (uid : Nat) : List Frame → R
  | [] => r
  | fr :: frs =>
    if (sig (knownStream r uid fr false).out).length == (sig r.out).length then runReq (knownStream r uid fr false) uid frs
    else knownStream r uid fr false

theorem runReq_step (r : R) (uid : Nat) (fr : Frame) (frs : List Frame) (h : sig (knownStream r uid fr false).out = sig r.out) :
    runReq r uid (fr :: frs) = runReq (knownStream r uid fr false) uid frs := by
  simp [runReq, h]

theorem runReq_answered (r : R) (uid : Nat) (fr : Frame) (frs : List Frame) (b : List Out) (o : Out)
    (h : (knownStream r uid fr false).out = b ++ [o]) (hb : sig b = sig r.out) (ho : isWU o = false) :
    sig (runReq r uid (fr :: frs)).out = sig r.out ++ [o] := by
  have hs : sig (knownStream r uid fr false).out = sig r.out ++ [o] := by
    rw [h, sig_append, hb]
    simp [sig, ho]
  simp [runReq, hs]

theorem Answers.notWU {sid : Nat} {o : Out} {v : Msg.Verdict} (h : Answers sid o v) : isWU o = false := by
  cases v with
  | rst c => rw [show o = .rst sid c from h]; rfl
  | goAway c => obtain ⟨l, t, rfl⟩ := h; rfl
  | dispatch => exact h.elim

theorem decision_notWU (w : Msg.Verdict) (sid : Nat) (v : MsgSpec.View) (body : Digest) :
    isWU (match w with
      | .dispatch => dispOut sid v body
      | _ => .rst sid Gen.c_ProtocolError) = false := by
  cases w <;> rfl

theorem runReq_refused (r : R) (uid : Nat) (fr : Frame) (rest : List Frame) (st1 : Strm) (e : SErr)
    (hp : headersPrelude r fr = (r, true)) (he : (handleFrame r uid fr).2 = some e)
    (hg : (handleFrame r uid fr).1.getStrm uid = some st1) (hresp : st1.responded = false)
    (hout : sig (handleFrame r uid fr).1.out = sig r.out) :
    sig (runReq r uid (fr :: rest)).out = sig r.out ++ [errOut (handleFrame r uid fr).1 st1 e] :=
  runReq_answered r uid fr rest _ _ (knownStream_refused r uid fr st1 e hp he hg hresp) hout (errOut_answers _ st1 e).notWU

/-! ## DATA frames -/

def payloadLen (fr : Frame) : Nat := match fr.body with | .data _ b => b.length | _ => 0

def tot (ds : List Frame) : Nat := (ds.map payloadLen).sum

def PlainData (fr : Frame) : Prop :=
  fr.typ = Gen.c_FrameData ∧ (∃ es d, fr.body = .data es d) ∧ Frame.hasFlag fr.flags Gen.c_FlagEndStream = false

def over (cfg : Server.Cfg) (n : Nat) : Prop := 0 < cfg.maxBody ∧ cfg.maxBody < n

instance (cfg : Server.Cfg) (n : Nat) : Decidable (over cfg n) := by unfold over; exact inferInstance

theorem sig_emit_wu (r : R) (sid inc : Nat) : sig (r.emit (.wu sid inc)).out = sig r.out := by
  simp [sig, R.emit, isWU]

theorem consumeConnWindow_keeps (r : R) (n : Nat) :
    (consumeConnWindow r n).s.strms = r.s.strms ∧ (consumeConnWindow r n).s.dec = r.s.dec ∧
    (consumeConnWindow r n).s.cfg = r.s.cfg ∧ sig (consumeConnWindow r n).out = sig r.out :=
  consumeConnWindow_cases (P := fun x => x.s.strms = r.s.strms ∧ x.s.dec = r.s.dec ∧ x.s.cfg = r.s.cfg ∧ sig x.out = sig r.out)
    r n (fun _ => ⟨rfl, rfl, rfl, rfl⟩) fun _ _ => ⟨rfl, rfl, rfl, sig_emit_wu r 0 _⟩

theorem consumeRecvWindow_keeps (r : R) (st : Strm) (fr : Frame) (n : Nat) :
    (consumeRecvWindow r st fr n).s.strms = r.s.strms ∧ (consumeRecvWindow r st fr n).s.dec = r.s.dec ∧
    (consumeRecvWindow r st fr n).s.cfg = r.s.cfg ∧ sig (consumeRecvWindow r st fr n).out = sig r.out := by
  refine consumeRecvWindow_cases (P := fun x => x.s.strms = r.s.strms ∧ x.s.dec = r.s.dec ∧ x.s.cfg = r.s.cfg ∧ sig x.out = sig r.out)
    r st fr n ⟨rfl, rfl, rfl, rfl⟩ (consumeConnWindow_keeps r n) ?_
  obtain ⟨a, b, c, d⟩ := consumeConnWindow_keeps (r.emit (.wu st.id n)) n
  exact ⟨a, b, c, d.trans (sig_emit_wu r _ _)⟩

/-- the stream after an accepted DATA frame: the octets counted, the payload added to the body -/
def stored (st : Strm) (fr : Frame) : Strm := { recvd st fr with body := st.body.add (dataOf fr) }

theorem payloadLen_eq (fr : Frame) : payloadLen fr = (dataOf fr).length := by
  unfold payloadLen dataOf
  cases fr.body <;> rfl

/-- a DATA frame on an open stream whose header block is finished: the octets are counted; over `maxBody` the stream is
refused with ENHANCE_YOUR_CALM, otherwise the frame is accepted (only WINDOW_UPDATEs go out) -/
theorem hf_data (r : R) (uid : Nat) (fr : Frame) (st : Strm) (O : Strm → Prop) (ht : Tbl r uid st O)
    (htyp : fr.typ = Gen.c_FrameData) (hfin : st.headersFinished = true) (hst : st.state = .open) :
    if over r.s.cfg (st.recvBody + payloadLen fr) then
      (handleFrame r uid fr).2 = some (.reset Gen.c_EnhanceYourCalm) ∧
      Tbl (handleFrame r uid fr).1 uid (recvd st fr) O ∧ sig (handleFrame r uid fr).1.out = sig r.out
    else
      (handleFrame r uid fr).2 = none ∧
      Tbl (handleFrame r uid fr).1 uid (stored st fr) O ∧
      sig (handleFrame r uid fr).1.out = sig r.out ∧ (handleFrame r uid fr).1.s.dec = r.s.dec ∧
      (handleFrame r uid fr).1.s.cfg = r.s.cfg := by
  have hlen := payloadLen_eq fr
  have t1 := ht.upd (fun _ => recvd st fr) (fun _ _ => ht.uid)
  have t2 := t1.upd (fun s => { s with body := s.body.add (dataOf fr) }) (fun _ h => h)
  have e1 : (Gen.c_FrameData == Gen.c_FrameHeaders || Gen.c_FrameData == Gen.c_FrameContinuation) = false := rfl
  have hv : verifyState st fr = none := by simp [verifyState, hst]
  have hrk : ¬ st.state.rank ≥ StState.halfClosed.rank := by rw [hst]; decide
  have hF : handleFrame r uid fr =
      if over r.s.cfg (st.recvBody + payloadLen fr) then
        (consumeConnWindow (r.updStrm uid fun _ => recvd st fr) fr.length, some (.reset Gen.c_EnhanceYourCalm))
      else (consumeRecvWindow ((r.updStrm uid fun _ => recvd st fr).updStrm uid fun s => { s with body := s.body.add (dataOf fr) })
        (recvd st fr) fr fr.length, none) := by
    rw [handleFrame_eq, ht.get]
    simp only [hv, htyp, e1, Bool.false_eq_true, if_false, beq_self_eq_true, if_true]
    unfold hfData
    rw [if_neg (by rw [hfin]; decide), if_neg hrk, hlen]
    by_cases hc : over r.s.cfg (st.recvBody + (dataOf fr).length)
    · rw [if_pos hc, if_pos (by simpa [recvd, R.updStrm, over] using hc)]; rfl
    · rw [if_neg hc, if_neg (by simpa [recvd, R.updStrm, over] using hc)]; rfl
  rw [hF]
  split
  · obtain ⟨a, _, _, d⟩ := consumeConnWindow_keeps (r.updStrm uid fun _ => recvd st fr) fr.length
    exact ⟨rfl, t1.congr a, d⟩
  · obtain ⟨a, b, c, d⟩ := consumeRecvWindow_keeps
      ((r.updStrm uid fun _ => recvd st fr).updStrm uid fun s => { s with body := s.body.add (dataOf fr) }) (recvd st fr) fr fr.length
    exact ⟨rfl, t2.congr a, d, b, c⟩

theorem knownStream_open_tbl (r : R) (uid : Nat) (fr : Frame) (st1 st2 : Strm) (O : Strm → Prop)
    (hp : headersPrelude r fr = (r, true)) (hok : (handleFrame r uid fr).2 = none) (ht : Tbl (handleFrame r uid fr).1 uid st1 O)
    (hS : handleState fr st1 = st2) (ho : st2.state = .open) (hr : st2.responded = false) :
    knownStream r uid fr false = (handleFrame r uid fr).1.updStrm uid (handleState fr) ∧
    Tbl (knownStream r uid fr false) uid st2 O := by
  have e := knownStream_open r uid fr st1 hp hok ht.get (by rw [hS]; exact ho) (by rw [hS]; exact hr)
  refine ⟨e, ?_⟩
  rw [e, ← hS]
  exact ht.upd (handleState fr) (fun x hx => (handleState_uid fr x).trans hx)

/-- the stream `sid` after the request's header block has been accepted and before END_STREAM -/
structure Body (sid : Nat) (st : Strm) (m : Msg.St) : Prop where
  fin : st.headersFinished = true
  state : st.state = .open
  resp : st.responded = false
  msg : msgSt st = m
  good : st.Good
  id : st.id = sid
  prev : st.prevHdr = []

/-- **DATA frames without END_STREAM**: either one of them takes the octet count over `maxBody` — answered RST_STREAM(ENHANCE_YOUR_CALM)
— or they are all counted and the run goes on with the frames behind them -/
theorem data_frames (uid sid : Nat) (m : Msg.St) (O : Strm → Prop) (rest : List Frame) : ∀ (ds : List Frame) (r : R) (st : Strm),
    Tbl r uid st O → (∀ fr ∈ ds, PlainData fr) → Body sid st m → ¬ over r.s.cfg st.recvBody →
    (over r.s.cfg (st.recvBody + tot ds) ∧
      sig (runReq r uid (ds ++ rest)).out = sig r.out ++ [.rst sid Gen.c_EnhanceYourCalm]) ∨
    (¬ over r.s.cfg (st.recvBody + tot ds) ∧
      ∃ r' st', runReq r uid (ds ++ rest) = runReq r' uid rest ∧ Tbl r' uid st' O ∧ Body sid st' m ∧
        st'.recvBody = st.recvBody + tot ds ∧ sig r'.out = sig r.out ∧ r'.s.dec = r.s.dec ∧ r'.s.cfg = r.s.cfg) := by
  intro ds
  induction ds with
  | nil => intro r st ht _ hB h0; exact .inr ⟨h0, r, st, rfl, ht, hB, rfl, rfl, rfl, rfl⟩
  | cons fr ds ih =>
    intro r st ht hds hB h0
    obtain ⟨htyp, _, hes⟩ := hds fr (by simp)
    have hp := headersPrelude_other r fr (by rw [htyp]; decide)
    have hd := hf_data r uid fr st O ht htyp hB.fin hB.state
    have htot : st.recvBody + tot (fr :: ds) = st.recvBody + (dataOf fr).length + tot ds := by
      simp only [tot, List.map_cons, List.sum_cons, payloadLen_eq fr]; omega
    rw [htot]
    rw [payloadLen_eq fr] at hd
    by_cases hc : over r.s.cfg (st.recvBody + (dataOf fr).length)
    · rw [if_pos hc] at hd
      obtain ⟨h1, h2, h3⟩ := hd
      refine .inl ⟨⟨hc.1, by have := hc.2; omega⟩, ?_⟩
      rw [List.cons_append, runReq_refused r uid fr _ _ _ hp h1 h2.get hB.resp h3, ← hB.id]
      rfl
    · rw [if_neg hc] at hd
      obtain ⟨h1, h2, h3, h4, h5⟩ := hd
      have hS : handleState fr (stored st fr) = stored st fr := by
        rw [handleState_open fr (stored st fr) (by rw [htyp]; decide) hB.state, htyp, hes]; rfl
      obtain ⟨k1, k2⟩ := knownStream_open_tbl r uid fr _ _ O hp h1 h2 hS hB.state hB.resp
      have ksig : sig (knownStream r uid fr false).out = sig r.out := by rw [k1]; exact h3
      have kcfg : (knownStream r uid fr false).s.cfg = r.s.cfg := by rw [k1]; exact h5
      rw [List.cons_append, runReq_step r uid fr _ ksig, ← kcfg]
      rcases ih (knownStream r uid fr false) _ k2 (fun f hf => hds f (by simp [hf])) ⟨hB.fin, hB.state, hB.resp, hB.msg, hB.good, hB.id, hB.prev⟩
        (by rw [kcfg]; exact hc) with ⟨a, b⟩ | ⟨a, r', st', b1, b2, b3, b4, b5, b6, b7⟩
      · exact .inl ⟨a, by rw [b, ksig]⟩
      · exact .inr ⟨a, r', st', b1, b2, b3, b4, by rw [b5, ksig], by rw [b6, k1]; exact h4, b7⟩

theorem data_end_stream (r : R) (uid sid : Nat) (fr : Frame) (st : Strm) (m : Msg.St) (O : Strm → Prop) (ht : Tbl r uid st O)
    (hB : Body sid st m) (htyp : fr.typ = Gen.c_FrameData) (hes : Frame.hasFlag fr.flags Gen.c_FlagEndStream = true) :
    if over r.s.cfg (st.recvBody + payloadLen fr) then
      sig (runReq r uid [fr]).out = sig r.out ++ [.rst sid Gen.c_EnhanceYourCalm]
    else
      sig (runReq r uid [fr]).out = sig r.out ++
        [match lastClause m (st.recvBody + payloadLen fr) with
         | .dispatch => dispOut sid m.view (st.body.add (dataOf fr))
         | _ => .rst sid Gen.c_ProtocolError] := by
  have hlen := payloadLen_eq fr
  have hp := headersPrelude_other r fr (by rw [htyp]; decide)
  have hd := hf_data r uid fr st O ht htyp hB.fin hB.state
  split
  · rename_i hc
    rw [if_pos hc] at hd
    rw [runReq_refused r uid fr [] _ _ hp hd.1 hd.2.1.get hB.resp hd.2.2, ← hB.id]
    rfl
  · rename_i hc
    rw [if_neg hc] at hd
    obtain ⟨h1, h2, h3, _, _⟩ := hd
    have hS : handleState fr (stored st fr) = { stored st fr with state := .halfClosed } := by
      rw [handleState_open fr (stored st fr) (by rw [htyp]; decide) hB.state, htyp, hes]; rfl
    have hk := knownStream_decides r uid fr _ hp h1 h2.get (by rw [hS]; exact ⟨rfl, hB.fin, hB.resp⟩) (by rw [hS]; exact hB.good)
    rw [hS] at hk
    rw [runReq_answered r uid fr _ _ _ hk h3 (decision_notWU ..), hlen, ← hB.id, ← hB.msg]
    rfl

/-! ## the request block and the DATA frames behind it -/

theorem request_headers (r : R) (uid : Nat) (fr : Frame) (rest : List Frame) (st : Strm) (O : Strm → Prop) (es : Bool)
    (prio : Option (Nat × Nat)) (frag : Bytes)
    (ht : Tbl r uid st O) (hf : Fresh st) (htyp : fr.typ = Gen.c_FrameHeaders)
    (hb : fr.body = .headers es true prio frag) (heh : Frame.hasFlag fr.flags Gen.c_FlagEndHeaders = true)
    (hes : Frame.hasFlag fr.flags Gen.c_FlagEndStream = false)
    (hprio : ∀ dep w, prio = some (dep, w) → (dep == st.id) = false)
    (hp : headersPrelude r fr = (r, true))
    (fs : List Hpack.Field) (d : Hpack.DecState) (hdec : decRun (frag.length + 1) r.s.dec true 0 frag = (fs, .clean d)) :
    match Msg.loop (cfgOf r.s.cfg) Msg.St.init (fs.map kv) with
    | .error v => ∃ o, sig (runReq r uid (fr :: rest)).out = sig r.out ++ [o] ∧ Answers st.id o v
    | .ok m =>
      if Msg.pseudoOK m then
        ∃ r1 st1, runReq r uid (fr :: rest) = runReq r1 uid rest ∧ Tbl r1 uid st1 O ∧ Body st.id st1 m ∧ st1.recvBody = 0 ∧
          sig r1.out = sig r.out ∧ r1.s.dec = d ∧ r1.s.cfg = r.s.cfg
      else sig (runReq r uid (fr :: rest)).out = sig r.out ++ [.rst st.id Gen.c_ProtocolError] := by
  obtain ⟨kc, kg, hB⟩ := hhf_block r.s st fr es prio frag hb heh (fun h => by rw [hf.fin] at h; cases h) hprio hf.prev hf.good fs d hdec
  have hF := hf_hdr r uid fr st ht.get (.inl htyp) (.inr ⟨hf.state, htyp⟩)
  unfold hfHdr at hF
  have t1 := ht.hdrUpd fr
  rcases hX : handleHeaderFrame r.s st fr with ⟨s1, st1, e1⟩
  rw [hX] at kc kg hB hF t1
  rw [hf.fin, hf.msg] at hB
  simp only [heh, if_true, Bool.false_eq_true, if_false] at kc kg hB hF t1
  have hid : st1.id = st.id := congrArg Ctl.id kc
  have hresp1 : st1.responded = false := (congrArg Ctl.responded kc).trans hf.resp
  cases hl : Msg.loop (cfgOf r.s.cfg) Msg.St.init (fs.map kv) with
  | error v =>
    rw [hl] at hB
    obtain ⟨e, he, hv⟩ := hB
    subst he
    exact ⟨_, runReq_refused r uid fr rest st1 e hp (by rw [hF]) (by rw [hF]; exact t1.get) hresp1 (by rw [hF]; rfl),
      by rw [← hv, ← hid]; exact errOut_answers _ _ _⟩
  | ok m =>
    rw [hl] at hB
    obtain ⟨he, hm, hd, hpv⟩ := hB
    subst he
    simp only [hpv, List.isEmpty_nil, if_true, validatePseudo_msg, hm] at hF
    have t2 := t1.upd (fun x => { x with headersFinished := true }) (fun _ h => h)
    cases hps : Msg.pseudoOK m
    · simp only [hps, Bool.false_eq_true, if_false] at hF ⊢
      rw [runReq_refused r uid fr rest { st1 with headersFinished := true } (.reset Gen.c_ProtocolError) hp (by rw [hF])
        (by rw [hF]; exact t2.get) hresp1 (by rw [hF]; rfl), ← hid]
      rfl
    · simp only [hps, if_true] at hF ⊢
      have hS : handleState fr { st1 with headersFinished := true } = { st1 with headersFinished := true, state := .open } := by
        rw [handleState_idle fr { st1 with headersFinished := true } htyp ((congrArg Ctl.state kc).trans hf.state), hes]; rfl
      obtain ⟨k1, k2⟩ := knownStream_open_tbl r uid fr _ _ O hp (by rw [hF]) (by rw [hF]; exact t2) hS rfl hresp1
      rw [hF] at k1
      exact ⟨knownStream r uid fr false, _, runReq_step r uid fr rest (by rw [k1]; rfl), k2,
        ⟨rfl, rfl, hresp1, hm, kg, hid, hpv⟩, (congrArg Ctl.recvBody kc).trans hf.recv, by rw [k1]; rfl,
        by rw [k1]; show (handleHeaderFrame r.s st fr).1.dec = d; rw [hX]; exact hd,
        by rw [k1]; exact hhf_cfg r.s st fr⟩

/-- **`HEADERS(END_HEADERS), DATA*`** on a fresh stream, frame after frame through the body of the stream loop: either the
request is answered already — by a refusal that `Msg.validate` gives whatever trailers and further DATA octets follow — or
its block is accepted, the octets are counted and the run goes on with the frames behind -/
theorem request_prefix (r : R) (uid : Nat) (frH : Frame) (ds rest : List Frame) (st : Strm) (O : Strm → Prop) (es : Bool)
    (prio : Option (Nat × Nat)) (frag : Bytes)
    (ht : Tbl r uid st O) (hf : Fresh st) (htyp : frH.typ = Gen.c_FrameHeaders)
    (hb : frH.body = .headers es true prio frag) (heh : Frame.hasFlag frH.flags Gen.c_FlagEndHeaders = true)
    (hes : Frame.hasFlag frH.flags Gen.c_FlagEndStream = false)
    (hprio : ∀ dep w, prio = some (dep, w) → (dep == st.id) = false)
    (hp : headersPrelude r frH = (r, true))
    (fs : List Hpack.Field) (d : Hpack.DecState) (hdec : decRun (frag.length + 1) r.s.dec true 0 frag = (fs, .clean d))
    (hds : ∀ fr ∈ ds, PlainData fr) :
    (∃ o, sig (runReq r uid (frH :: (ds ++ rest))).out = sig r.out ++ [o] ∧
      ∀ tr n body, tot ds ≤ n → Verdicted (cfgOf r.s.cfg) (fs.map kv) tr n st.id body o) ∨
    (∃ m r2 st2, Msg.loop (cfgOf r.s.cfg) Msg.St.init (fs.map kv) = .ok m ∧ Msg.pseudoOK m = true ∧ ¬ over r.s.cfg (tot ds) ∧
      runReq r uid (frH :: (ds ++ rest)) = runReq r2 uid rest ∧ Tbl r2 uid st2 O ∧ Body st.id st2 m ∧ st2.recvBody = tot ds ∧
      sig r2.out = sig r.out ∧ r2.s.dec = d ∧ r2.s.cfg = r.s.cfg) := by
  have hH := request_headers r uid frH (ds ++ rest) st O es prio frag ht hf htyp hb heh hes hprio hp fs d hdec
  cases hl : Msg.loop (cfgOf r.s.cfg) Msg.St.init (fs.map kv) with
  | error v =>
    rw [hl] at hH
    obtain ⟨o, h1, h2⟩ := hH
    exact .inl ⟨o, h1, fun tr n _ _ => .refused (validate_hs_error _ _ tr n v hl) h2⟩
  | ok m =>
    rw [hl] at hH
    cases hps : Msg.pseudoOK m
    · simp only [hps, Bool.false_eq_true, if_false] at hH
      exact .inl ⟨_, hH, fun tr n _ _ => .refused (validate_pseudo _ _ tr n m hl hps) rfl⟩
    · simp only [hps, if_true] at hH
      obtain ⟨r1, st1, h1, h2, hB, h4, h5, h6, h7⟩ := hH
      rcases data_frames uid st.id m O rest ds r1 st1 h2 hds hB (by rw [h4]; exact fun h => absurd h.2 (by omega)) with
        ⟨a, b⟩ | ⟨a, r2, st2, b1, b2, b3, b4, b5, b6, b7⟩
      · rw [h4, h7, Nat.zero_add] at a
        refine .inl ⟨_, by rw [h1, b, h5], fun tr n _ hn => .refused (validate_body _ _ tr n m hl hps ⟨a.1, ?_⟩) rfl⟩
        have : r.s.cfg.maxBody < tot ds := a.2
        show r.s.cfg.maxBody < n
        omega
      · rw [h4, h7, Nat.zero_add] at a
        exact .inr ⟨m, r2, st2, rfl, hps, a, by rw [h1, b1], b2, b3, by rw [b4, h4, Nat.zero_add], by rw [b5, h5], by rw [b6, h6],
          by rw [b7, h7]⟩

/-- **the long shape without trailers**: `HEADERS(END_HEADERS), DATA*, DATA(END_STREAM)` on a fresh stream, frame after frame
through the body of the stream loop: exactly one answer besides WINDOW_UPDATEs, the one `Msg.validate hs [] dataLen` calls for -/
theorem long_request_data (r : R) (uid : Nat) (frH frL : Frame) (ds : List Frame) (st : Strm) (O : Strm → Prop) (es : Bool)
    (prio : Option (Nat × Nat)) (frag : Bytes)
    (ht : Tbl r uid st O) (hf : Fresh st) (htyp : frH.typ = Gen.c_FrameHeaders)
    (hb : frH.body = .headers es true prio frag) (heh : Frame.hasFlag frH.flags Gen.c_FlagEndHeaders = true)
    (hes : Frame.hasFlag frH.flags Gen.c_FlagEndStream = false)
    (hprio : ∀ dep w, prio = some (dep, w) → (dep == st.id) = false)
    (hp : headersPrelude r frH = (r, true))
    (fs : List Hpack.Field) (d : Hpack.DecState) (hdec : decRun (frag.length + 1) r.s.dec true 0 frag = (fs, .clean d))
    (hds : ∀ fr ∈ ds, PlainData fr)
    (hLt : frL.typ = Gen.c_FrameData) (hLe : Frame.hasFlag frL.flags Gen.c_FlagEndStream = true) :
    ∃ o body, sig (runReq r uid (frH :: (ds ++ [frL]))).out = sig r.out ++ [o] ∧
      Verdicted (cfgOf r.s.cfg) (fs.map kv) [] (tot ds + payloadLen frL) st.id body o := by
  rcases request_prefix r uid frH ds [frL] st O es prio frag ht hf htyp hb heh hes hprio hp fs d hdec hds with
    ⟨o, h1, h2⟩ | ⟨m, r2, st2, hl, hps, _, h1, t2, hB, hrecv, hsig, _, hcfg⟩
  · exact ⟨o, {}, h1, h2 [] _ _ (by omega)⟩
  · have hL := data_end_stream r2 uid st.id frL st2 m O t2 hB hLt hLe
    rw [hrecv, hcfg] at hL
    by_cases hc : over r.s.cfg (tot ds + payloadLen frL)
    · rw [if_pos hc] at hL
      exact ⟨_, {}, by rw [h1, hL, hsig], .refused (validate_body _ _ [] _ m hl hps hc) rfl⟩
    · rw [if_neg hc] at hL
      exact ⟨_, st2.body.add (dataOf frL), by rw [h1, hL, hsig]; rfl,
        .decided (mt := Msg.startTrailers m) (validate_end _ _ [] _ m _ hl hps hc rfl)⟩

end H2.Server.Lock
