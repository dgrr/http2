import H2.Proofs.ClientRun
import H2.Proofs.ClientWFail
/-!
# Full serial client model: what the read loop and the write loop do to the table of waiting requests

Two relations between the state before and after a function of the read loop (`readStream`, `settle`, `dispatch`,
`refuse`, `afterGoAway`, `rdFrame`, `rdFrames`).
`Quiet c c'`: which fields change at all when a frame on a stream is handled or a request is given up: the requests, the
table and the bodies that wait (both only shrink), the counter (it falls by no more than the table shrinks), the decoder and the block in
progress, control frames queued — no window, no limit, nothing of the GOAWAY bookkeeping. The windows (`WinRel`), the
counter (`SlackLe`) and the control fields (`Ctl`) of the other files are read off it.
`RdRel c c'`: requests evolve without a result being replaced (`MapLe`), a stream leaves the table only with its request
settled, i.e. holding a result or taken back by its caller (`TableOK`, `SettledAt`), nothing enters the table, `dead`, `stuck`, `nextID` stay, `goAway` is never taken back, nothing of
type HEADERS is queued for the write loop. `rdRel_rdFrames` is the one the step lemmas use.
For the write side: the teardown keeps `MapLe` and settles the whole table (`mapLe_dieWith`, `tableOK_dieWith`), the two
ways `afterWrites` ends (`afterWrites_cases`), and `writeRequest` as one equation and one case analysis
(`writeRequest_eq`, `writeRequest_shape`).
-/
namespace H2.Client

def InTable (c : Conn) (t : String) : Prop := ∃ sid, (sid, t) ∈ c.reqQueued

def SettledAt (c : Conn) (t : String) : Prop := ∀ r, getReq c t = some r → r.done = true ∨ r.errBuf.isSome = true

def TableOK (c c' : Conn) : Prop := ∀ t, InTable c t → InTable c' t ∨ SettledAt c' t

def Keys (c : Conn) : Prop := (c.reqQueued.map (·.1)).Nodup

theorem Req.Le.settled {r r' : Req} (h : Req.Le r r') (hs : r.done = true ∨ r.errBuf.isSome = true) :
    r'.done = true ∨ r'.errBuf.isSome = true := by
  rcases hs with hs | hs
  · left; rw [h.done]; exact hs
  · right; rw [h.keep (.inr hs)]; exact hs

theorem MapLe.settled {c c' : Conn} (h : MapLe c c') {t : String} (hs : SettledAt c t) : SettledAt c' t := by
  intro r' hr'
  rcases h.get t with ⟨_, h2⟩ | ⟨r, r2, h1, h2, hle⟩
  · rw [h2] at hr'; cases hr'
  · rw [h2] at hr'; cases hr'
    exact hle.settled (hs r h1)

/-! ## `Quiet` -/

structure Quiet (c c' : Conn) : Prop where
  frame : c' = { c with reqs := c'.reqs, reqQueued := c'.reqQueued, openStreams := c'.openStreams, pending := c'.pending,
                        dec := c'.dec, hdrBlock := c'.hdrBlock, hdrEndStream := c'.hdrEndStream, lastErr := c'.lastErr,
                        currentWindow := c'.currentWindow, outQ := c'.outQ }
  table : c'.reqQueued.Sublist c.reqQueued
  pending : c'.pending.Sublist c.pending
  slack : c.openStreams - (c.reqQueued.length : Int) ≤ c'.openStreams - (c'.reqQueued.length : Int)
  outQ : ∀ f ∈ c'.outQ, f ∈ c.outQ ∨ f.isCtl = true

namespace Quiet
variable {c c' : Conn} (h : Quiet c c')
include h

theorem nextID : c'.nextID = c.nextID := by rw [h.frame]
theorem dead : c'.dead = c.dead := by rw [h.frame]
theorem stuck : c'.stuck = c.stuck := by rw [h.frame]
theorem goAway : c'.goAway = c.goAway := by rw [h.frame]
theorem stateClosed : c'.stateClosed = c.stateClosed := by rw [h.frame]
theorem closeRef : c'.closeRef = c.closeRef := by rw [h.frame]
theorem maxStreams : c'.maxStreams = c.maxStreams := by rw [h.frame]
theorem maxFrameSize : c'.maxFrameSize = c.maxFrameSize := by rw [h.frame]
theorem connWindow : c'.connWindow = c.connWindow := by rw [h.frame]
theorem streamWindow : c'.streamWindow = c.streamWindow := by rw [h.frame]

end Quiet

theorem Quiet.same {c c' : Conn}
    (e : c' = { c with reqs := c'.reqs, reqQueued := c'.reqQueued, openStreams := c'.openStreams, pending := c'.pending,
                       dec := c'.dec, hdrBlock := c'.hdrBlock, hdrEndStream := c'.hdrEndStream, lastErr := c'.lastErr,
                       currentWindow := c'.currentWindow, outQ := c'.outQ })
    (h1 : c'.reqQueued = c.reqQueued) (h2 : c'.pending = c.pending) (h3 : c'.openStreams = c.openStreams)
    (h4 : c'.outQ = c.outQ) : Quiet c c' :=
  ⟨e, by rw [h1]; exact List.Sublist.refl _, by rw [h2]; exact List.Sublist.refl _, by rw [h1, h3]; exact Int.le_refl _,
    by rw [h4]; exact fun _ hf => .inl hf⟩

theorem Quiet.refl (c : Conn) : Quiet c c := Quiet.same rfl rfl rfl rfl rfl

theorem Quiet.trans {a b c : Conn} (h1 : Quiet a b) (h2 : Quiet b c) : Quiet a c := by
  refine ⟨h2.frame.trans ?_, h2.table.trans h1.table, h2.pending.trans h1.pending, Int.le_trans h1.slack h2.slack, ?_⟩
  · rw [h1.frame]
  · intro f hf
    rcases h2.outQ f hf with x | x
    · exact h1.outQ f x
    · exact .inr x

/-! ## `RdRel` -/

structure RdRel (c c' : Conn) : Prop where
  le : MapLe c c'
  table : TableOK c c'
  sub : c'.reqQueued.Sublist c.reqQueued
  dead : c'.dead = c.dead
  stuck : c'.stuck = c.stuck
  nextID : c'.nextID = c.nextID
  goAway : c.goAway = true → c'.goAway = true
  closed : c'.stateClosed = true → c.stateClosed = true ∨ c'.goAway = true
  outQ : ∀ f ∈ c'.outQ, f ∈ c.outQ ∨ f.isCtl = true

theorem TableOK.of_eq {c c' : Conn} (h : c'.reqQueued = c.reqQueued) : TableOK c c' := by
  intro t ⟨sid, hm⟩; left; exact ⟨sid, by rw [h]; exact hm⟩

theorem TableOK.trans {a b c : Conn} (h1 : TableOK a b) (h2 : TableOK b c) (hle : MapLe b c) : TableOK a c := by
  intro t ht
  rcases h1 t ht with h | h
  · exact h2 t h
  · right; exact hle.settled h

theorem Quiet.rdRel {c c' : Conn} (h : Quiet c c') (le : MapLe c c') (t : TableOK c c') : RdRel c c' :=
  ⟨le, t, h.table, h.dead, h.stuck, h.nextID, fun g => h.goAway.trans g, fun s => .inl (h.stateClosed.symm.trans s), h.outQ⟩

theorem Quiet.rdRel' {c c' : Conn} (h : Quiet c c') (h1 : c'.reqs = c.reqs) (h2 : c'.reqQueued = c.reqQueued) : RdRel c c' :=
  h.rdRel (MapLe.of_reqs h1) (TableOK.of_eq h2)

theorem RdRel.of_fields {c c' : Conn} (h1 : c'.reqs = c.reqs) (h2 : c'.reqQueued = c.reqQueued) (h3 : c'.dead = c.dead)
    (h4 : c'.stuck = c.stuck) (h5 : c'.nextID = c.nextID) (h6 : c.goAway = true → c'.goAway = true)
    (h7 : c'.stateClosed = true → c.stateClosed = true ∨ c'.goAway = true)
    (h8 : ∀ f ∈ c'.outQ, f ∈ c.outQ ∨ f.isCtl = true) : RdRel c c' :=
  ⟨MapLe.of_reqs h1, TableOK.of_eq h2, by rw [h2]; exact List.Sublist.refl _, h3, h4, h5, h6, h7, h8⟩

theorem RdRel.refl (c : Conn) : RdRel c c := (Quiet.refl c).rdRel' rfl rfl

theorem RdRel.trans {a b c : Conn} (h1 : RdRel a b) (h2 : RdRel b c) : RdRel a c := by
  refine ⟨h1.le.trans h2.le, h1.table.trans h2.table h2.le, h2.sub.trans h1.sub, h2.dead.trans h1.dead,
    h2.stuck.trans h1.stuck, h2.nextID.trans h1.nextID, fun h => h2.goAway (h1.goAway h), ?_, ?_⟩
  · intro h
    rcases h2.closed h with h | h
    · rcases h1.closed h with h | h
      · exact .inl h
      · exact .inr (h2.goAway h)
    · exact .inr h
  · intro f hf
    rcases h2.outQ f hf with h | h
    · exact h1.outQ f h
    · exact .inr h

theorem RdRel.keys {c c' : Conn} (h : RdRel c c') (hk : Keys c) : Keys c' :=
  List.Nodup.sublist (h.sub.map _) hk

/-! ## association lists -/

theorem lookupA_mem {α} {l : List (Nat × α)} {k : Nat} {v : α} (h : lookupA l k = some v) : (k, v) ∈ l := by
  simp only [lookupA, Option.map_eq_some_iff] at h
  obtain ⟨p, hp, rfl⟩ := h
  have h1 := List.find?_some hp
  have h2 := List.mem_of_find?_eq_some hp
  have : p.1 = k := by simpa using h1
  rw [← this]; exact h2

theorem keys_unique {α} {l : List (Nat × α)} (hk : (l.map (·.1)).Nodup) {k : Nat} {a b : α}
    (ha : (k, a) ∈ l) (hb : (k, b) ∈ l) : a = b := by
  induction l with
  | nil => cases ha
  | cons x xs ih =>
    simp only [List.map_cons, List.nodup_cons, List.mem_map, not_exists, not_and] at hk
    simp only [List.mem_cons] at ha hb
    rcases ha with ha | ha <;> rcases hb with hb | hb
    · rw [← ha] at hb; cases hb; rfl
    · exact absurd (by rw [← ha]) (hk.1 _ hb)
    · exact absurd (by rw [← hb]) (hk.1 _ ha)
    · exact ih hk.2 ha hb

theorem Keys.unique {c : Conn} (hk : Keys c) {sid : Nat} {tag : String} (h : lookupA c.reqQueued sid = some tag) :
    ∀ t, (sid, t) ∈ c.reqQueued → t = tag :=
  fun _ ht => keys_unique hk ht (lookupA_mem h)

theorem eraseA_sublist {α} (l : List (Nat × α)) (k : Nat) : (eraseA l k).Sublist l := List.filter_sublist

theorem mem_eraseA {α} {l : List (Nat × α)} {k : Nat} {p : Nat × α} : p ∈ eraseA l k ↔ p ∈ l ∧ p.1 ≠ k := by
  simp [eraseA]

theorem eraseA_length_le {α} (l : List (Nat × α)) (k : Nat) : (eraseA l k).length ≤ l.length := List.length_filter_le _ _

theorem eraseA_length_lt {α} (l : List (Nat × α)) (k : Nat) (v : α) (h : (k, v) ∈ l) : (eraseA l k).length + 1 ≤ l.length := by
  induction l with
  | nil => cases h
  | cons x xs ih =>
    simp only [eraseA, List.filter_cons]
    by_cases hx : x.1 = k
    · have : (x.1 != k) = false := by simp [hx]
      simp only [this, Bool.false_eq_true, if_false, List.length_cons]
      have := eraseA_length_le xs k
      unfold eraseA at this
      omega
    · have : (x.1 != k) = true := by simpa using hx
      simp only [this, if_true, List.length_cons]
      simp only [List.mem_cons] at h
      rcases h with h | h
      · rw [← h] at hx; exact absurd rfl hx
      · have := ih h
        unfold eraseA at this
        omega

theorem insertA_append {α} (l : List (Nat × α)) (k : Nat) (v : α) (h : ∀ p ∈ l, p.1 < k) : insertA l k v = l ++ [(k, v)] := by
  induction l with
  | nil => rfl
  | cons x xs ih =>
    obtain ⟨k', v'⟩ := x
    have h1 : k' < k := h (k', v') (List.mem_cons_self ..)
    have h2 : ¬ k < k' := by omega
    have h3 : (k == k') = false := by simp; omega
    simp only [insertA, h2, if_false, h3, Bool.false_eq_true, List.cons_append]
    rw [ih (fun p hp => h p (List.mem_cons_of_mem _ hp))]

/-! ## giving up a request -/

theorem takeReq_reqQueued (c : Conn) (sid : Nat) : (takeReq c sid).reqQueued = eraseA c.reqQueued sid := by
  rcases takeReq_cases c sid with ⟨_, _, h⟩ | ⟨hl, h⟩ <;> rw [h]
  exact (eraseA_of_none _ _ hl).symm

theorem quiet_takeReq (c : Conn) (sid : Nat) : Quiet c (takeReq c sid) := by
  rcases takeReq_cases c sid with ⟨v, hl, h⟩ | ⟨_, h⟩ <;> rw [h]
  · refine ⟨rfl, eraseA_sublist _ _, List.Sublist.refl _, ?_, fun _ hf => .inl hf⟩
    have := eraseA_length_lt c.reqQueued sid v (lookupA_mem hl)
    show _ ≤ c.openStreams - 1 - ((eraseA c.reqQueued sid).length : Int)
    omega
  · exact Quiet.refl c

/-- a stream leaves the table with the counter as it is (its request was taken back before) -/
theorem quiet_erase (c : Conn) (sid : Nat) : Quiet c { c with reqQueued := eraseA c.reqQueued sid } := by
  refine ⟨rfl, eraseA_sublist _ _, List.Sublist.refl _, ?_, fun _ hf => .inl hf⟩
  have := eraseA_length_le c.reqQueued sid
  show c.openStreams - (c.reqQueued.length : Int) ≤ c.openStreams - ((eraseA c.reqQueued sid).length : Int)
  omega

theorem quiet_finish (c : Conn) (tag : String) (sid : Nat) (e : Err) : Quiet c (finish c tag sid e) :=
  (quiet_takeReq c sid).trans ⟨rfl, List.Sublist.refl _, eraseA_sublist _ _, Int.le_refl _, fun _ hf => .inl hf⟩

theorem settledAt_resolve_self (c : Conn) (tag : String) (e : Err) : SettledAt (resolve c tag e) tag := by
  intro r' hr'
  rw [resolve, getReq_updReq_self c tag _ (fun r h => (resolve_tag r e).trans h)] at hr'
  cases hq : getReq c tag with
  | none => rw [hq] at hr'; cases hr'
  | some r =>
    rw [hq] at hr'
    cases hr'
    exact (Req.resolve_settled r e).symm

theorem tableOK_erase {c c' : Conn} {sid : Nat} {tag : String} (hu : ∀ t, (sid, t) ∈ c.reqQueued → t = tag)
    (hs : SettledAt c' tag) (hq : c'.reqQueued = eraseA c.reqQueued sid) : TableOK c c' := by
  intro t ⟨s, hm⟩
  by_cases h : s = sid
  · right; subst h; rw [hu t hm]; exact hs
  · left; exact ⟨s, by rw [hq]; exact mem_eraseA.mpr ⟨hm, h⟩⟩

theorem rdRel_finish (c : Conn) (tag : String) (sid : Nat) (e : Err) (hu : ∀ t, (sid, t) ∈ c.reqQueued → t = tag) :
    RdRel c (finish c tag sid e) := by
  obtain ⟨o, h⟩ := finish_eq c tag sid e
  refine (quiet_finish c tag sid e).rdRel (mapLe_finish c tag sid e) (tableOK_erase hu ?_ (by rw [h]))
  intro r' hr'
  rw [getReq_congr (c := resolve c tag e) (by rw [h])] at hr'
  exact settledAt_resolve_self c tag e r' hr'

theorem rdRel_updReq (c : Conn) (tag : String) (f : Req → Req) (hf : ∀ r, r.tag = tag → (f r).tag = tag)
    (hl : ∀ r, getReq c tag = some r → Req.Le r (f r)) : RdRel c (updReq c tag f) :=
  (show Quiet c (updReq c tag f) from Quiet.same rfl rfl rfl rfl rfl).rdRel (mapLe_updReq c tag f hf hl) (TableOK.of_eq rfl)

theorem quiet_queueOut (c : Conn) (f : OutFrame) (hf : f.isCtl = true) : Quiet c (queueOut c f) := by
  refine ⟨rfl, List.Sublist.refl _, List.Sublist.refl _, Int.le_refl _, ?_⟩
  intro g hg
  rcases List.mem_append.mp hg with hg | hg
  · exact .inl hg
  · right; rw [List.mem_singleton.mp hg]; exact hf

theorem quiet_setLastErr (c : Conn) (e : Err) : Quiet c (setLastErr c e) := by
  obtain ⟨l, h⟩ := setLastErr_shape c e
  rw [h]; exact Quiet.same rfl rfl rfl rfl rfl

theorem rdRel_setLastErr (c : Conn) (e : Err) : RdRel c (setLastErr c e) := by
  obtain ⟨l, h⟩ := setLastErr_shape c e
  rw [h]; exact (show Quiet c { c with lastErr := l } from Quiet.same rfl rfl rfl rfl rfl).rdRel' rfl rfl

theorem quiet_consumeConnWindow (c : Conn) (n : Nat) : Quiet c (consumeConnWindow c n) := by
  unfold consumeConnWindow
  simp only
  split
  · exact (Quiet.same (c := c) (c' := { c with currentWindow := maxWindow }) rfl rfl rfl rfl rfl).trans
      (quiet_queueOut _ _ rfl)
  · exact Quiet.same rfl rfl rfl rfl rfl

theorem consumeConnWindow_reqs (c : Conn) (n : Nat) :
    (consumeConnWindow c n).reqs = c.reqs ∧ (consumeConnWindow c n).reqQueued = c.reqQueued := by
  unfold consumeConnWindow
  simp only
  split <;> exact ⟨rfl, rfl⟩

/-! ## a frame on a stream -/

theorem prepare_shape (c : Conn) (f : Frame.Frame) : ∃ h, (prepare c f).1 = { c with hdrEndStream := h } := by
  simp only [prepare, noteHeaders]
  split <;> split <;> exact ⟨_, rfl⟩

theorem updReq_id (c : Conn) (tag : String) : (updReq c tag id).reqs = c.reqs := by
  simp only [updReq, id, ite_self, List.map_id']

abbrev ReadOf (c : Conn) (tag : String) (r : Req) (c' : Conn) : Prop :=
  ∃ (g : Req → Req) (d : Hpack.DecState) (hb : Bytes) (q : List OutFrame),
    c' = { c with reqs := (updReq c tag g).reqs, dec := d, hdrBlock := hb, outQ := c.outQ ++ q } ∧
    (∀ x, x.tag = tag → (g x).tag = tag) ∧ Req.Le r (g r) ∧ ∀ x ∈ q, x.isCtl = true

theorem readStream_shape (c : Conn) (tag : String) (r : Req) (f : Frame.Frame) (ht : r.tag = tag) :
    ReadOf c tag r (readStream c tag r f).1 := by
  have idle : ∀ hb, ReadOf c tag r { c with hdrBlock := hb } :=
    fun hb => ⟨id, c.dec, hb, [], by rw [updReq_id, List.append_nil], fun _ h => h, Req.Le.refl r, fun _ => nomem⟩
  have hdr : ∀ blk, ReadOf c tag r
      (updReq { c with dec := (readHeader (blk.length + 1) c.dec r false false 0 blk).1, hdrBlock := [] } tag
        fun _ => (readHeader (blk.length + 1) c.dec r false false 0 blk).2.1) := by
    intro blk
    have le := readHeader_le (blk.length + 1) c.dec r false false 0 blk
    exact ⟨_, _, _, [], by rw [List.append_nil]; rfl, fun _ _ => le.tag.trans ht, le, fun _ => nomem⟩
  unfold readStream
  split
  · simp only
    split
    · exact hdr _
    · exact idle _
  · simp only
    split
    · exact hdr _
    · exact idle _
  · exact idle c.hdrBlock
  · rename_i es d _
    have body : ∃ g : Req → Req,
        (if (d.length != 0) = true then updReq c tag fun q => { q with body := q.body ++ d } else c) =
          { c with reqs := (updReq c tag g).reqs } ∧ (∀ x, x.tag = tag → (g x).tag = tag) ∧ Req.Le r (g r) := by
      split
      · exact ⟨_, rfl, fun _ h => h, ⟨rfl, rfl, rfl, fun _ => rfl, rfl, rfl, rfl⟩⟩
      · exact ⟨id, by rw [updReq_id], fun _ h => h, Req.Le.refl r⟩
    obtain ⟨g, e, hg, hle⟩ := body
    simp only
    rw [e]
    split
    · refine ⟨g, c.dec, c.hdrBlock, [_], rfl, hg, hle, ?_⟩
      intro x hx
      rw [List.mem_singleton.mp hx]; rfl
    · exact ⟨g, c.dec, c.hdrBlock, [], by rw [List.append_nil], hg, hle, fun _ => nomem⟩
  · exact idle c.hdrBlock

theorem quiet_readStream (c : Conn) (tag : String) (r : Req) (f : Frame.Frame) (ht : r.tag = tag) :
    Quiet c (readStream c tag r f).1 := by
  obtain ⟨g, d, hb, q, e, -, -, hq⟩ := readStream_shape c tag r f ht
  rw [e]
  refine ⟨rfl, List.Sublist.refl _, List.Sublist.refl _, Int.le_refl _, ?_⟩
  intro x hx
  exact (List.mem_append.mp hx).imp id (hq x)

theorem rdRel_readStream (c : Conn) (tag : String) (r : Req) (f : Frame.Frame) (hr : getReq c tag = some r) :
    RdRel c (readStream c tag r f).1 := by
  obtain ⟨g, d, hb, q, e, hg, hle, -⟩ := readStream_shape c tag r f (getReq_tag hr)
  refine (quiet_readStream c tag r f (getReq_tag hr)).rdRel ?_ (TableOK.of_eq (by rw [e]))
  refine (mapLe_updReq c tag g hg ?_).trans (MapLe.of_reqs (by rw [e]))
  intro x hx
  rw [hr] at hx; cases hx; exact hle

theorem quiet_settle (c : Conn) (tag : String) (sid : Nat) (err : Option Err) (endS : Bool) :
    Quiet c (settle c tag sid err endS).1 := by
  rcases settle_cases c tag sid err endS with h | ⟨e, h⟩ <;> rw [h]
  · exact Quiet.refl c
  · exact quiet_finish c tag sid e

theorem rdRel_settle (c : Conn) (tag : String) (sid : Nat) (err : Option Err) (endS : Bool)
    (hu : ∀ t, (sid, t) ∈ c.reqQueued → t = tag) : RdRel c (settle c tag sid err endS).1 := by
  rcases settle_cases c tag sid err endS with h | ⟨e, h⟩ <;> rw [h]
  · exact RdRel.refl c
  · exact rdRel_finish c tag sid e hu

theorem quiet_skipHeaders (c : Conn) (f : Frame.Frame) : Quiet c (skipHeaders c f) := by
  obtain ⟨d, b, e, h⟩ := skipHeaders_shape c f
  rw [h]; exact Quiet.same rfl rfl rfl rfl rfl

theorem quiet_prepare (c : Conn) (f : Frame.Frame) : Quiet c (prepare c f).1 := by
  obtain ⟨h, e⟩ := prepare_shape c f
  rw [e]; exact Quiet.same rfl rfl rfl rfl rfl

theorem quiet_dispatch (c : Conn) (f : Frame.Frame) : Quiet c (dispatch c f).1 := by
  rcases dispatch_cases c f with h | ⟨tag, r, _, _, _, h⟩ | ⟨tag, r, _, hr, _, h⟩ <;> rw [h]
  · exact quiet_skipHeaders c f
  · obtain ⟨d, b, e, hs⟩ := skipHeaders_shape c f
    refine (quiet_skipHeaders c f).trans ?_
    rw [hs]
    exact quiet_erase _ f.stream
  · exact ((quiet_prepare c f).trans (quiet_readStream _ tag r f (getReq_tag hr))).trans (quiet_settle _ _ _ _ _)

theorem rdRel_dispatch (c : Conn) (f : Frame.Frame) (hk : Keys c) : RdRel c (dispatch c f).1 := by
  obtain ⟨d, b, e, hsk⟩ := skipHeaders_shape c f
  have q := quiet_dispatch c f
  rcases dispatch_cases c f with h | ⟨tag, r, hl, hr, hd, h⟩ | ⟨tag, r, hl, hr, _, h⟩ <;> rw [h] at q ⊢
  · exact q.rdRel' (by rw [hsk]) (by rw [hsk])
  · refine q.rdRel (MapLe.of_reqs (by rw [hsk])) (tableOK_erase (hk.unique hl) ?_ rfl)
    intro r' hr'
    have hr'' : getReq c tag = some r' := by rw [← hr']; exact (getReq_congr (by rw [hsk]) tag).symm
    rw [hr] at hr''; cases hr''; exact .inl hd
  · obtain ⟨he, hp⟩ := prepare_shape c f
    have hr1 : getReq (prepare c f).1 tag = some r := by rw [hp]; exact hr
    have p : RdRel c (prepare c f).1 := (quiet_prepare c f).rdRel' (by rw [hp]) (by rw [hp])
    have rs := rdRel_readStream (prepare c f).1 tag r f hr1
    refine (p.trans rs).trans (rdRel_settle _ tag f.stream _ _ ?_)
    intro t ht
    exact hk.unique hl t ((p.trans rs).sub.subset ht)

/-! ## GOAWAY -/

theorem quiet_refuse (c : Conn) (sid : Nat) (tag : String) : Quiet c (refuse c sid tag) := by
  rcases refuse_cases c sid tag with ⟨_, h⟩ | ⟨r, _, _, h⟩ <;> rw [h]
  · exact quiet_erase c sid
  · exact quiet_finish c tag sid _

theorem rdRel_refuse (c : Conn) (sid : Nat) (tag : String) (hu : ∀ t, (sid, t) ∈ c.reqQueued → t = tag) :
    RdRel c (refuse c sid tag) := by
  have q := quiet_refuse c sid tag
  rcases refuse_cases c sid tag with ⟨hs, h⟩ | ⟨r, _, _, h⟩ <;> rw [h] at q ⊢
  · exact q.rdRel (MapLe.of_reqs rfl) (tableOK_erase hu (fun r hr => .inl (hs r hr)) rfl)
  · exact rdRel_finish c tag sid _ hu

theorem quiet_refuseAbove (l : List (Nat × String)) : ∀ c : Conn, Quiet c (refuseAbove c l) := by
  induction l with
  | nil => exact Quiet.refl
  | cons x xs ih =>
    intro c
    obtain ⟨sid, tag⟩ := x
    simp only [refuseAbove]
    split
    · exact (quiet_refuse c sid tag).trans (ih _)
    · exact ih c

theorem rdRel_refuseAbove (l : List (Nat × String)) : ∀ c : Conn,
    (∀ p ∈ l, ∀ t, (p.1, t) ∈ c.reqQueued → t = p.2) → RdRel c (refuseAbove c l) := by
  induction l with
  | nil => intro c _; exact RdRel.refl c
  | cons x xs ih =>
    intro c hl
    obtain ⟨sid, tag⟩ := x
    simp only [refuseAbove]
    split
    · have h1 := rdRel_refuse c sid tag (hl (sid, tag) (List.mem_cons_self ..))
      refine h1.trans (ih _ ?_)
      intro p hp t ht
      exact hl p (List.mem_cons_of_mem _ hp) t (h1.sub.subset ht)
    · exact ih c (fun p hp => hl p (List.mem_cons_of_mem _ hp))

theorem rdRel_afterGoAway (c : Conn) (hk : Keys c) : RdRel c (afterGoAway c).1 := by
  unfold afterGoAway
  apply rdRel_refuseAbove
  intro p hp t ht
  exact keys_unique hk ht hp

theorem dispatchLoop_eq (c : Conn) (f : Frame.Frame) :
    dispatchLoop c f = if (dispatch c f).1.stateClosed then
        ((afterGoAway (dispatch c f).1).1, (dispatch c f).2 || (afterGoAway (dispatch c f).1).2)
      else ((dispatch c f).1, (dispatch c f).2) := by
  unfold dispatchLoop
  cases dispatch c f with
  | mk c1 s => rfl

theorem quiet_dispatchLoop (c : Conn) (f : Frame.Frame) : Quiet c (dispatchLoop c f).1 := by
  rw [dispatchLoop_eq]
  split
  · exact (quiet_dispatch c f).trans (quiet_refuseAbove _ _)
  · exact quiet_dispatch c f

theorem rdRel_dispatchLoop (c : Conn) (f : Frame.Frame) (hk : Keys c) : RdRel c (dispatchLoop c f).1 := by
  rw [dispatchLoop_eq]
  have h := rdRel_dispatch c f hk
  split
  · exact h.trans (rdRel_afterGoAway _ (h.keys hk))
  · exact h

/-! ## one frame, all frames of an event -/

theorem rdRel_handleSettings (c : Conn) (s : Frame.SettingsVal) : RdRel c (handleSettings c s) := by
  obtain ⟨a, b, d, e, f, g, sw, p, w, h⟩ := handleSettings_shape c s
  rw [h]
  refine RdRel.of_fields rfl rfl rfl rfl rfl id Or.inl ?_
  intro x hx
  rcases List.mem_append.mp hx with hx | hx
  · exact .inl hx
  · right; rw [List.mem_singleton.mp hx]; rfl

theorem addWindow_shape (c : Conn) (sid inc : Nat) :
    ∃ w p, addWindow c sid inc = { c with connWindow := w, pending := p, winTok := true } := by
  unfold addWindow
  split
  · exact ⟨_, c.pending, rfl⟩
  · exact ⟨c.connWindow, _, rfl⟩

theorem rdRel_addWindow (c : Conn) (sid inc : Nat) : RdRel c (addWindow c sid inc) := by
  obtain ⟨w, p, h⟩ := addWindow_shape c sid inc
  rw [h]; exact RdRel.of_fields rfl rfl rfl rfl rfl id Or.inl (fun _ h => .inl h)

theorem rdRel_rdFrame (c : Conn) (f : Frame.Frame) (hk : Keys c) : RdRel c (rdFrame c f).1 := by
  unfold rdFrame
  split
  · split
    · split
      · exact RdRel.refl c
      · exact rdRel_handleSettings c _
    · exact rdRel_addWindow c 0 _
    · split
      · exact RdRel.refl c
      · exact (quiet_queueOut c _ rfl).rdRel' rfl rfl
    · simp only
      split
      · exact (RdRel.of_fields (c := c) (c' := { c with goAway := true }) rfl rfl rfl rfl rfl (fun _ => rfl)
          (fun _ => .inr rfl) (fun _ h => .inl h)).trans (rdRel_setLastErr _ _)
      · exact (RdRel.of_fields (c := c) (c' := { c with goAway := true, closeRef := _, stateClosed := true })
          rfl rfl rfl rfl rfl (fun _ => rfl) (fun _ => .inr rfl) (fun _ h => .inl h)).trans
          (rdRel_afterGoAway _ hk)
    · exact RdRel.refl c
  · split
    · exact rdRel_setLastErr c _
    · have h := rdRel_addWindow c f.stream ‹Nat›
      exact h.trans (rdRel_dispatchLoop _ f (h.keys hk))
    · have h : RdRel c (consumeConnWindow c f.length) :=
        (quiet_consumeConnWindow c f.length).rdRel' (consumeConnWindow_reqs c _).1 (consumeConnWindow_reqs c _).2
      exact h.trans (rdRel_dispatchLoop _ f (h.keys hk))
    · exact rdRel_dispatchLoop c f hk

theorem rdFrames_cons_frame (f : Frame.Frame) (fs : List RdFrame) (c : Conn) :
    rdFrames (.frame f :: fs) c = if c.stuck then (c, false) else
      if (rdFrame c f).2 then ((rdFrame c f).1, true) else rdFrames fs (rdFrame c f).1 := by
  simp only [rdFrames]

theorem rdRel_rdFrames (fs : List RdFrame) : ∀ c : Conn, Keys c → RdRel c (rdFrames fs c).1 := by
  induction fs with
  | nil => intro c _; exact RdRel.refl c
  | cons x xs ih =>
    intro c hk
    cases x with
    | unknown => simp only [rdFrames]; exact ih c hk
    | bad ga oth => simp only [rdFrames]; exact rdRel_setLastErr c _
    | frame f =>
      rw [rdFrames_cons_frame]
      have h := rdRel_rdFrame c f hk
      split
      · exact RdRel.refl c
      · split
        · exact h
        · exact h.trans (ih _ (h.keys hk))

/-! ## teardown and the write side -/

theorem mapLe_dieWith (c : Conn) (e : Err) : MapLe c (dieWith c e) := by
  obtain ⟨l, h⟩ := dieWith_shape c e
  refine ⟨dieMap c e, dieMap_tag c e, ?_, by rw [h]⟩
  intro r _
  unfold dieMap; split
  · exact Req.resolve_le r e
  · exact Req.Le.refl r

theorem tableOK_dieWith (c : Conn) (e : Err) : TableOK c (dieWith c e) := by
  obtain ⟨l, h⟩ := dieWith_shape c e
  intro t ⟨sid, hm⟩
  right
  intro r' hr'
  rw [getReq_map (dieMap_tag c e) (by rw [h])] at hr'
  cases hq : getReq c t with
  | none => rw [hq] at hr'; cases hr'
  | some r =>
    rw [hq] at hr'
    simp only [Option.map_some, Option.some.injEq] at hr'
    subst hr'
    have : (c.reqQueued.any fun p => p.2 == r.tag) = true := by
      rw [List.any_eq_true]; exact ⟨(sid, t), hm, by simp [getReq_tag hq]⟩
    simp only [dieMap, this, if_true]
    exact (Req.resolve_settled r e).symm

theorem afterWrites_cases (c : Conn) (fs : List OutFrame) :
    (∃ e s b, (afterWrites c fs) = ({ c with enc := e, encTableSet := s, wbudget := b }, .frames (wireFrames c fs))) ∨
    (∃ e s, (afterWrites c fs) = (dieWith { c with enc := e, encTableSet := s } .writeErr, .dead)) := by
  rw [afterWrites_eq]
  obtain ⟨e, s, h⟩ := wireBytes_shape fs c
  rw [h]
  split
  · left; exact ⟨e, s, c.wbudget, rfl⟩
  · split
    · left; exact ⟨e, s, _, rfl⟩
    · right; exact ⟨e, s, rfl⟩

theorem mapLe_afterWrites (c : Conn) (fs : List OutFrame) :
    MapLe c (afterWrites c fs).1 ∧ TableOK c (afterWrites c fs).1 := by
  rcases afterWrites_cases c fs with ⟨e, s, b, h⟩ | ⟨e, s, h⟩
  · rw [h]; exact ⟨MapLe.of_reqs rfl, TableOK.of_eq rfl⟩
  · rw [h]
    exact ⟨(MapLe.of_reqs (c := c) (c' := { c with enc := e, encTableSet := s }) rfl).trans (mapLe_dieWith _ _),
      (TableOK.of_eq (c := c) (c' := { c with enc := e, encTableSet := s }) rfl).trans (tableOK_dieWith _ _)
        (mapLe_dieWith _ _)⟩

/-! ### `writeRequest` -/

def reqStreamed (r : ReqSpec) : Bool :=
  match r.body with
  | .stream _ _ _ => true
  | _ => false

/-- the state after `writeRequest` has registered the request on stream `nextID`, before the body -/
def wrOpen (c : Conn) (r : ReqSpec) : Conn :=
  updReq { c with nextID := c.nextID + 2, reqQueued := insertA c.reqQueued c.nextID r.tag, openStreams := c.openStreams + 1 }
    r.tag fun q => { q with sid := c.nextID, hasConn := true, streamed := reqStreamed r }

/-- the `pendingBody` of a request that has a body -/
def wrPending (c : Conn) (r : ReqSpec) : Option Pending :=
  match r.body with
  | .none => none
  | .buf n => some { tag := r.tag, window := c.streamWindow, body := n }
  | .stream d chunks term =>
    some { tag := r.tag, window := c.streamWindow, isStream := true, chunks := chunks, term := term, size := d, drained := d == 0 }

def wrHeaders (c : Conn) (r : ReqSpec) : OutFrame :=
  .headers c.nextID (!(match r.body with | .none => false | _ => true)) (requestFields r)

theorem writeRequest_eq (c : Conn) (r : ReqSpec) :
    writeRequest c r = if !canOpenStream c then (resolve c r.tag .noStreams, []) else
      match wrPending c r with
      | none => (wrOpen c r, [wrHeaders c r])
      | some pb =>
        ((sendPending 100000 { wrOpen c r with pending := insertA c.pending c.nextID pb } c.nextID).1,
          wrHeaders c r :: (sendPending 100000 { wrOpen c r with pending := insertA c.pending c.nextID pb } c.nextID).2) := by
  simp only [writeRequest, wrPending, wrOpen, wrHeaders, reqStreamed]
  split
  · rfl
  · cases r.body <;> simp only [updReq]

theorem writeRequest_shape (c : Conn) (r : ReqSpec) :
    (canOpenStream c = false ∧ writeRequest c r = (resolve c r.tag .noStreams, [])) ∨
    (canOpenStream c = true ∧ ∃ p w q ds,
      writeRequest c r = ({ wrOpen c r with pending := p, connWindow := w, outQ := c.outQ ++ q }, wrHeaders c r :: ds) ∧
      (∀ f ∈ q, f.isCtl = true) ∧ AllOn c.nextID ds) := by
  rw [writeRequest_eq]
  cases hc : canOpenStream c with
  | false => exact .inl ⟨rfl, rfl⟩
  | true =>
    refine .inr ⟨rfl, ?_⟩
    simp only [Bool.not_true, Bool.false_eq_true, if_false]
    split
    · exact ⟨c.pending, c.connWindow, [], [], by rw [List.append_nil]; rfl, fun _ => nomem, fun _ => nomem⟩
    · rename_i pb _
      obtain ⟨p, w, q, hs, hq, hd⟩ :=
        sendPending_shape 100000 { wrOpen c r with pending := insertA c.pending c.nextID pb } c.nextID
      exact ⟨p, w, q, _, Prod.ext hs rfl, hq, hd⟩

end H2.Client
