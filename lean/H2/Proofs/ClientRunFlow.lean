import H2.Proofs.ClientRunFlowA
/-!
# C07 on the full serial client model: DATA written never exceeds what the server granted, in every run

State form with ghost ledgers carried beside the connection (the way `ServerFlowFull` does it for the server).
The ledgers `Led` are moved ONLY by what the connection receives and writes, never by its windows:
* `recv`: a WINDOW_UPDATE frame the read loop processes adds its increment to `connInc` / `strInc sid`; a SETTINGS frame
  (not an acknowledgement) that carries INITIAL_WINDOW_SIZE sets `iws`;
* `wrote`: every `.data sid len _` frame of a step's output adds `len` to `connSent` and `strSent sid`.
The invariant `FL g c` ties `c.connWindow` and `c.pending[*].window` (both `int32`, with the wrap-around of the code) to
these ledgers. `step_fl`: one step keeps `FL` and writes DATA within the allowances (`WrOK`). `grun`, `GAll`: the ledgers
stepped beside a run (`grun_fl`, `gall_stepOK`); `grun_eq`: after a run they are the initial ledgers moved by the frames
the read loop went through and the frames written, nothing else (`grun_sent`, `grun_inc`, `grun_iws`).
-/
namespace H2.Client

/-! ## ledgers -/

structure Led where
  iws : Int
  connInc : Nat := 0
  connSent : Nat := 0
  strInc : Nat → Nat := fun _ => 0
  strSent : Nat → Nat := fun _ => 0

def dataLen : OutFrame → Nat
  | .data _ n _ => n
  | _ => 0

/-- octets of DATA on stream `sid` among the frames -/
def dataOn (sid : Nat) : List OutFrame → Nat
  | [] => 0
  | .data s n _ :: fs => (if s = sid then n else 0) + dataOn sid fs
  | _ :: fs => dataOn sid fs

def dataAll : List OutFrame → Nat
  | [] => 0
  | f :: fs => dataLen f + dataAll fs

theorem dataOn_append (sid : Nat) (a b : List OutFrame) : dataOn sid (a ++ b) = dataOn sid a + dataOn sid b := by
  induction a with
  | nil => simp [dataOn]
  | cons x xs ih => cases x <;> simp [dataOn, ih, Nat.add_assoc]

theorem dataAll_append (a b : List OutFrame) : dataAll (a ++ b) = dataAll a + dataAll b := by
  induction a with
  | nil => simp [dataAll]
  | cons x xs ih => simp [dataAll, ih, Nat.add_assoc]

/-- the frames are control frames or empty DATA: they count for nothing -/
def NoDat (q : List OutFrame) : Prop := ∀ f ∈ q, dataLen f = 0

theorem noDat_on {q : List OutFrame} (h : NoDat q) (sid : Nat) : dataOn sid q = 0 := by
  induction q with
  | nil => rfl
  | cons x xs ih =>
    have hx := h x (List.mem_cons_self ..)
    have := ih (fun f hf => h f (List.mem_cons_of_mem _ hf))
    cases x <;> simp_all [dataOn, dataLen]

theorem noDat_all {q : List OutFrame} (h : NoDat q) : dataAll q = 0 := by
  induction q with
  | nil => rfl
  | cons x xs ih =>
    have hx := h x (List.mem_cons_self ..)
    have := ih (fun f hf => h f (List.mem_cons_of_mem _ hf))
    simp [dataAll, hx, this]

theorem isCtl_dataLen {f : OutFrame} (h : f.isCtl = true) : dataLen f = 0 := by
  cases f <;> first | rfl | cases h

theorem allOn_other {sid : Nat} {fs : List OutFrame} (h : AllOn sid fs) (s : Nat) (hs : s ≠ sid) : dataOn s fs = 0 := by
  induction fs with
  | nil => rfl
  | cons x xs ih =>
    obtain ⟨k, b, rfl⟩ := h x (List.mem_cons_self ..)
    have := ih (fun f hf => h f (List.mem_cons_of_mem _ hf))
    have hne : ¬ sid = s := fun e => hs e.symm
    simp [dataOn, this, hne]

theorem allOn_all {sid : Nat} {fs : List OutFrame} (h : AllOn sid fs) : dataAll fs = dataOn sid fs := by
  induction fs with
  | nil => rfl
  | cons x xs ih =>
    obtain ⟨k, b, rfl⟩ := h x (List.mem_cons_self ..)
    have := ih (fun f hf => h f (List.mem_cons_of_mem _ hf))
    simp [dataOn, dataAll, dataLen, this]

def Led.wrote (g : Led) (fs : List OutFrame) : Led :=
  { g with connSent := g.connSent + dataAll fs, strSent := fun s => g.strSent s + dataOn s fs }

theorem Led.wrote_nil (g : Led) : g.wrote [] = g := by
  cases g; simp [Led.wrote, dataAll, dataOn]

theorem Led.wrote_append (g : Led) (a b : List OutFrame) : (g.wrote a).wrote b = g.wrote (a ++ b) := by
  simp only [Led.wrote, dataAll_append, dataOn_append, Nat.add_assoc]

theorem Led.wrote_noDat (g : Led) {q : List OutFrame} (h : NoDat q) : g.wrote q = g := by
  cases g
  simp only [Led.wrote, noDat_all h, Nat.add_zero, Led.mk.injEq, true_and]
  funext s; simp [noDat_on h s]

def bump (f : Nat → Nat) (k n : Nat) : Nat → Nat := fun x => if x = k then f x + n else f x

def Led.recv (g : Led) (f : Frame.Frame) : Led :=
  match f.body with
  | .windowUpdate inc =>
    if f.stream == 0 then { g with connInc := g.connInc + inc } else { g with strInc := bump g.strInc f.stream inc }
  | .settings s => if f.stream == 0 && !s.ack && s.hasWindowSize then { g with iws := s.windowSize } else g
  | _ => g

/-! ## the invariant -/

structure EntOK (g : Led) (c : Conn) (sid : Nat) (pb : Pending) : Prop where
  rng : Rng pb.window
  below : sid < c.nextID
  wok : WOK pb.window (g.iws + g.strInc sid - g.strSent sid) g.iws

def MfsOK (n : Nat) : Prop := 16384 ≤ n ∧ n ≤ 16777215

structure FL (g : Led) (c : Conn) : Prop where
  iws : c.streamWindow = g.iws
  iwsR : 0 ≤ g.iws ∧ g.iws ≤ 2147483647
  connR : Rng c.connWindow
  conn : c.connWindow ≤ 65535 + (g.connInc : Int) - g.connSent
  connLe : (g.connSent : Int) ≤ 65535 + g.connInc
  sorted : SortedA c.pending
  ent : ∀ p ∈ c.pending, EntOK g c p.1 p.2
  fresh : ∀ sid, c.nextID ≤ sid → g.strSent sid = 0
  mfs : MfsOK c.maxFrameSize
  outQ : NoDat c.outQ

/-- a function that moves no send window: bodies may be dropped, control frames queued -/
structure WinRel (c c' : Conn) : Prop where
  sub : c'.pending.Sublist c.pending
  connWindow : c'.connWindow = c.connWindow
  streamWindow : c'.streamWindow = c.streamWindow
  nextID : c'.nextID = c.nextID
  maxFrameSize : c'.maxFrameSize = c.maxFrameSize
  outQ : ∀ f ∈ c'.outQ, f ∈ c.outQ ∨ f.isCtl = true

theorem WinRel.refl (c : Conn) : WinRel c c := ⟨List.Sublist.refl _, rfl, rfl, rfl, rfl, fun _ h => .inl h⟩

theorem WinRel.trans {a b c : Conn} (h1 : WinRel a b) (h2 : WinRel b c) : WinRel a c := by
  refine ⟨h2.sub.trans h1.sub, h2.connWindow.trans h1.connWindow, h2.streamWindow.trans h1.streamWindow,
    h2.nextID.trans h1.nextID, h2.maxFrameSize.trans h1.maxFrameSize, ?_⟩
  intro f hf
  rcases h2.outQ f hf with h | h
  · exact h1.outQ f h
  · exact .inr h

theorem FL.winRel {g : Led} {c c' : Conn} (h : FL g c) (r : WinRel c c') : FL g c' := by
  refine ⟨r.streamWindow.trans h.iws, h.iwsR, by rw [r.connWindow]; exact h.connR, by rw [r.connWindow]; exact h.conn,
    h.connLe, List.Pairwise.sublist r.sub h.sorted, ?_, by rw [r.nextID]; exact h.fresh, by rw [r.maxFrameSize]; exact h.mfs, ?_⟩
  · intro p hp
    obtain ⟨a, b, d⟩ := h.ent p (r.sub.subset hp)
    exact ⟨a, by rw [r.nextID]; exact b, d⟩
  · intro f hf
    rcases r.outQ f hf with x | x
    · exact h.outQ f x
    · exact isCtl_dataLen x

/-- frames that were not written: the windows have moved, the ledgers have not -/
theorem FL.forget {g : Led} {c : Conn} {fs : List OutFrame} (h : FL (g.wrote fs) c) : FL g c := by
  refine ⟨h.iws, h.iwsR, h.connR, ?_, ?_, h.sorted, ?_, ?_, h.mfs, h.outQ⟩
  · have := h.conn; simp only [Led.wrote] at this; omega
  · have := h.connLe; simp only [Led.wrote] at this; omega
  · intro p hp
    obtain ⟨a, b, d⟩ := h.ent p hp
    refine ⟨a, b, ?_⟩
    simp only [Led.wrote] at d
    exact d.mono (by omega)
  · intro sid hs
    have := h.fresh sid hs
    simp only [Led.wrote] at this
    omega

theorem winRel_same {c c' : Conn} (e1 : c'.pending = c.pending) (e2 : c'.connWindow = c.connWindow)
    (e3 : c'.streamWindow = c.streamWindow) (e4 : c'.nextID = c.nextID) (e5 : c'.maxFrameSize = c.maxFrameSize)
    (e6 : c'.outQ = c.outQ ∨ c'.outQ = []) : WinRel c c' := by
  refine ⟨by rw [e1]; exact List.Sublist.refl _, e2, e3, e4, e5, ?_⟩
  rcases e6 with e6 | e6 <;> rw [e6]
  · exact fun _ hf => .inl hf
  · exact fun _ hf => nomem hf

theorem Quiet.winRel {c c' : Conn} (h : Quiet c c') : WinRel c c' :=
  ⟨h.pending, h.connWindow, h.streamWindow, h.nextID, h.maxFrameSize, h.outQ⟩

/-! ## the write loop -/

theorem dataFrames_dataOn (sid step : Nat) (hstep : 0 < step) : ∀ (fuel n : Nat) (e : Bool), n < fuel →
    dataOn sid (dataFrames sid step fuel n e) = n ∧ ∀ f ∈ dataFrames sid step fuel n e, dataLen f ≤ step := by
  intro fuel
  induction fuel with
  | zero => intro n e h; omega
  | succ k ih =>
    intro n e h
    simp only [dataFrames]
    split
    · rename_i hle
      refine ⟨by simp [dataOn], ?_⟩
      intro f hf; simp only [List.mem_singleton] at hf; rw [hf]; exact hle
    · rename_i hgt
      obtain ⟨i1, i2⟩ := ih (n - step) e (by omega)
      refine ⟨by simp [dataOn, i1]; omega, ?_⟩
      intro f hf
      simp only [List.mem_cons] at hf
      rcases hf with rfl | hf
      · exact Nat.le_refl _
      · exact i2 f hf

theorem writeData_spec (c : Conn) (sid n : Nat) (endS : Bool) (hm : MfsOK c.maxFrameSize) :
    dataOn sid (writeData c sid n endS) = n ∧ ∀ f ∈ writeData c sid n endS, dataLen f ≤ c.maxFrameSize := by
  obtain ⟨m1, m2⟩ := hm
  have h0 : (c.maxFrameSize == 0 || decide (c.maxFrameSize > Gen.c_maxFrameSize)) = false := by
    simp [Gen.c_maxFrameSize]; omega
  simp only [writeData, h0, Bool.false_eq_true, if_false]
  split
  · rename_i hn
    have : n = 0 := by simpa using hn
    subst this
    split
    · refine ⟨by simp [dataOn], ?_⟩
      intro f hf; simp only [List.mem_singleton] at hf; rw [hf]; simp [dataLen]
    · exact ⟨rfl, fun f hf => nomem hf⟩
  · exact dataFrames_dataOn sid c.maxFrameSize (by omega) (n + 1) n endS (by omega)

theorem refill_window {pb pb' : Pending} (h : refill pb = some pb') : pb'.window = pb.window := by
  unfold refill at h
  split at h
  · split at h
    · cases h
    · cases h
    · simp only [Option.some.injEq] at h; subst h; rfl
  · simp only at h
    split at h
    · cases h
    · simp only [Option.some.injEq] at h
      subst h
      (repeat' split) <;> rfl

def Led.sent (g : Led) (sid k : Nat) : Led :=
  { g with connSent := g.connSent + k, strSent := fun s => g.strSent s + (if s = sid then k else 0) }

theorem Led.sent_zero (g : Led) (sid : Nat) : g.sent sid 0 = g := by
  cases g; simp [Led.sent]

theorem Led.wrote_allOn (g : Led) {sid : Nat} {fs : List OutFrame} (h : AllOn sid fs) : g.wrote fs = g.sent sid (dataOn sid fs) := by
  simp only [Led.wrote, Led.sent, allOn_all h]
  congr 1
  funext s
  by_cases hs : s = sid
  · simp [hs]
  · simp [hs, allOn_other h s hs]

/-- `k` of the `spendN …` octets that leave the windows of the body `pb` on `sid` reach the transport -/
theorem fl_spend {g : Led} {c : Conn} (h : FL g c) {sid : Nat} {pb : Pending} (hm : (sid, pb) ∈ c.pending) (k : Nat)
    (hk : k ≤ spendN pb.body pb.window c.connWindow) :
    FL (g.sent sid k) (spentConn c sid pb (spendN pb.body pb.window c.connWindow)) ∧ (0 < k → (g.strSent sid + k : Int) ≤ g.iws + g.strInc sid) := by
  obtain ⟨n1, n2, _⟩ := Flow.spendN_le pb.body pb.window c.connWindow
  have e : EntOK g c sid pb := h.ent (sid, pb) hm
  have hconn := h.conn
  have hconnLe := h.connLe
  have hR := h.connR
  have other : ∀ p ∈ c.pending, p.1 ≠ sid → EntOK (g.sent sid k) (spentConn c sid pb (spendN pb.body pb.window c.connWindow)) p.1 p.2 := by
    intro p hp hne
    obtain ⟨a, b, d⟩ := h.ent p hp
    refine ⟨a, b, ?_⟩
    simpa [Led.sent, hne] using d
  have e2 : (spentConn c sid pb (spendN pb.body pb.window c.connWindow)).pending = eraseA c.pending sid ∨
      (spentConn c sid pb (spendN pb.body pb.window c.connWindow)).pending = insertA c.pending sid (pb.spent (spendN pb.body pb.window c.connWindow)) := by
    unfold spentConn
    cases (!(pb.spent (spendN pb.body pb.window c.connWindow)).hasMore)
    · exact .inr rfl
    · exact .inl rfl
  constructor
  · refine ⟨h.iws, h.iwsR, rng_spend hR _ n2, ?_, ?_, ?_, ?_, ?_, h.mfs, h.outQ⟩
    · show c.connWindow - _ ≤ _
      simp only [Led.sent]; omega
    · simp only [Led.sent]
      by_cases hk0 : k = 0
      · omega
      · unfold Rng at hR; omega
    · rcases e2 with e2 | e2 <;> rw [e2]
      · exact sortedA_eraseA h.sorted _
      · exact sortedA_insertA h.sorted _ _
    · intro p hp
      rcases e2 with e2 | e2 <;> rw [e2] at hp
      · obtain ⟨hp1, hp2⟩ := mem_eraseA.mp hp
        exact other p hp1 hp2
      · rcases (mem_insertA h.sorted _ _ p).mp hp with rfl | ⟨hp1, hp2⟩
        · refine ⟨rng_spend e.rng _ n1, e.below, ?_⟩
          refine wok_spend e.wok _ n1 h.iwsR.2 ?_
          simp only [Led.sent, if_true]
          omega
        · exact other p hp1 hp2
    · intro s hs
      have hne : s ≠ sid := by have := e.below; show s ≠ sid; have : c.nextID ≤ s := hs; omega
      simp only [Led.sent, hne, if_false, Nat.add_zero]
      exact h.fresh s hs
  · intro hk0
    have := e.wok.le
    omega

theorem fl_deletePending {g : Led} {c : Conn} (h : FL g c) (sid : Nat) : FL g (deletePending c sid) :=
  h.winRel ⟨eraseA_sublist _ _, rfl, rfl, rfl, rfl, fun _ hf => .inl hf⟩

/-! ## steps of the write loop against the ledgers -/

/-- every stream's DATA among `fs` fits what the stream was allowed when `fs` was written -/
def Emit (g : Led) (fs : List OutFrame) : Prop :=
  ∀ sid, 0 < dataOn sid fs → (g.strSent sid + dataOn sid fs : Int) ≤ g.iws + g.strInc sid

/-- what a piece of the write loop establishes: the ledgers moved by the frames it wrote match the windows it left,
each stream's DATA was within the stream's allowance, no DATA frame is longer than `m` -/
def WrOK (g : Led) (m : Nat) (res : Conn × List OutFrame) : Prop :=
  FL (g.wrote res.2) res.1 ∧ Emit g res.2 ∧ (∀ f ∈ res.2, dataLen f ≤ m)

theorem wrOK_nil {g : Led} {c : Conn} (m : Nat) (h : FL g c) : WrOK g m (c, []) := by
  refine ⟨by rw [Led.wrote_nil]; exact h, fun s hs => absurd hs (by simp [dataOn]), fun f hf => nomem hf⟩

theorem WrOK.append {g : Led} {m : Nat} {c1 c2 : Conn} {a b : List OutFrame} (h1 : WrOK g m (c1, a))
    (h2 : WrOK (g.wrote a) m (c2, b)) : WrOK g m (c2, a ++ b) := by
  obtain ⟨_, e1, s1⟩ := h1
  obtain ⟨f2, e2, s2⟩ := h2
  refine ⟨by rw [← Led.wrote_append]; exact f2, ?_, ?_⟩
  · intro sid hs
    simp only at hs ⊢
    rw [dataOn_append] at hs ⊢
    by_cases hb : 0 < dataOn sid b
    · have := e2 sid hb
      simp only [Led.wrote] at this
      omega
    · have h0 : dataOn sid b = 0 := by omega
      rw [h0] at hs ⊢
      have := e1 sid (by simpa using hs)
      simp only at this
      omega
  · intro f hf
    rcases List.mem_append.mp hf with hf | hf
    · exact s1 f hf
    · exact s2 f hf

theorem WrOK.pad {g : Led} {m : Nat} {c : Conn} {b : List OutFrame} (h : WrOK g m (c, b)) {a d : List OutFrame}
    (ha : NoDat a) (hd : NoDat d) : WrOK g m (c, a ++ b ++ d) := by
  obtain ⟨f1, e1, s1⟩ := h
  have hw : g.wrote (a ++ b ++ d) = g.wrote b := by
    rw [← Led.wrote_append, ← Led.wrote_append, Led.wrote_noDat g ha, Led.wrote_noDat _ hd]
  refine ⟨by rw [hw]; exact f1, ?_, ?_⟩
  · intro sid hs
    simp only [dataOn_append, noDat_on ha, noDat_on hd, Nat.zero_add, Nat.add_zero] at hs ⊢
    exact e1 sid hs
  · intro f hf
    simp only [List.mem_append] at hf
    rcases hf with (hf | hf) | hf
    · rw [ha f hf]; exact Nat.zero_le _
    · exact s1 f hf
    · rw [hd f hf]; exact Nat.zero_le _

theorem wrOK_spend {g : Led} {c : Conn} (h : FL g c) {sid : Nat} {pb : Pending} (hm : (sid, pb) ∈ c.pending) (e : Bool) :
    WrOK g c.maxFrameSize
      (spentConn c sid pb (spendN pb.body pb.window c.connWindow), writeData (spentConn c sid pb (spendN pb.body pb.window c.connWindow)) sid (spendN pb.body pb.window c.connWindow) e) := by
  have wd := writeData_spec (spentConn c sid pb (spendN pb.body pb.window c.connWindow)) sid (spendN pb.body pb.window c.connWindow) e h.mfs
  have ao : AllOn sid (writeData (spentConn c sid pb (spendN pb.body pb.window c.connWindow)) sid (spendN pb.body pb.window c.connWindow) e) := writeData_data _ _ _ _
  have full := fl_spend h hm _ (Nat.le_refl _)
  refine ⟨by rw [Led.wrote_allOn g ao, wd.1]; exact full.1, ?_, wd.2⟩
  intro s hs
  by_cases es : s = sid
  · subst es
    simp only [wd.1] at hs ⊢
    exact full.2 hs
  · rw [allOn_other ao s es] at hs; omega

theorem sendPending_wrOK (fuel : Nat) (g : Led) (c : Conn) (sid : Nat) (h : FL g c) :
    WrOK g c.maxFrameSize (sendPending fuel c sid) := by
  refine sendPending_cases sid (fun c res => ∀ g, FL g c → WrOK g c.maxFrameSize res)
    ?_ ?_ ?_ ?_ ?_ ?_ ?_ fuel c g h
  · intro c g h; exact wrOK_nil _ h
  · -- the body cannot be read: dropped, RST_STREAM queued
    intro c pb _ _ g h
    exact wrOK_nil _ ((fl_deletePending h sid).winRel (quiet_queueOut (deletePending c sid) _ rfl).winRel)
  · intro c pb pb' res hl hrf ih g h
    have hw := refill_window hrf
    have e := h.ent (sid, pb) (lookupA_mem hl)
    refine ih g ⟨h.iws, h.iwsR, h.connR, h.conn, h.connLe, sortedA_insertA h.sorted _ _, ?_, h.fresh, h.mfs, h.outQ⟩
    intro p hp
    rcases (mem_insertA h.sorted _ _ p).mp hp with rfl | ⟨hp1, _⟩
    · exact ⟨by rw [hw]; exact e.rng, e.below, by rw [hw]; exact e.wok⟩
    · obtain ⟨a, b, d⟩ := h.ent p hp1
      exact ⟨a, b, d⟩
  · intro c pb n hl hn g h
    subst hn
    have := (fl_spend h (lookupA_mem hl) 0 (Nat.zero_le _)).1
    rw [Led.sent_zero] at this
    exact wrOK_nil _ this
  · intro c pb n hl hn g h
    subst hn
    have := (fl_spend h (lookupA_mem hl) 0 (Nat.zero_le _)).1
    rw [Led.sent_zero] at this
    exact wrOK_nil _ (fl_deletePending this sid)
  · intro c pb n hl hn _ g h; subst hn; exact wrOK_spend h (lookupA_mem hl) true
  · intro c pb n res hl hn _ ih g h
    subst hn
    have w := wrOK_spend h (lookupA_mem hl) false
    exact w.append (ih _ w.1)

theorem sendPending_mfs (fuel : Nat) (c : Conn) (sid : Nat) : (sendPending fuel c sid).1.maxFrameSize = c.maxFrameSize := by
  obtain ⟨p, w, q, hs, -⟩ := sendPending_shape fuel c sid; rw [hs]

theorem flushPending_wrOK (g : Led) (c : Conn) (h : FL g c) : WrOK g c.maxFrameSize (flushPending c) := by
  refine (flushPending_induct (Q := fun res => WrOK g c.maxFrameSize res ∧ res.1.maxFrameSize = c.maxFrameSize) c ?_ ?_).1
  · intro a
    exact ⟨wrOK_nil _ (h.winRel (winRel_same rfl rfl rfl rfl rfl (.inl rfl))), rfl⟩
  · intro acc sid ⟨hw, hm⟩
    have h2 := sendPending_wrOK 100000 (g.wrote acc.2) acc.1 sid hw.1
    rw [hm] at h2
    exact ⟨WrOK.append (c1 := acc.1) hw h2, by rw [sendPending_mfs, hm]⟩

theorem flushPending_mfs (c : Conn) : (flushPending c).1.maxFrameSize = c.maxFrameSize := by
  obtain ⟨p, w, q, a, hs, -⟩ := flushPending_shape c; rw [hs]

theorem drain_wrOK (g : Led) (c : Conn) (h : FL g c) : WrOK g c.maxFrameSize (drain c) := by
  rw [drain_eq]
  split
  · have h1 : FL g { c with outQ := [], winTok := false } :=
      h.winRel (winRel_same rfl rfl rfl rfl rfl (.inr rfl))
    have h2 := flushPending_wrOK g _ h1
    have h3 : WrOK g c.maxFrameSize
        ({ (flushPending { c with outQ := [], winTok := false }).1 with outQ := [] },
          (flushPending { c with outQ := [], winTok := false }).2) :=
      ⟨h2.1.winRel (winRel_same rfl rfl rfl rfl rfl (.inr rfl)), h2.2.1, h2.2.2⟩
    exact h3.pad h.outQ h2.1.outQ
  · have h1 : WrOK g c.maxFrameSize ({ c with outQ := [] }, []) :=
      wrOK_nil _ (h.winRel (winRel_same rfl rfl rfl rfl rfl (.inr rfl)))
    exact h1.pad h.outQ (fun _ hf => nomem hf)

theorem drain_mfs (c : Conn) : (drain c).1.maxFrameSize = c.maxFrameSize := by
  obtain ⟨p, w, a, _, _, hs, -⟩ := drain_shape c; rw [hs]

theorem WrOK.cons {g : Led} {m : Nat} {c : Conn} {b : List OutFrame} (h : WrOK g m (c, b)) (f : OutFrame)
    (hf : dataLen f = 0) : WrOK g m (c, f :: b) := by
  have := h.pad (a := [f]) (d := []) (fun x hx => by simp only [List.mem_singleton] at hx; rw [hx]; exact hf)
    (fun _ hx => nomem hx)
  simpa using this

/-- a new stream starts with the INITIAL_WINDOW_SIZE in force and nothing sent -/
theorem writeRequest_wrOK (g : Led) (c : Conn) (r : ReqSpec) (h : FL g c) : WrOK g c.maxFrameSize (writeRequest c r) := by
  rw [writeRequest_eq]
  split
  · exact wrOK_nil _ (h.winRel (winRel_same rfl rfl rfl rfl rfl (.inl rfl)))
  · have entUp : ∀ p ∈ c.pending, ∀ c' : Conn, c'.nextID = c.nextID + 2 → EntOK g c' p.1 p.2 := by
      intro p hp c' hn
      obtain ⟨a, b, d⟩ := h.ent p hp
      exact ⟨a, by rw [hn]; omega, d⟩
    split
    · -- no body
      refine WrOK.cons (wrOK_nil _ ?_) _ rfl
      exact ⟨h.iws, h.iwsR, h.connR, h.conn, h.connLe, h.sorted, fun p hp => entUp p hp _ rfl,
        fun sid hs => h.fresh sid (by simp only [wrOpen, updReq] at hs; omega), h.mfs, h.outQ⟩
    · rename_i pb hpb
      have hwin : pb.window = g.iws := by
        rw [← h.iws]
        unfold wrPending at hpb
        split at hpb
        · cases hpb
        · simp only [Option.some.injEq] at hpb; rw [← hpb]
        · simp only [Option.some.injEq] at hpb; rw [← hpb]
      have h1 : FL g { wrOpen c r with pending := insertA c.pending c.nextID pb } := by
        refine ⟨h.iws, h.iwsR, h.connR, h.conn, h.connLe, sortedA_insertA h.sorted _ _, ?_,
          fun sid hs => h.fresh sid (by simp only [wrOpen, updReq] at hs; omega), h.mfs, h.outQ⟩
        intro p hp
        rcases (mem_insertA h.sorted _ _ p).mp hp with rfl | ⟨hp1, _⟩
        · refine ⟨?_, by simp only [wrOpen, updReq]; omega, ?_⟩
          · simp only; rw [hwin]; have := h.iwsR; unfold Rng; omega
          · simp only; rw [hwin, h.fresh c.nextID (Nat.le_refl _)]
            exact wok_new g.iws (g.strInc c.nextID)
        · exact entUp p hp1 _ rfl
      have h2 : WrOK g c.maxFrameSize
          ((sendPending 100000 { wrOpen c r with pending := insertA c.pending c.nextID pb } c.nextID).1,
           (sendPending 100000 { wrOpen c r with pending := insertA c.pending c.nextID pb } c.nextID).2) :=
        sendPending_wrOK 100000 g _ c.nextID h1
      exact WrOK.cons h2 _ rfl

theorem writeRequest_mfs (c : Conn) (r : ReqSpec) : (writeRequest c r).1.maxFrameSize = c.maxFrameSize :=
  (ctl_writeRequest c r).maxFrameSize

/-! ## the read loop against the ledgers -/

theorem fl_addWindow_conn {g : Led} {c : Conn} (h : FL g c) (inc : Nat) :
    FL { g with connInc := g.connInc + inc } (addWindow c 0 inc) := by
  have hR := h.connR
  have h1 := h.conn
  have h2 := h.connLe
  have hle : addWin c.connWindow inc ≤ c.connWindow + inc := Flow.wrap32_le (by unfold Rng at hR; omega)
  refine ⟨h.iws, h.iwsR, Flow.wrap32_range _, ?_, ?_, h.sorted, ?_, h.fresh, h.mfs, h.outQ⟩
  · show addWin c.connWindow inc ≤ _
    simp only; omega
  · simp only; omega
  · intro p hp
    obtain ⟨a, b, d⟩ := h.ent p hp
    exact ⟨a, b, d⟩

theorem fl_addWindow_stream {g : Led} {c : Conn} (h : FL g c) (sid inc : Nat) (hs : sid ≠ 0) :
    FL { g with strInc := bump g.strInc sid inc } (addWindow c sid inc) := by
  have h0 : (sid == 0) = false := by simpa using hs
  simp only [addWindow, h0, Bool.false_eq_true, if_false]
  refine ⟨h.iws, h.iwsR, h.connR, h.conn, h.connLe, ?_, ?_, h.fresh, h.mfs, h.outQ⟩
  · exact sortedA_map h.sorted _ (fun p => by split <;> rfl)
  · intro p' hp'
    simp only [List.mem_map] at hp'
    obtain ⟨p, hp, rfl⟩ := hp'
    obtain ⟨a, b, d⟩ := h.ent p hp
    by_cases hk : p.1 = sid
    · have hk' : (p.1 == sid) = true := by simpa using hk
      simp only [hk', if_true]
      refine ⟨Flow.wrap32_range _, b, ?_⟩
      have := wok_wu d a inc
      simpa [bump, hk, addWin, Int.add_sub_assoc, Int.add_assoc, Int.add_comm, Int.add_left_comm] using
        this.mono (by simp only [hk]; omega)
    · have hk' : (p.1 == sid) = false := by simpa using hk
      simp only [hk', Bool.false_eq_true, if_false]
      refine ⟨a, b, ?_⟩
      simpa [bump, hk] using d

theorem fl_applyInitialWindow {g : Led} {c : Conn} (h : FL g c) (size : Nat) (hsz : size ≤ 2147483647) :
    FL { g with iws := size } (applyInitialWindow c size) := by
  simp only [applyInitialWindow]
  refine ⟨rfl, ⟨by simp only; omega, by simp only; omega⟩, h.connR, h.conn, h.connLe, ?_, ?_, h.fresh, h.mfs, h.outQ⟩
  · exact sortedA_map h.sorted _ (fun p => rfl)
  · intro p' hp'
    simp only [List.mem_map] at hp'
    obtain ⟨p, hp, rfl⟩ := hp'
    obtain ⟨a, b, d⟩ := h.ent p hp
    refine ⟨Flow.wrap32_range _, b, ?_⟩
    have := wok_settings (new := (size : Int)) d a h.iwsR ⟨by omega, by omega⟩
    rw [h.iws]
    exact this.mono (by simp only; omega)

theorem applyPairs_mfs (ps : List (Nat × Nat)) : ∀ c : Conn, MfsOK c.maxFrameSize →
    (∀ p ∈ ps, p.1 = Gen.c_MaxFrameSize → 16384 ≤ p.2 ∧ p.2 ≤ 16777215) → MfsOK (applyPairs c ps).maxFrameSize := by
  induction ps with
  | nil => intro c h _; exact h
  | cons x xs ih =>
    intro c h hp
    obtain ⟨k, v⟩ := x
    have hx := fun p hp' => hp p (List.mem_cons_of_mem _ hp')
    simp only [applyPairs]
    split
    · exact ih _ h hx
    · split
      · exact ih _ h hx
      · split
        · rename_i hk
          exact ih _ (hp (k, v) (List.mem_cons_self ..) (by simpa using hk)) hx
        · exact ih _ h hx

theorem fl_handleSettings {g : Led} {c : Conn} (h : FL g c) (s : Frame.SettingsVal) (hok : SettingsOK s) :
    FL (if s.hasWindowSize then { g with iws := s.windowSize } else g) (handleSettings c s) := by
  rw [handleSettings_eq]
  have hm := applyPairs_mfs s.pairs c h.mfs hok.pairs
  obtain ⟨a, b, d, h1⟩ := applyPairs_shape s.pairs c
  rw [h1] at hm ⊢
  obtain ⟨e, f, k, h2⟩ := noteTableSizes_shape s.pairs { c with srvTableSize := a, maxStreams := b, maxFrameSize := d }
  rw [h2]
  have h3 : FL g { c with srvTableSize := a, maxStreams := b, maxFrameSize := d, encTableMin := e, encTableSize := f,
                          encTableSet := k } :=
    ⟨h.iws, h.iwsR, h.connR, h.conn, h.connLe, h.sorted, fun p hp => by obtain ⟨x, y, z⟩ := h.ent p hp; exact ⟨x, y, z⟩,
      h.fresh, hm, h.outQ⟩
  split
  · exact (fl_applyInitialWindow h3 s.windowSize hok.win).winRel (quiet_queueOut _ _ rfl).winRel
  · exact h3.winRel (quiet_queueOut _ _ rfl).winRel

theorem rdFrame_fl {g : Led} {c : Conn} (h : FL g c) (f : Frame.Frame) (hok : FrameOK f) :
    FL (g.recv f) (rdFrame c f).1 := by
  by_cases hs : f.stream = 0
  · have hs' : (f.stream == 0) = true := by simpa using hs
    cases hb : f.body with
    | settings s =>
      simp only [rdFrame, Led.recv, hs', hb, if_true, Bool.true_and]
      cases ha : s.ack with
      | true => simpa using h
      | false =>
        simp only [Bool.false_eq_true, if_false, Bool.not_false, Bool.true_and]
        exact fl_handleSettings h s (hok s hb)
    | windowUpdate inc =>
      simp only [rdFrame, Led.recv, hs', hb, if_true]
      exact fl_addWindow_conn h inc
    | ping a d =>
      simp only [rdFrame, Led.recv, hs', hb, if_true]
      split
      · exact h
      · exact h.winRel (quiet_queueOut _ _ rfl).winRel
    | goAway last code d =>
      simp only [rdFrame, Led.recv, hs', hb, if_true]
      split
      · exact (FL.winRel (c' := { c with goAway := true }) h (winRel_same rfl rfl rfl rfl rfl (.inl rfl))).winRel
          (quiet_setLastErr _ _).winRel
      · exact (FL.winRel (c' := { c with goAway := true, closeRef := last, stateClosed := true }) h
          (winRel_same rfl rfl rfl rfl rfl (.inl rfl))).winRel (quiet_refuseAbove _ _).winRel
    | _ => simp only [rdFrame, Led.recv, hs', hb, if_true]; exact h
  · have hs' : (f.stream == 0) = false := by simpa using hs
    have loop : ∀ c1 : Conn, FL g c1 → FL g (dispatchLoop c1 f).1 := fun c1 h1 => h1.winRel (quiet_dispatchLoop c1 f).winRel
    cases hb : f.body with
    | windowUpdate inc =>
      simp only [rdFrame, Led.recv, hs', hb, Bool.false_eq_true, if_false]
      exact (fl_addWindow_stream h f.stream inc hs).winRel (quiet_dispatchLoop _ f).winRel
    | pushPromise a b d =>
      simp only [rdFrame, Led.recv, hs', hb, Bool.false_eq_true, if_false]
      exact h.winRel (quiet_setLastErr _ _).winRel
    | data e d =>
      simp only [rdFrame, Led.recv, hs', hb, Bool.false_eq_true, if_false]
      exact loop _ (h.winRel (quiet_consumeConnWindow _ _).winRel)
    | settings s =>
      simp only [rdFrame, Led.recv, hs', hb, Bool.false_eq_true, if_false, Bool.false_and]
      exact loop _ h
    | _ => simp only [rdFrame, Led.recv, hs', hb, Bool.false_eq_true, if_false]; exact loop _ h

/-- the ledgers after the frames the read loop goes through (it stops as `rdFrames` stops) -/
def recvFrames : List RdFrame → Conn → Led → Led
  | [], _, g => g
  | .unknown :: fs, c, g => recvFrames fs c g
  | .bad _ _ :: _, _, g => g
  | .frame f :: fs, c, g =>
    if c.stuck then g
    else if (rdFrame c f).2 then g.recv f else recvFrames fs (rdFrame c f).1 (g.recv f)

theorem rdFrames_fl (fs : List RdFrame) : ∀ (g : Led) (c : Conn), FL g c → (∀ f, .frame f ∈ fs → FrameOK f) →
    FL (recvFrames fs c g) (rdFrames fs c).1 := by
  induction fs with
  | nil => intro g c h _; exact h
  | cons x xs ih =>
    intro g c h hok
    have hok' : ∀ f, .frame f ∈ xs → FrameOK f := fun f hf => hok f (List.mem_cons_of_mem _ hf)
    cases x with
    | unknown => simp only [rdFrames, recvFrames]; exact ih g c h hok'
    | bad a b => simp only [rdFrames, recvFrames]; exact h.winRel (quiet_setLastErr _ _).winRel
    | frame f =>
      rw [rdFrames_cons_frame]
      simp only [recvFrames]
      have h1 := rdFrame_fl h f (hok f (List.mem_cons_self ..))
      split
      · exact h
      · split
        · exact h1
        · exact ih _ _ h1 hok'

/-! ## one step of the connection, the ledgers beside it -/

def outFrames : StepOut → List OutFrame
  | .frames fs => fs
  | _ => []

def recvEvent (g : Led) (c : Conn) : Event → Led
  | .bytes b => if c.stuck || c.dead then g else recvFrames (bytesSplit c b).1 { c with rdBuf := (bytesSplit c b).2 } g
  | _ => g

/-- the ledgers after the step: what was received, then what was written -/
def gstep (g : Led) (c : Conn) (ev : Event) : Led := (recvEvent g c ev).wrote (outFrames (step c ev).2)

/-- what one step establishes: `WrOK` of its frames against the ledgers as they are after what it received -/
def StepOK (g : Led) (c : Conn) (ev : Event) : Prop :=
  WrOK (recvEvent g c ev) (step c ev).1.maxFrameSize ((step c ev).1, outFrames (step c ev).2)

theorem winRel_dieWith (c : Conn) (e : Err) : WinRel c (dieWith c e) := by
  obtain ⟨l, hs⟩ := dieWith_shape c e
  rw [hs]; exact winRel_same rfl rfl rfl rfl rfl (.inr rfl)

/-! ### the expansion of queued HEADERS frames into the frames of their blocks carries no DATA -/

theorem contFrames_noDat (sid : Nat) (fl : List (Bytes × Bytes)) (ls : List Nat) : NoDat (contFrames sid fl ls) := by
  induction ls with
  | nil => exact fun f hf => nomem hf
  | cons l ls ih =>
    intro f hf
    simp only [contFrames, List.mem_cons] at hf
    rcases hf with rfl | hf
    · rfl
    · exact ih f hf

theorem headerFrames_noDat (sid : Nat) (es : Bool) (fl : List (Bytes × Bytes)) (ls : List Nat) :
    NoDat (headerFrames sid es fl ls) := by
  cases ls with
  | nil => exact fun f hf => nomem hf
  | cons l ls =>
    intro f hf
    simp only [headerFrames, List.mem_cons] at hf
    rcases hf with rfl | hf
    · split <;> rfl
    · exact contFrames_noDat sid fl ls f hf

theorem wireFrames_data (fs : List OutFrame) : ∀ c : Conn,
    (∀ sid, dataOn sid (wireFrames c fs) = dataOn sid fs) ∧ dataAll (wireFrames c fs) = dataAll fs ∧
    (∀ f ∈ wireFrames c fs, dataLen f = 0 ∨ f ∈ fs) := by
  induction fs with
  | nil => intro c; exact ⟨fun _ => rfl, rfl, fun f hf => nomem hf⟩
  | cons x xs ih =>
    intro c
    have keep : ∀ c' : Conn, wireFrames c (x :: xs) = x :: wireFrames c' xs →
        (∀ sid, dataOn sid (wireFrames c (x :: xs)) = dataOn sid (x :: xs)) ∧
        dataAll (wireFrames c (x :: xs)) = dataAll (x :: xs) ∧
        (∀ f ∈ wireFrames c (x :: xs), dataLen f = 0 ∨ f ∈ x :: xs) := by
      intro c' e
      obtain ⟨i1, i2, i3⟩ := ih c'
      rw [e]
      refine ⟨?_, by simp only [dataAll, i2], ?_⟩
      · intro sid; cases x <;> simp only [dataOn, i1 sid]
      · intro f hf
        simp only [List.mem_cons] at hf
        rcases hf with rfl | hf
        · exact .inr (List.mem_cons_self ..)
        · rcases i3 f hf with h | h
          · exact .inl h
          · exact .inr (List.mem_cons_of_mem _ h)
    cases x with
    | headers sid es fl =>
      obtain ⟨i1, i2, i3⟩ := ih (encodeHeaders c fl).1
      have hn := headerFrames_noDat sid es fl (blockLens (frameStep c) (encodeHeaders c fl).2)
      simp only [wireFrames]
      refine ⟨?_, ?_, ?_⟩
      · intro s; rw [dataOn_append, noDat_on hn, i1 s]; simp [dataOn]
      · rw [dataAll_append, noDat_all hn, i2]; simp [dataAll, dataLen]
      · intro f hf
        rcases List.mem_append.mp hf with hf | hf
        · exact .inl (hn f hf)
        · rcases i3 f hf with h | h
          · exact .inl h
          · exact .inr (List.mem_cons_of_mem _ h)
    | _ => exact keep c rfl

theorem Led.wrote_wire (g : Led) (c : Conn) (fs : List OutFrame) : g.wrote (wireFrames c fs) = g.wrote fs := by
  obtain ⟨i1, i2, _⟩ := wireFrames_data fs c
  simp only [Led.wrote, i2]
  congr 1
  funext s; rw [i1 s]

/-- the frames reach the transport (the ledgers move) or the connection ends on the write error (they do not) -/
theorem afterWrites_ok {g : Led} {m : Nat} {c : Conn} {fs : List OutFrame} (h : WrOK g m (c, fs)) (hm : c.maxFrameSize = m) :
    WrOK g (afterWrites c fs).1.maxFrameSize ((afterWrites c fs).1, outFrames (afterWrites c fs).2) := by
  obtain ⟨h1, h2, h3⟩ := h
  unfold WrOK
  rcases afterWrites_cases c fs with ⟨e, s, b, hh⟩ | ⟨e, s, hh⟩
  · rw [hh]
    obtain ⟨i1, _, i3⟩ := wireFrames_data fs c
    simp only [outFrames]
    rw [Led.wrote_wire]
    refine ⟨h1.winRel (winRel_same rfl rfl rfl rfl rfl (.inl rfl)), ?_, ?_⟩
    · intro sid hs
      rw [i1 sid] at hs ⊢
      exact h2 sid hs
    · intro f hf
      rw [show _ = m from hm]
      rcases i3 f hf with h0 | hm'
      · rw [h0]; exact Nat.zero_le _
      · exact h3 f hm'
  · rw [hh]
    simp only [outFrames]
    rw [Led.wrote_nil]
    refine ⟨?_, fun s hs => absurd hs (by simp [dataOn]), fun f hf => nomem hf⟩
    exact (h1.forget.winRel (winRel_same (c' := { c with enc := e, encTableSet := s }) rfl rfl rfl rfl rfl (.inl rfl))).winRel
      (winRel_dieWith _ _)

theorem step_fl (g : Led) (c : Conn) (ev : Event) (h : FL g c) : StepOK g c ev := by
  -- nothing is written, no window moves (`g'`: the ledgers after what was received)
  have quiet : ∀ (g' : Led) (c0 c' : Conn), FL g' c0 → WinRel c0 c' → WrOK g' c'.maxFrameSize (c', []) :=
    fun g' c0 c' h0 hw => wrOK_nil _ (h0.winRel hw)
  unfold StepOK
  refine step_cases c ev (step c ev) rfl ?_ ?_ ?_ ?_ ?_ ?_ ?_ ?_ ?_
  · intro hs _
    have hr : recvEvent g c ev = g := by cases ev <;> simp [recvEvent, hs]
    rw [hr]; exact quiet g c c h (WinRel.refl c)
  · intro o ho _ hd
    have hr : recvEvent g c ev = g := by
      cases ev with
      | bytes b => simp [recvEvent, hd b rfl]
      | _ => rfl
    have hf : outFrames o = [] := by cases o <;> first | rfl | exact ho
    rw [hr]; show WrOK g c.maxFrameSize (c, outFrames o)
    rw [hf]; exact quiet g c c h (WinRel.refl c)
  · intro tag r e he _ _ _; subst he
    exact quiet g c _ h (winRel_same rfl rfl rfl rfl rfl (.inl rfl))
  · intro r he _ _; subst he
    exact quiet g c _ h (winRel_same rfl rfl rfl rfl rfl (.inl rfl))
  · intro r he _ _; subst he
    have h0 : FL g (withReq c r.tag) := h.winRel (winRel_same rfl rfl rfl rfl rfl (.inl rfl))
    have w1 : WrOK g c.maxFrameSize ((writeRequest (withReq c r.tag) r).1, (writeRequest (withReq c r.tag) r).2) :=
      writeRequest_wrOK g _ r h0
    have w2 : WrOK (g.wrote (writeRequest (withReq c r.tag) r).2) c.maxFrameSize
        ((drain (writeRequest (withReq c r.tag) r).1).1, (drain (writeRequest (withReq c r.tag) r).1).2) := by
      have := drain_wrOK _ _ w1.1
      rw [writeRequest_mfs] at this
      exact this
    exact afterWrites_ok (w1.append w2) (by rw [drain_mfs, writeRequest_mfs]; rfl)
  · intro b he hst hd; subst he
    have hr : recvEvent g c (.bytes b) = recvFrames (bytesSplit c b).1 { c with rdBuf := (bytesSplit c b).2 } g := by
      simp [recvEvent, hst, hd]
    have h0 : FL g { c with rdBuf := (bytesSplit c b).2 } := h.winRel (winRel_same rfl rfl rfl rfl rfl (.inl rfl))
    have h1 : FL (recvEvent g c (.bytes b)) (bytesRead c b).1 := by
      rw [hr]; exact rdFrames_fl _ g _ h0 (splitFrames_ok _ _)
    exact ⟨quiet _ _ _ h1 (WinRel.refl _),
      quiet _ _ _ h1 ((winRel_dieWith _ .eof).trans (winRel_same rfl rfl rfl rfl rfl (.inl rfl))),
      quiet _ _ _ h1 (winRel_dieWith _ .eof), afterWrites_ok (drain_wrOK _ _ h1) (drain_mfs _)⟩
  · intro tag r he _ _; subst he
    have k1 : WinRel c (gaveUp c tag r.sid) := (quiet_gaveUp c tag r.sid).winRel
    refine ⟨?_, fun _ _ => ⟨quiet g c _ h k1, afterWrites_ok (WrOK.cons (wrOK_nil _ (h.winRel k1)) _ rfl) k1.maxFrameSize⟩⟩
    have : outFrames (if c.dead = true then StepOut.dead else .frames []) = [] := by split <;> rfl
    show WrOK g _ (_, outFrames _)
    rw [this]; exact quiet g c _ h (winRel_same rfl rfl rfl rfl rfl (.inl rfl))
  · intro he _
    have hr : recvEvent g c ev = g := by rcases he with he | he <;> subst he <;> rfl
    rw [hr]; exact quiet g c _ h (winRel_dieWith _ _)
  · intro n he _; subst he
    exact quiet g c _ h (winRel_same rfl rfl rfl rfl rfl (.inl rfl))

/-! ## runs -/

def grun : Led → Conn → List Event → Led × Conn
  | g, c, [] => (g, c)
  | g, c, e :: es => grun (gstep g c e) (step c e).1 es

def GAll (P : Led → Conn → Event → Prop) : Led → Conn → List Event → Prop
  | _, _, [] => True
  | g, c, e :: es => P g c e ∧ GAll P (gstep g c e) (step c e).1 es

theorem grun_conn : ∀ (evs : List Event) (g : Led) (c : Conn), (grun g c evs).2 = (run c evs).1 := by
  intro evs
  induction evs with
  | nil => intros; rfl
  | cons e es ih => intro g c; simp only [grun, run_cons]; exact ih _ _

theorem gall_stepOK : ∀ (evs : List Event) (g : Led) (c : Conn), FL g c → GAll StepOK g c evs := by
  intro evs
  induction evs with
  | nil => intros; trivial
  | cons e es ih => intro g c h; exact ⟨step_fl g c e h, ih _ _ (step_fl g c e h).1⟩

theorem grun_fl : ∀ (evs : List Event) (g : Led) (c : Conn), FL g c → FL (grun g c evs).1 (grun g c evs).2 := by
  intro evs
  induction evs with
  | nil => intro g c h; exact h
  | cons e es ih => intro g c h; exact ih _ _ (step_fl g c e h).1

theorem GAll.imp {P Q : Led → Conn → Event → Prop} (hpq : ∀ g c e, P g c e → Q g c e) :
    ∀ (evs : List Event) (g : Led) (c : Conn), GAll P g c evs → GAll Q g c evs := by
  intro evs
  induction evs with
  | nil => intros; trivial
  | cons e es ih => intro g c h; exact ⟨hpq _ _ _ h.1, ih _ _ h.2⟩

/-! ### the connection the driver creates -/

/-- `Init` and the values `Settings.Read` admits -/
structure InitF (c : Conn) : Prop where
  init : Init c
  win : 0 ≤ c.streamWindow ∧ c.streamWindow ≤ 2147483647
  mfs : MfsOK c.maxFrameSize

def Led.init (c : Conn) : Led := { iws := c.streamWindow }

theorem fl_init {c : Conn} (h : InitF c) : FL (Led.init c) c := by
  have i := h.init
  refine ⟨rfl, h.win, ?_, ?_, ?_, ?_, ?_, fun _ _ => rfl, h.mfs, ?_⟩
  · rw [i.connWindow]; unfold Rng; omega
  · rw [i.connWindow]; simp [Led.init]
  · simp [Led.init]
  · rw [i.pending]; exact sortedA_nil
  · rw [i.pending]; exact fun p hp => nomem hp
  · rw [i.outQ]; exact fun f hf => nomem hf

theorem initF_default : InitF {} := ⟨init_default, by decide, by unfold MfsOK; decide⟩

theorem handshake_initF {b : Bytes} {c : Conn} (h : Drv.handshake b = some c) : InitF c := by
  have hi := handshake_init h
  rcases handshake_cases h with rfl | ⟨f, s, hf, hb, rfl⟩
  · exact initF_default
  · have ok := splitFrames_ok 2 b f hf s hb
    exact ⟨hi, ⟨Int.natCast_nonneg _, by have := ok.win; show (s.windowSize : Int) ≤ _; omega⟩, ok.frame⟩

/-! ### the ledgers of a run: what the read loop went through, then what was written -/

/-- the frames `rdFrames` hands to `rdFrame`, in order (it stops where `rdFrames` stops) -/
def taken : List RdFrame → Conn → List Frame.Frame
  | [], _ => []
  | .unknown :: fs, c => taken fs c
  | .bad _ _ :: _, _ => []
  | .frame f :: fs, c => if c.stuck then [] else f :: (if (rdFrame c f).2 then [] else taken fs (rdFrame c f).1)

theorem recvFrames_eq (fs : List RdFrame) : ∀ (c : Conn) (g : Led), recvFrames fs c g = (taken fs c).foldl Led.recv g := by
  induction fs with
  | nil => intros; rfl
  | cons x xs ih =>
    intro c g
    cases x with
    | unknown => exact ih c g
    | bad a b => rfl
    | frame f =>
      simp only [recvFrames, taken]
      split
      · rfl
      · split
        · rfl
        · simp only [List.foldl_cons]; exact ih _ _

def stepTaken (c : Conn) : Event → List Frame.Frame
  | .bytes b => if c.stuck || c.dead then [] else taken (bytesSplit c b).1 { c with rdBuf := (bytesSplit c b).2 }
  | _ => []

def runTaken : Conn → List Event → List Frame.Frame
  | _, [] => []
  | c, e :: es => stepTaken c e ++ runTaken (step c e).1 es

theorem recvEvent_eq (g : Led) (c : Conn) (ev : Event) : recvEvent g c ev = (stepTaken c ev).foldl Led.recv g := by
  cases ev with
  | bytes b =>
    simp only [recvEvent, stepTaken]
    split
    · rfl
    · exact recvFrames_eq _ _ _
  | _ => rfl

def runFrames (outs : List StepOut) : List OutFrame := outs.flatMap outFrames

/-- receiving and writing move different ledgers -/
theorem Led.recv_wrote (g : Led) (fs : List OutFrame) (f : Frame.Frame) : (g.wrote fs).recv f = (g.recv f).wrote fs := by
  unfold Led.recv
  repeat' split
  all_goals rfl

theorem foldl_recv_wrote (l : List Frame.Frame) (fs : List OutFrame) : ∀ g : Led,
    l.foldl Led.recv (g.wrote fs) = (l.foldl Led.recv g).wrote fs := by
  induction l with
  | nil => intro g; rfl
  | cons f l ih => intro g; simp only [List.foldl_cons, Led.recv_wrote, ih]

/-- the ledgers after a run are the initial ones moved by the frames the read loop went through and by the frames
written, nothing else -/
theorem grun_eq : ∀ (evs : List Event) (g : Led) (c : Conn),
    (grun g c evs).1 = ((runTaken c evs).foldl Led.recv g).wrote (runFrames (run c evs).2) := by
  intro evs
  induction evs with
  | nil => intro g c; exact (Led.wrote_nil g).symm
  | cons e es ih =>
    intro g c
    simp only [grun, run_cons, runTaken, runFrames, List.flatMap_cons, List.foldl_append]
    rw [ih, gstep, recvEvent_eq, foldl_recv_wrote, Led.wrote_append]
    rfl

theorem Led.recv_sent (g : Led) (f : Frame.Frame) : (g.recv f).connSent = g.connSent ∧ (g.recv f).strSent = g.strSent := by
  unfold Led.recv
  repeat' split
  all_goals exact ⟨rfl, rfl⟩

theorem foldl_recv_sent (l : List Frame.Frame) : ∀ g : Led,
    (l.foldl Led.recv g).connSent = g.connSent ∧ (l.foldl Led.recv g).strSent = g.strSent := by
  induction l with
  | nil => intro g; exact ⟨rfl, rfl⟩
  | cons f l ih => intro g; exact ⟨(ih _).1.trans (g.recv_sent f).1, (ih _).2.trans (g.recv_sent f).2⟩

/-- the `sent` ledgers are the DATA octets of the run's outputs, per stream and in total -/
theorem grun_sent (evs : List Event) (g : Led) (c : Conn) :
    (grun g c evs).1.connSent = g.connSent + dataAll (runFrames (run c evs).2) ∧
    ∀ sid, (grun g c evs).1.strSent sid = g.strSent sid + dataOn sid (runFrames (run c evs).2) := by
  obtain ⟨h1, h2⟩ := foldl_recv_sent (runTaken c evs) g
  rw [grun_eq]
  exact ⟨by rw [← h1]; rfl, fun sid => by rw [← h2]; rfl⟩

/-- the increment a frame carries for stream `sid` (0: the connection) -/
def wuOn (sid : Nat) (f : Frame.Frame) : Nat :=
  match f.body with
  | .windowUpdate inc => if f.stream = sid then inc else 0
  | _ => 0

theorem Led.recv_inc (g : Led) (f : Frame.Frame) :
    (g.recv f).connInc = g.connInc + wuOn 0 f ∧ ∀ sid, sid ≠ 0 → (g.recv f).strInc sid = g.strInc sid + wuOn sid f := by
  unfold Led.recv wuOn
  cases f.body with
  | windowUpdate inc =>
    simp only
    by_cases h0 : f.stream = 0
    · simp only [h0, beq_self_eq_true, if_true]
      refine ⟨trivial, fun sid hs => ?_⟩
      have : ¬ 0 = sid := fun e => hs e.symm
      simp [this]
    · have h0' : (f.stream == 0) = false := by simpa using h0
      simp only [h0', Bool.false_eq_true, if_false, h0, Nat.add_zero, true_and]
      intro sid _
      by_cases hs : sid = f.stream
      · simp [bump, hs]
      · have : ¬ f.stream = sid := fun e => hs e.symm
        simp [bump, hs, this]
  | settings s => simp only; split <;> exact ⟨rfl, fun _ _ => rfl⟩
  | _ => exact ⟨rfl, fun _ _ => rfl⟩

theorem foldl_recv_inc (fs : List Frame.Frame) : ∀ g : Led,
    (fs.foldl Led.recv g).connInc = g.connInc + (fs.map (wuOn 0)).sum ∧
    ∀ sid, sid ≠ 0 → (fs.foldl Led.recv g).strInc sid = g.strInc sid + (fs.map (wuOn sid)).sum := by
  induction fs with
  | nil => intro g; exact ⟨rfl, fun _ _ => rfl⟩
  | cons f fs ih =>
    intro g
    obtain ⟨i1, i2⟩ := ih (g.recv f)
    obtain ⟨r1, r2⟩ := g.recv_inc f
    simp only [List.foldl_cons, List.map_cons, List.sum_cons]
    exact ⟨by rw [i1, r1]; omega, fun sid hs => by rw [i2 sid hs, r2 sid hs]; omega⟩

/-- the `received` ledgers are the increments of the WINDOW_UPDATE frames the read loop went through in the run:
those on stream 0 for the connection, those on `sid` for stream `sid` -/
theorem grun_inc (evs : List Event) (g : Led) (c : Conn) :
    (grun g c evs).1.connInc = g.connInc + ((runTaken c evs).map (wuOn 0)).sum ∧
    ∀ sid, sid ≠ 0 → (grun g c evs).1.strInc sid = g.strInc sid + ((runTaken c evs).map (wuOn sid)).sum := by
  rw [grun_eq]
  exact foldl_recv_inc (runTaken c evs) g

/-- the INITIAL_WINDOW_SIZE ledger is the last value among the SETTINGS frames the read loop went through (the value
of the handshake if there was none): the fold of `Led.recv` over those frames -/
theorem grun_iws (evs : List Event) (g : Led) (c : Conn) :
    (grun g c evs).1.iws = ((runTaken c evs).foldl Led.recv g).iws := by
  rw [grun_eq]; rfl

end H2.Client
