import H2.Server.Flow
/-! Helper lemmas for C06 on the abstract send-side model: `sendData` in one specification (`SendSpec`); the invariant
`Inv` (window ledgers exact, no sendable stream left unsent) and `FinAll` (END_STREAM at most once) along `step` and `run`. -/
namespace H2.Server.Flow

def total (o : List Data) : Nat := (o.map (·.len)).sum

/-- number of DATA frames carrying END_STREAM -/
def finTotal (o : List Data) : Nat := (o.filter (·.fin)).length

structure SendSpec (s : Strm) (cw : Int) (cs : Nat) (r : Strm × Int × Nat × List Data) : Prop where
  id : r.1.id = s.id
  resp : r.1.responded = s.responded
  run : r.1.running = s.running
  granted : r.1.granted = s.granted
  sent : r.1.sent = s.sent + total r.2.2.2
  win : r.1.window = s.window - total r.2.2.2
  cw : r.2.1 = cw - total r.2.2.2
  cs : r.2.2.1 = cs + total r.2.2.2
  pend : r.1.pending + total r.2.2.2 = s.pending
  blocked : r.1.pending = 0 ∨ min r.1.window r.2.1 ≤ 0
  outs : ∀ d ∈ r.2.2.2, 0 < d.len ∧ (d.len : Int) ≤ d.availBefore ∧ d.len ≤ maxFrame
  fins : r.1.fins = s.fins + finTotal r.2.2.2
  finspec : finTotal r.2.2.2 = if 0 < s.pending ∧ r.1.pending = 0 then 1 else 0
  ids : ∀ d ∈ r.2.2.2, d.id = s.id

theorem sendData_spec (s : Strm) (cw : Int) (cs : Nat) : SendSpec s cw cs (sendData s cw cs) := by
  fun_induction sendData s cw cs with
  | case1 s cw cs h =>
    constructor <;> simp [total, finTotal, h]
  | case2 s cw cs h avail ha =>
    constructor <;> simp [total, finTotal]
    · right; exact ha
    · intro _ h0; exact absurd h0 h
  | case3 s cw cs h avail ha step hstep fin s' s'' cw' cs' outs heq ih =>
    rw [heq] at ih
    have hs : (step : Int) ≤ avail := by
      simp only [step, maxFrame]; omega
    have hm : step ≤ maxFrame := by simp only [step]; omega
    have hp : step ≤ s.pending := by simp only [step]; omega
    constructor
    · simpa [s'] using ih.id
    · simpa [s'] using ih.resp
    · simpa [s'] using ih.run
    · simpa [s'] using ih.granted
    · have := ih.sent; simp only [s'] at this; simp only [total, List.map_cons, List.sum_cons] at *; omega
    · have := ih.win; simp only [s'] at this; simp only [total, List.map_cons, List.sum_cons] at *; omega
    · have := ih.cw; simp only [total, List.map_cons, List.sum_cons] at *; omega
    · have := ih.cs; simp only [total, List.map_cons, List.sum_cons] at *; omega
    · have := ih.pend; simp only [s'] at this; simp only [total, List.map_cons, List.sum_cons] at *; omega
    · exact ih.blocked
    · intro d hd
      simp only [List.mem_cons] at hd
      rcases hd with rfl | hd
      · exact ⟨hstep, hs, hm⟩
      · exact ih.outs d hd
    · have := ih.fins
      simp only [s'] at this
      simp only [finTotal, List.filter_cons] at *
      cases hf : fin <;> simp [hf] at this ⊢ <;> omega
    · have h1 := ih.finspec
      have h2 := ih.pend
      simp only [s'] at h1 h2
      have hpos : 0 < s.pending := by omega
      simp only [finTotal, List.filter_cons] at *
      by_cases hz : s.pending - step = 0
      · have hf : fin = true := by simp [fin, hz]
        -- the recursive call starts from pending = 0: it emits nothing
        have h0 : (List.filter (fun x => x.fin) outs).length = 0 := by
          rw [h1]; simp [hz]
        have hp0 : s''.pending = 0 := by
          simp only [total] at h2; omega
        simp [hf, h0, hpos, hp0]
      · have hf : fin = false := by simp [fin, hz]
        have : (0 < s.pending - step) := by omega
        simp only [hf, Bool.false_eq_true, if_false]
        rw [h1]
        simp [this, hpos]
    · intro d hd
      simp only [List.mem_cons] at hd
      rcases hd with rfl | hd
      · rfl
      · have := ih.ids d hd; simpa [s'] using this

def Ledger (s : Strm) : Prop := s.window = s.granted - s.sent
def Blocked (cw : Int) (s : Strm) : Prop := flushable s = true → min s.window cw ≤ 0

structure Inv (st : St) : Prop where
  led : ∀ s ∈ st.strms, Ledger s
  cled : st.cw = st.cgranted - st.csent
  blk : ∀ s ∈ st.strms, Blocked st.cw s

def OutOK (o : List Data) : Prop := ∀ d ∈ o, 0 < d.len ∧ (d.len : Int) ≤ d.availBefore ∧ d.len ≤ maxFrame

theorem blocked_mono {cw cw' : Int} {s : Strm} (h : Blocked cw s) (hle : cw' ≤ cw) : Blocked cw' s := by
  intro hf; have := h hf; omega

theorem send_ledger {s : Strm} {cw : Int} {cs : Nat} (h : Ledger s) : Ledger (sendData s cw cs).1 := by
  have sp := sendData_spec s cw cs
  unfold Ledger at *
  rw [sp.win, sp.granted, sp.sent]; omega

theorem send_blocked (s : Strm) (cw : Int) (cs : Nat) :
    Blocked (sendData s cw cs).2.1 (sendData s cw cs).1 := by
  have sp := sendData_spec s cw cs
  intro hf
  rcases sp.blocked with h | h
  · simp [flushable, h] at hf
  · exact h

theorem send_cw_le (s : Strm) (cw : Int) (cs : Nat) : (sendData s cw cs).2.1 ≤ cw := by
  have sp := sendData_spec s cw cs; rw [sp.cw]; omega

theorem forall_cons {α} {q : α → Prop} {a : α} {l : List α} (ha : q a) (hl : ∀ x ∈ l, q x) : ∀ x ∈ a :: l, q x :=
  fun x hx => (List.mem_cons.mp hx).elim (fun e => e ▸ ha) (hl x)

theorem flushAll_spec (ss : List Strm) (cw : Int) (cs : Nat)
    (hl : ∀ s ∈ ss, Ledger s) :
    let r := flushAll ss cw cs
    (∀ s ∈ r.1, Ledger s) ∧ (∀ s ∈ r.1, Blocked r.2.1 s) ∧ r.2.1 ≤ cw ∧
    r.2.1 = cw - total r.2.2.2 ∧ r.2.2.1 = cs + total r.2.2.2 ∧ OutOK r.2.2.2 := by
  induction ss generalizing cw cs with
  | nil => simp [flushAll, total, OutOK]
  | cons s rest ih =>
    have hls : Ledger s := hl s (by simp)
    have hlr : ∀ x ∈ rest, Ledger x := fun x hx => hl x (by simp [hx])
    simp only [flushAll]
    split
    · have sp := sendData_spec s cw cs
      have hsl := send_ledger (cw := cw) (cs := cs) hls
      have hsb := send_blocked s cw cs
      have hsc := send_cw_le s cw cs
      generalize sendData s cw cs = r at *
      obtain ⟨s1, cw1, cs1, o1⟩ := r
      have ih' := ih cw1 cs1 hlr
      generalize flushAll rest cw1 cs1 = r2 at *
      obtain ⟨ss2, cw2, cs2, o2⟩ := r2
      obtain ⟨i1, i2, i3, i4, i5, i6⟩ := ih'
      have e1 := sp.cw
      have e2 := sp.cs
      refine ⟨forall_cons hsl i1, forall_cons (blocked_mono hsb i3) i2, ?_, ?_, ?_,
        fun d hd => (List.mem_append.mp hd).elim (sp.outs d) (i6 d)⟩ <;>
      · simp only [total, List.map_append, List.sum_append] at *; omega
    · rename_i hf
      obtain ⟨i1, i2, i3, i4, i5, i6⟩ := ih cw cs hlr
      exact ⟨forall_cons hls i1, forall_cons (fun hfl => absurd hfl hf) i2, i3, i4, i5, i6⟩

theorem forall_updStrm {f : Strm → Strm} {id : Nat} {l : List Strm} {q : Strm → Prop} (h : ∀ s ∈ l, q s)
    (hf : ∀ y ∈ l, y.id = id → q (f y)) : ∀ x ∈ updStrm f id l, q x := by
  induction l with
  | nil => intro x hx; cases hx
  | cons a rest ih =>
    have ht := ih (fun s hs => h s (List.mem_cons_of_mem _ hs)) (fun y hy => hf y (List.mem_cons_of_mem _ hy))
    simp only [updStrm]
    split
    · rename_i e
      exact forall_cons (hf a List.mem_cons_self e) fun s hs => h s (List.mem_cons_of_mem _ hs)
    · exact forall_cons (h a List.mem_cons_self) ht

theorem findStrm_mem {id : Nat} {l : List Strm} {s : Strm} : findStrm id l = some s → s ∈ l ∧ s.id = id := by
  induction l with
  | nil => simp [findStrm]
  | cons a rest ih =>
    simp only [findStrm]
    split
    · rename_i h; intro he; cases he; exact ⟨by simp, h⟩
    · intro he; have := ih he; exact ⟨by simp [this.1], this.2⟩

theorem send_inv {st : St} (id : Nat) {s1 : Strm} (h : Inv st) (hl : Ledger s1) :
    Inv { st with strms := updStrm (fun _ => (sendData s1 st.cw st.csent).1) id st.strms,
                  cw := (sendData s1 st.cw st.csent).2.1, csent := (sendData s1 st.cw st.csent).2.2.1 } ∧
    OutOK (sendData s1 st.cw st.csent).2.2.2 := by
  have sp := sendData_spec s1 st.cw st.csent
  refine ⟨⟨forall_updStrm h.led fun _ _ _ => send_ledger hl, ?_,
    forall_updStrm (fun x hx => blocked_mono (h.blk x hx) (send_cw_le s1 st.cw st.csent)) fun _ _ _ =>
      send_blocked s1 st.cw st.csent⟩, sp.outs⟩
  have := h.cled; have := sp.cw; have := sp.cs
  simp only; omega

theorem flush_inv {st : St} {ss : List Strm} {cw0 cg : Int} (iw : Int) (hl : ∀ s ∈ ss, Ledger s)
    (hc : cw0 = cg - st.csent) :
    Inv { st with strms := (flushAll ss cw0 st.csent).1, cw := (flushAll ss cw0 st.csent).2.1,
                  csent := (flushAll ss cw0 st.csent).2.2.1, cgranted := cg, initWin := iw } ∧
    OutOK (flushAll ss cw0 st.csent).2.2.2 := by
  obtain ⟨i1, i2, _, i4, i5, i6⟩ := flushAll_spec ss cw0 st.csent hl
  exact ⟨⟨i1, by simp only; omega, i2⟩, i6⟩

theorem step_inv (st : St) (e : Ev) (h : Inv st) : Inv (step st e).1 ∧ OutOK (step st e).2 := by
  have same : Inv st ∧ OutOK [] := ⟨h, by simp [OutOK]⟩
  cases e with
  | opn id =>
    simp only [step]
    split
    · exact same
    · refine ⟨⟨fun s hs => ?_, h.cled, fun s hs => ?_⟩, same.2⟩ <;> rcases List.mem_append.mp hs with hs | hs
      · exact h.led s hs
      · rw [List.mem_singleton.mp hs]; simp [Ledger]
      · exact h.blk s hs
      · rw [List.mem_singleton.mp hs]; intro hf; simp [flushable] at hf
  | done id len =>
    simp only [step]
    split
    · exact same
    · rename_i s hfind
      split
      · exact same
      · exact send_inv id h (by have := h.led s (findStrm_mem hfind).1; simpa [Ledger] using this)
  | wuS id n =>
    simp only [step]
    split
    · exact same
    · rename_i s hfind
      have hl1 : Ledger { s with window := s.window + n, granted := s.granted + n } := by
        have := h.led s (findStrm_mem hfind).1; simp only [Ledger] at *; omega
      split
      · exact send_inv id h hl1
      · rename_i hnf
        exact ⟨⟨forall_updStrm h.led fun _ _ _ => hl1, h.cled, forall_updStrm h.blk fun _ _ _ hf => absurd hf hnf⟩, same.2⟩
  | wuC n => exact flush_inv st.initWin h.led (by have := h.cled; omega)
  | rst id =>
    refine ⟨⟨forall_updStrm h.led fun y hy _ => ?_, h.cled, forall_updStrm h.blk fun y _ _ hf => ?_⟩, same.2⟩
    · have := h.led y hy; simpa [Ledger, dropPending] using this
    · simp [flushable, dropPending] at hf
  | settings v =>
    refine flush_inv (v : Int) (fun s hs => ?_) h.cled
    obtain ⟨y, hy, rfl⟩ := List.mem_map.mp hs
    have := h.led y hy; simp only [Ledger, bump] at *; omega

theorem init_inv' : True := trivial

theorem init_inv : Inv init := ⟨by simp [init], by simp [init], by simp [init]⟩

/-- C06 on the reduced model, for every event sequence: ledgers exact, no sendable
    stream is ever left unsent, every DATA frame is within both allowances and the frame size. -/
theorem run_inv (evs : List Ev) (st : St) (h : Inv st) : Inv (run st evs).1 ∧ OutOK (run st evs).2 := by
  induction evs generalizing st with
  | nil => exact ⟨h, by simp [run, OutOK]⟩
  | cons e es ih =>
    obtain ⟨h1, o1⟩ := step_inv st e h
    obtain ⟨h2, o2⟩ := ih (step st e).1 h1
    exact ⟨h2, fun d hd => (List.mem_append.mp hd).elim (o1 d) (o2 d)⟩

/-! ## END_STREAM is sent once (ghost counter `fins`, linked to the outputs by `sendData_spec.fins`) -/

def FinInv (s : Strm) : Prop := s.fins ≤ 1 ∧ (s.fins = 1 → s.pending = 0 ∧ s.responded = true)

def FinAll (st : St) : Prop := ∀ s ∈ st.strms, FinInv s

theorem send_fin {s : Strm} (cw : Int) (cs : Nat) (h : FinInv s) (hr : s.responded = true) :
    FinInv (sendData s cw cs).1 := by
  have sp := sendData_spec s cw cs
  have h1 := sp.fins
  have h2 := sp.finspec
  have h3 := sp.resp
  obtain ⟨hle, himp⟩ := h
  by_cases hp : 0 < s.pending
  · have hf0 : s.fins = 0 := by
      by_cases h1' : s.fins = 1
      · have := (himp h1').1; omega
      · omega
    by_cases hz : (sendData s cw cs).1.pending = 0
    · rw [h2] at h1; simp [hp, hz] at h1
      exact ⟨by omega, fun _ => ⟨hz, by rw [h3]; exact hr⟩⟩
    · rw [h2] at h1; simp [hp, hz] at h1
      exact ⟨by omega, fun h' => by omega⟩
  · have hp0 : s.pending = 0 := by omega
    have hpend := sp.pend
    rw [h2] at h1; simp [hp0] at h1
    refine ⟨by omega, fun h' => ⟨by omega, by rw [h3]; exact hr⟩⟩

theorem flushAll_fin (ss : List Strm) (cw : Int) (cs : Nat) (h : ∀ s ∈ ss, FinInv s) :
    ∀ s ∈ (flushAll ss cw cs).1, FinInv s := by
  induction ss generalizing cw cs with
  | nil => simp [flushAll]
  | cons s rest ih =>
    have hs : FinInv s := h s (by simp)
    have hr : ∀ x ∈ rest, FinInv x := fun x hx => h x (by simp [hx])
    simp only [flushAll]
    split
    · rename_i hf
      have hresp : s.responded = true := by
        simp only [flushable, Bool.and_eq_true] at hf; exact hf.1.1
      exact forall_cons (send_fin cw cs hs hresp) (ih _ _ hr)
    · exact forall_cons hs (ih cw cs hr)

theorem step_fin (st : St) (e : Ev) (h : FinAll st) : FinAll (step st e).1 := by
  cases e with
  | opn id =>
    simp only [step]
    split
    · exact h
    · intro s hs
      rcases List.mem_append.mp hs with hs | hs
      · exact h s hs
      · rw [List.mem_singleton.mp hs]; simp [FinInv]
  | done id len =>
    simp only [step]
    split
    · exact h
    · rename_i s hfind
      split
      · exact h
      · rename_i hnr
        -- the response has not gone out, so no END_STREAM yet
        have hs := h s (findStrm_mem hfind).1
        have hf0 : s.fins = 0 := by
          by_cases h1 : s.fins = 1
          · have := (hs.2 h1).2; simp [this] at hnr
          · have := hs.1; omega
        exact forall_updStrm h fun _ _ _ => send_fin st.cw st.csent (by simp [FinInv, hf0]) rfl
  | wuS id n =>
    simp only [step]
    split
    · exact h
    · rename_i s hfind
      have hs1 : FinInv { s with window := s.window + n, granted := s.granted + n } := by
        simpa [FinInv] using h s (findStrm_mem hfind).1
      split
      · rename_i hf
        simp only [flushable, Bool.and_eq_true] at hf
        exact forall_updStrm h fun _ _ _ => send_fin st.cw st.csent hs1 hf.1.1
      · exact forall_updStrm h fun _ _ _ => hs1
  | wuC n => exact flushAll_fin st.strms (st.cw + n) st.csent h
  | rst id =>
    refine forall_updStrm h fun y hy _ => ?_
    have := h y hy
    exact ⟨this.1, fun h1 => ⟨rfl, (this.2 h1).2⟩⟩
  | settings v =>
    refine flushAll_fin _ st.cw st.csent fun s hs => ?_
    obtain ⟨y, hy, rfl⟩ := List.mem_map.mp hs
    exact h y hy

theorem run_fin (evs : List Ev) (st : St) (h : FinAll st) : FinAll (run st evs).1 := by
  induction evs generalizing st with
  | nil => exact h
  | cons e es ih => exact ih _ (step_fin st e h)

end H2.Server.Flow
