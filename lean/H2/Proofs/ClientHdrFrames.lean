import H2.Proofs.ClientRunRel
/-!
# The frames of a request header block (property C18, client half; finding F33 repaired)

`writeRequest` hands its HEADERS frame to `writeHeaderBlock` (headers.go) with `frameStep`, the value `writeData` cuts
DATA at: the server's SETTINGS_MAX_FRAME_SIZE. In the model a queued `.headers` frame becomes, on the wire
(`wireFrames`), itself when its block fits and otherwise `.hfrag` (HEADERS without END_HEADERS) followed by `.cont`
frames; `blockLens` gives the payload lengths.
-/
namespace H2.Client

theorem cutLens_zero (step fuel : Nat) : cutLens step fuel 0 = [] := by cases fuel <;> rfl

theorem cutLens_succ (step fuel : Nat) {n : Nat} (h : n ≠ 0) :
    cutLens step (fuel + 1) n = min n step :: cutLens step fuel (n - step) := by
  rw [cutLens, if_neg (by simpa using h)]

theorem cutLens_le (step fuel n : Nat) : ∀ l ∈ cutLens step fuel n, l ≤ step := by
  induction fuel generalizing n with
  | zero => intro l h; cases h
  | succ k ih =>
    intro l h
    by_cases hn : n = 0
    · rw [hn, cutLens_zero] at h; cases h
    · rw [cutLens_succ _ _ hn] at h
      rcases List.mem_cons.mp h with rfl | h
      · exact Nat.min_le_right _ _
      · exact ih _ l h

/-- no CONTINUATION frame is empty -/
theorem cutLens_pos (step : Nat) (hs : 0 < step) (fuel n : Nat) : ∀ l ∈ cutLens step fuel n, 0 < l := by
  induction fuel generalizing n with
  | zero => intro l h; cases h
  | succ k ih =>
    intro l h
    by_cases hn : n = 0
    · rw [hn, cutLens_zero] at h; cases h
    · rw [cutLens_succ _ _ hn] at h
      rcases List.mem_cons.mp h with rfl | h
      · omega
      · exact ih _ l h

theorem cutLens_sum (step : Nat) (hs : 0 < step) (fuel n : Nat) (hf : n ≤ fuel) : (cutLens step fuel n).sum = n := by
  induction fuel generalizing n with
  | zero => rw [Nat.le_zero.mp hf]; rfl
  | succ k ih =>
    by_cases hn : n = 0
    · rw [hn, cutLens_zero]; rfl
    · rw [cutLens_succ _ _ hn, List.sum_cons, ih (n - step) (by omega)]
      omega

theorem blockLens_le (step n : Nat) : ∀ l ∈ blockLens step n, l ≤ step := by
  intro l h
  rcases List.mem_cons.mp h with rfl | h
  · exact Nat.min_le_right _ _
  · exact cutLens_le _ _ _ l h

theorem blockLens_sum (step : Nat) (hs : 0 < step) (n : Nat) : (blockLens step n).sum = n := by
  rw [blockLens, List.sum_cons, cutLens_sum step hs n (n - step) (by omega)]
  omega

theorem blockLens_small (step n : Nat) (h : n ≤ step) : blockLens step n = [n] := by
  rw [blockLens, Nat.sub_eq_zero_of_le h, cutLens_zero, Nat.min_eq_left h]

theorem blockLens_big (step : Nat) (hs : 0 < step) (n : Nat) (h : step < n) :
    ∃ l rest, blockLens step n = step :: l :: rest ∧ ∀ x ∈ l :: rest, 0 < x := by
  obtain ⟨k, rfl⟩ : ∃ k, n = k + 1 := ⟨n - 1, by omega⟩
  have e := cutLens_succ step k (n := k + 1 - step) (by omega)
  refine ⟨_, _, by rw [blockLens, Nat.min_eq_right (Nat.le_of_lt h), e], ?_⟩
  rw [← e]
  exact cutLens_pos step hs _ _

/-- the step is the server's SETTINGS_MAX_FRAME_SIZE when that is a value a SETTINGS frame can carry, and otherwise the
size every peer accepts -/
theorem frameStep_cases (c : Conn) :
    ((c.maxFrameSize = 0 ∨ c.maxFrameSize > Gen.c_maxFrameSize) ∧ frameStep c = Gen.c_defaultDataFrameSize) ∨
    (0 < c.maxFrameSize ∧ c.maxFrameSize ≤ Gen.c_maxFrameSize ∧ frameStep c = c.maxFrameSize) := by
  unfold frameStep
  by_cases h : (c.maxFrameSize == 0 || decide (c.maxFrameSize > Gen.c_maxFrameSize)) = true
  · exact .inl ⟨by simpa using h, if_pos h⟩
  · refine .inr ⟨?_, ?_, if_neg h⟩ <;>
      simp only [Bool.or_eq_true, beq_iff_eq, decide_eq_true_eq, not_or] at h <;> omega

theorem frameStep_pos (c : Conn) : 0 < frameStep c := by
  rcases frameStep_cases c with ⟨_, e⟩ | ⟨h, _, e⟩ <;> rw [e]
  · decide
  · exact h

theorem frameStep_is_servers (c : Conn) (h1 : 0 < c.maxFrameSize) (h2 : c.maxFrameSize ≤ Gen.c_maxFrameSize) :
    frameStep c = c.maxFrameSize := by
  rcases frameStep_cases c with ⟨h, _⟩ | ⟨_, _, e⟩
  · omega
  · exact e

theorem frameStep_default (c : Conn) (h : c.maxFrameSize = 0 ∨ c.maxFrameSize > Gen.c_maxFrameSize) :
    frameStep c = Gen.c_defaultDataFrameSize := by
  rcases frameStep_cases c with ⟨_, e⟩ | ⟨_, _, _⟩
  · exact e
  · omega

/-- DATA and header blocks are cut at the same value -/
theorem writeData_step (c : Conn) (sid n : Nat) (endS : Bool) :
    writeData c sid n endS =
      if n == 0 then (if endS then [.data sid 0 true] else []) else dataFrames sid (frameStep c) (n + 1) n endS := rfl

/-- the payload length of a wire-only header-block frame (a HEADERS frame that carries a whole block has no length in
this model: its block fits, see `headerFrames_small`) -/
def OutFrame.fragLen : OutFrame → Option Nat
  | .hfrag _ _ l => some l
  | .cont _ _ l _ => some l
  | _ => none

theorem fragLen_contFrames (sid : Nat) (fields : List (Bytes × Bytes)) (lens : List Nat) :
    (contFrames sid fields lens).filterMap OutFrame.fragLen = lens := by
  induction lens with
  | nil => rfl
  | cons l rest ih => simp [contFrames, OutFrame.fragLen, ih]

theorem headerFrames_small (sid : Nat) (es : Bool) (fields : List (Bytes × Bytes)) (step n : Nat) (h : n ≤ step) :
    headerFrames sid es fields (blockLens step n) = [.headers sid es fields] := by
  simp [blockLens_small step n h, headerFrames, contFrames]

theorem headerFrames_big (sid : Nat) (es : Bool) (fields : List (Bytes × Bytes)) (step : Nat) (hs : 0 < step) (n : Nat)
    (h : step < n) :
    ∃ l rest, blockLens step n = step :: l :: rest ∧
      headerFrames sid es fields (blockLens step n) = .hfrag sid es step :: contFrames sid fields (l :: rest) := by
  obtain ⟨l, rest, e, _⟩ := blockLens_big step hs n h
  exact ⟨l, rest, e, by simp [e, headerFrames]⟩

theorem mem_filterMap_cons {α β : Type} {g : α → Option β} {a : α} {l : List α} {n : β} :
    n ∈ (a :: l).filterMap g ↔ g a = some n ∨ n ∈ l.filterMap g := by
  rw [List.filterMap_cons]
  cases g a with
  | none => exact ⟨.inr, fun h => h.resolve_left nofun⟩
  | some x => exact List.mem_cons.trans (or_congr_left ⟨fun h => h ▸ rfl, fun h => (Option.some.inj h).symm⟩)

theorem fragLen_headerFrames (sid : Nat) (es : Bool) (fields : List (Bytes × Bytes)) (lens : List Nat) :
    ∀ x ∈ (headerFrames sid es fields lens).filterMap OutFrame.fragLen, x ∈ lens := by
  cases lens with
  | nil => intro x h; cases h
  | cons l rest =>
    intro x h
    rcases mem_filterMap_cons.mp h with h | h
    · -- the first frame: a whole HEADERS frame has no fragment length, a HEADERS fragment has `l`
      cases hr : rest.isEmpty <;> rw [hr] at h <;> cases h
      exact List.mem_cons_self
    · rw [fragLen_contFrames] at h
      exact List.mem_cons_of_mem _ h

theorem encodeHeaders_frameStep (c : Conn) (fields : List (Bytes × Bytes)) :
    frameStep (encodeHeaders c fields).1 = frameStep c := rfl

/-- `wireFrames` adds to what it is given only fragments cut by `blockLens` -/
theorem wireFrames_frags (c : Conn) (fs : List OutFrame) :
    ∀ n ∈ (wireFrames c fs).filterMap OutFrame.fragLen, n ≤ frameStep c ∨ n ∈ fs.filterMap OutFrame.fragLen := by
  induction fs generalizing c with
  | nil => intro n h; simp [wireFrames] at h
  | cons f fs ih =>
    intro n h
    cases f with
    | headers sid es fields =>
      simp only [wireFrames, List.filterMap_append, List.mem_append] at h
      rcases h with h | h
      · exact Or.inl (blockLens_le _ _ n (fragLen_headerFrames _ _ _ _ n h))
      · rcases ih _ n h with h | h
        · exact Or.inl (by rw [encodeHeaders_frameStep] at h; exact h)
        · exact Or.inr (by simpa [OutFrame.fragLen] using h)
    | _ =>
      -- any other frame is written as it is
      rcases mem_filterMap_cons.mp h with h | h
      · exact .inr (mem_filterMap_cons.mpr (.inl h))
      · exact (ih _ n h).imp_right fun h => mem_filterMap_cons.mpr (.inr h)

def NoFrag (l : List OutFrame) : Prop := ∀ f ∈ l, f.fragLen = none

theorem NoFrag.nil : NoFrag [] := by intro f h; cases h
theorem NoFrag.cons {f : OutFrame} {l : List OutFrame} (hf : f.fragLen = none) (hl : NoFrag l) : NoFrag (f :: l) := by
  intro g h
  rcases List.mem_cons.mp h with rfl | h
  · exact hf
  · exact hl g h
theorem NoFrag.append {a b : List OutFrame} (ha : NoFrag a) (hb : NoFrag b) : NoFrag (a ++ b) := by
  intro g h
  rcases List.mem_append.mp h with h | h
  · exact ha g h
  · exact hb g h
theorem NoFrag.filterMap {l : List OutFrame} (h : NoFrag l) : l.filterMap OutFrame.fragLen = [] :=
  List.filterMap_eq_nil_iff.mpr h

theorem AllOn.noFrag {sid : Nat} {fs : List OutFrame} (h : AllOn sid fs) : NoFrag fs := by
  intro f hf
  obtain ⟨k, b, rfl⟩ := h f hf
  rfl

/-- what `writeRequest` queues holds no wire-only frame: its header block is ONE queued HEADERS frame, cut where it is
written -/
theorem writeRequest_noFrag (c : Conn) (r : ReqSpec) : NoFrag (writeRequest c r).2 := by
  rcases writeRequest_shape c r with ⟨_, e⟩ | ⟨_, p, w, q, ds, e, _, hd⟩ <;> rw [e]
  · exact .nil
  · exact .cons rfl hd.noFrag

end H2.Client
