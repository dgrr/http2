import H2.Client.Recv
/-! The functions of the serial client model, each taken apart once: the cases of `sendPending`, `Req.resolve`, `takeReq`,
`refuse`, `settle`, `dispatch` and `fieldStep`; what `finish`, `refuseAbove` and `setLastErr` leave alone; how `getReq` sees
a rewrite of the requests (`getReq_map`); the header loop (`readHeader_rel`, and for C20c `loop_after_status`,
`loop_no_status`); which requests a stream frame can touch (`OthersSame`, C02). -/
namespace H2.Client

def Pending.spent (pb : Pending) (n : Nat) : Pending := { pb with window := pb.window - n, body := pb.body - n }

/-- the connection after `sendPending`'s locked section let `n` octets of `pb` out on stream `sid` -/
def spentConn (c : Conn) (sid : Nat) (pb : Pending) (n : Nat) : Conn :=
  { c with connWindow := c.connWindow - n
           pending := if !(pb.spent n).hasMore then eraseA c.pending sid else insertA c.pending sid (pb.spent n) }

/-- `quiet` stands for two exits (blocked by the windows, and no request to write for); `gone`: the request was taken
back. `refilled` and `more` are the two recursive calls. -/
theorem sendPending_cases (sid : Nat) (P : Conn → Conn × List OutFrame → Prop)
    (idle : ∀ c, P c (c, []))
    (readFail : ∀ c pb, lookupA c.pending sid = some pb → refill pb = none →
      P c ({ deletePending c sid with outQ := c.outQ ++ [.rst sid Gen.c_InternalError] }, []))
    (refilled : ∀ c pb pb' res, lookupA c.pending sid = some pb → refill pb = some pb' →
      P { c with pending := insertA c.pending sid pb' } res → P c res)
    (quiet : ∀ c pb n, lookupA c.pending sid = some pb → n = spendN pb.body pb.window c.connWindow →
      P c (spentConn c sid pb n, []))
    (gone : ∀ c pb n, lookupA c.pending sid = some pb → n = spendN pb.body pb.window c.connWindow →
      P c (deletePending (spentConn c sid pb n) sid, []))
    (last : ∀ c pb n, lookupA c.pending sid = some pb → n = spendN pb.body pb.window c.connWindow →
      (pb.spent n).hasMore = false → P c (spentConn c sid pb n, writeData (spentConn c sid pb n) sid n true))
    (more : ∀ c pb n res, lookupA c.pending sid = some pb → n = spendN pb.body pb.window c.connWindow →
      (pb.spent n).hasMore = true → P (spentConn c sid pb n) res →
      P c (res.1, writeData (spentConn c sid pb n) sid n false ++ res.2)) :
    ∀ fuel c, P c (sendPending fuel c sid) := by
  intro fuel
  induction fuel with
  | zero => exact idle
  | succ k ih =>
    intro c
    rw [sendPending]
    cases hl : lookupA c.pending sid with
    | none => exact idle c
    | some pb =>
      dsimp only
      by_cases hb : (pb.body == 0 && pb.isStream && !pb.drained) = true
      · rw [if_pos hb]
        cases hr : refill pb with
        | none => exact readFail c pb hl hr
        | some pb' => exact refilled c pb pb' _ hl hr (ih _)
      · rw [if_neg hb]
        generalize hn : spendN pb.body pb.window c.connWindow = n
        have e1 : ({ pb with window := pb.window - n, body := pb.body - n } : Pending) = pb.spent n := rfl
        have e2 : ({ c with connWindow := c.connWindow - n
                            pending := if (!(pb.spent n).hasMore) = true then eraseA c.pending sid
                                       else insertA c.pending sid (pb.spent n) } : Conn) = spentConn c sid pb n := rfl
        rw [e1, e2]
        by_cases h0 : (n == 0 && !!(pb.spent n).hasMore) = true
        · rw [if_pos h0]; exact quiet c pb n hl hn.symm
        · rw [if_neg h0]
          cases hg : getReq (spentConn c sid pb n) pb.tag with
          | none => exact quiet c pb n hl hn.symm
          | some r =>
            dsimp only
            by_cases hd : r.done = true
            · rw [if_pos hd]; exact gone c pb n hl hn.symm
            · rw [if_neg hd]
              cases hm : (pb.spent n).hasMore with
              | false => exact last c pb n hl hn.symm hm
              | true => exact more c pb n _ hl hn.symm hm (ih _)

theorem getReq_tag {c : Conn} {tag : String} {r : Req} (h : getReq c tag = some r) : r.tag = tag := by
  have := List.find?_some h
  simpa using this

theorem getReq_map {c c' : Conn} {g : Req → Req} (hg : ∀ r, (g r).tag = r.tag) (h : c'.reqs = c.reqs.map g) (t : String) :
    getReq c' t = (getReq c t).map g := by
  unfold getReq
  rw [h]
  induction c.reqs with
  | nil => rfl
  | cons x xs ih =>
    rw [List.map_cons, List.find?_cons, List.find?_cons, hg]
    cases x.tag == t
    · exact ih
    · rfl

theorem updReq_tag {tag : String} {f : Req → Req} (hf : ∀ r, r.tag = tag → (f r).tag = tag) (r : Req) :
    (if r.tag == tag then f r else r).tag = r.tag := by
  split
  · rename_i h
    rw [hf r (beq_iff_eq.mp h), beq_iff_eq.mp h]
  · rfl

theorem getReq_updReq (c : Conn) (tag : String) (f : Req → Req) (hf : ∀ r, r.tag = tag → (f r).tag = tag) (t : String) :
    getReq (updReq c tag f) t = (getReq c t).map fun r => if r.tag == tag then f r else r :=
  getReq_map (updReq_tag hf) rfl t

theorem getReq_updReq_self (c : Conn) (tag : String) (f : Req → Req) (hf : ∀ r, r.tag = tag → (f r).tag = tag) :
    getReq (updReq c tag f) tag = (getReq c tag).map f := by
  rw [getReq_updReq c tag f hf]
  cases hq : getReq c tag with
  | none => rfl
  | some r => rw [Option.map_some, Option.map_some, if_pos (beq_iff_eq.mpr (getReq_tag hq))]

theorem getReq_updReq_other (c : Conn) (tag t : String) (f : Req → Req) (hf : ∀ r, r.tag = tag → (f r).tag = tag) (hne : t ≠ tag) :
    getReq (updReq c tag f) t = getReq c t := by
  rw [getReq_updReq c tag f hf]
  cases hq : getReq c t with
  | none => rfl
  | some r => rw [Option.map_some, if_neg fun h => hne ((getReq_tag hq).symm.trans (beq_iff_eq.mp h))]

theorem Req.resolve_cases (r : Req) (e : Err) :
    ((r.done = true ∨ r.errBuf.isSome = true) ∧ r.resolve e = r) ∨
    (r.done = false ∧ r.errBuf = none ∧ r.resolve e = { r with errBuf := some e }) := by
  unfold Req.resolve
  by_cases h : (r.done || r.errBuf.isSome) = true
  · exact .inl ⟨Bool.or_eq_true_iff.mp h, if_pos h⟩
  · have h' := Bool.or_eq_false_iff.mp (Bool.eq_false_iff.mpr h)
    exact .inr ⟨h'.1, Option.not_isSome_iff_eq_none.mp (Bool.eq_false_iff.mp h'.2), if_neg h⟩

theorem resolve_tag (r : Req) (e : Err) : (r.resolve e).tag = r.tag := by
  rcases r.resolve_cases e with ⟨_, h⟩ | ⟨_, _, h⟩ <;> rw [h]

theorem Req.resolve_keeps (r : Req) (e x : Err) (h : r.errBuf = some x) : (r.resolve e).errBuf = some x := by
  rcases r.resolve_cases e with ⟨_, hr⟩ | ⟨_, hn, _⟩
  · rw [hr]; exact h
  · rw [hn] at h; cases h

theorem Req.resolve_settled (r : Req) (e : Err) : (r.resolve e).errBuf.isSome = true ∨ (r.resolve e).done = true := by
  rcases r.resolve_cases e with ⟨h, hr⟩ | ⟨_, _, hr⟩ <;> rw [hr]
  · exact h.symm
  · exact .inl rfl

theorem getReq_resolve_other (c : Conn) (tag t : String) (e : Err) (hne : t ≠ tag) :
    getReq (resolve c tag e) t = getReq c t :=
  getReq_updReq_other c tag t _ (fun r h => (resolve_tag r e).trans h) hne

theorem setLastErr_shape (c : Conn) (e : Err) : ∃ l, setLastErr c e = { c with lastErr := l } := by
  unfold setLastErr; split
  · exact ⟨c.lastErr, rfl⟩
  · exact ⟨_, rfl⟩

/-! ## the functions that end a request -/

theorem eraseA_of_none {α} (l : List (Nat × α)) (k : Nat) (h : lookupA l k = none) : eraseA l k = l := by
  simp only [lookupA, Option.map_eq_none_iff, List.find?_eq_none] at h
  simp only [eraseA, List.filter_eq_self]
  intro p hp
  have := h p hp
  simpa using this

theorem takeReq_cases (c : Conn) (sid : Nat) :
    (∃ v, lookupA c.reqQueued sid = some v ∧
      takeReq c sid = { c with reqQueued := eraseA c.reqQueued sid, openStreams := c.openStreams - 1 }) ∨
    (lookupA c.reqQueued sid = none ∧ takeReq c sid = c) := by
  unfold takeReq
  cases hl : lookupA c.reqQueued sid with
  | some v => exact .inl ⟨v, rfl, rfl⟩
  | none => exact .inr ⟨rfl, rfl⟩

theorem finish_eq (c : Conn) (tag : String) (sid : Nat) (e : Err) :
    ∃ o, finish c tag sid e = { c with reqs := (resolve c tag e).reqs, reqQueued := eraseA c.reqQueued sid,
                                       openStreams := o, pending := eraseA c.pending sid } := by
  unfold finish
  rcases takeReq_cases c sid with ⟨_, _, h⟩ | ⟨hl, h⟩ <;> rw [h]
  · exact ⟨_, rfl⟩
  · refine ⟨c.openStreams, ?_⟩
    rw [eraseA_of_none _ _ hl]
    rfl

theorem refuse_cases (c : Conn) (sid : Nat) (tag : String) :
    ((∀ r, getReq c tag = some r → r.done = true) ∧ refuse c sid tag = { c with reqQueued := eraseA c.reqQueued sid }) ∨
    ∃ r, getReq c tag = some r ∧ r.done = false ∧ refuse c sid tag = finish c tag sid (goAwayErr r) := by
  unfold refuse
  cases hr : getReq c tag with
  | none => exact .inl ⟨(fun _ h => nomatch h), rfl⟩
  | some r =>
    dsimp only
    cases hd : r.done with
    | true => exact .inl ⟨fun r' h => Option.some.inj h ▸ hd, rfl⟩
    | false => exact .inr ⟨r, rfl, hd, rfl⟩

theorem refuse_eq (c : Conn) (sid : Nat) (tag : String) :
    ∃ rs o p, refuse c sid tag = { c with reqs := rs, reqQueued := eraseA c.reqQueued sid, openStreams := o, pending := p } := by
  rcases refuse_cases c sid tag with ⟨_, h⟩ | ⟨r, _, _, h⟩ <;> rw [h]
  · exact ⟨_, _, _, rfl⟩
  · obtain ⟨o, h⟩ := finish_eq c tag sid (goAwayErr r)
    exact ⟨_, o, _, h⟩

theorem refuseAbove_eq (l : List (Nat × String)) : ∀ c : Conn,
    ∃ rs q o p, refuseAbove c l = { c with reqs := rs, reqQueued := q, openStreams := o, pending := p } := by
  induction l with
  | nil => intro c; exact ⟨_, _, _, _, rfl⟩
  | cons x xs ih =>
    intro c
    obtain ⟨sid, tag⟩ := x
    rw [refuseAbove]
    by_cases h : sid > c.closeRef
    · rw [if_pos h]
      obtain ⟨rs, o, p, e⟩ := refuse_eq c sid tag
      obtain ⟨rs', q', o', p', e'⟩ := ih (refuse c sid tag)
      rw [e', e]
      exact ⟨_, _, _, _, rfl⟩
    · rw [if_neg h]; exact ih c

theorem settle_cases (c : Conn) (tag : String) (sid : Nat) (err : Option Err) (endS : Bool) :
    (settle c tag sid err endS).1 = c ∨ ∃ e, (settle c tag sid err endS).1 = finish c tag sid e := by
  unfold settle
  dsimp only
  split
  · split
    · exact .inr ⟨_, rfl⟩
    · exact .inl rfl
  · exact .inr ⟨_, rfl⟩

theorem dispatch_cases (c : Conn) (f : Frame.Frame) :
    dispatch c f = (skipHeaders c f, false) ∨
    (∃ tag r, lookupA c.reqQueued f.stream = some tag ∧ getReq c tag = some r ∧ r.done = true ∧
      dispatch c f = ({ skipHeaders c f with reqQueued := eraseA c.reqQueued f.stream }, false)) ∨
    ∃ tag r, lookupA c.reqQueued f.stream = some tag ∧ getReq c tag = some r ∧ r.done = false ∧
      dispatch c f = settle (readStream (prepare c f).1 tag r f).1 tag f.stream (readStream (prepare c f).1 tag r f).2
        (prepare c f).2 := by
  unfold dispatch
  cases hl : lookupA c.reqQueued f.stream with
  | none => exact .inl rfl
  | some tag =>
    dsimp only
    cases hg : getReq c tag with
    | none => exact .inl rfl
    | some r =>
      dsimp only
      cases hd : r.done with
      | true => exact .inr (.inl ⟨tag, r, rfl, hg, hd, rfl⟩)
      | false => exact .inr (.inr ⟨tag, r, rfl, hg, hd, rfl⟩)

/-! ## response fields and the header loop -/

theorem fieldStep_some {r : Req} {a b : Bool} {k v : Bytes} {r' : Req} {rs ss : Bool}
    (h : fieldStep r a b k v = some (r', rs, ss)) :
    (isPseudo k = true ∧ a = false ∧ b = false ∧ rs = false ∧ ss = true ∧
      ∃ n, r' = { r with status := n, statusSeen := true }) ∨
    (isPseudo k = false ∧ rs = true ∧ ss = b ∧
      ((∃ n, r' = { r with cl := n }) ∨ r' = { r with ct := some v } ∨ r' = { r with hdrs := r.hdrs ++ [(k, v)] })) := by
  unfold fieldStep at h
  by_cases hp : isPseudo k = true
  · rw [if_pos hp] at h
    cases a with
    | true => cases h
    | false =>
      by_cases hk : (k != Gen.s_StringStatus) = true
      · rw [if_neg (by decide), if_pos hk] at h; cases h
      · rw [if_neg (by decide), if_neg hk] at h
        cases hu : parseUint v with
        | none => rw [hu] at h; cases h
        | some n =>
          rw [hu] at h
          dsimp only at h
          cases b with
          | true => cases h
          | false =>
            by_cases hc : (false || v.length != 3 || decide (n < 100)) = true
            · rw [if_pos hc] at h; cases h
            · rw [if_neg hc] at h; cases h; exact .inl ⟨hp, rfl, rfl, rfl, rfl, n, rfl⟩
  · rw [if_neg hp] at h
    have hp' : isPseudo k = false := Bool.eq_false_iff.mpr hp
    by_cases h1 : hasUpperCase k = true
    · rw [if_pos h1] at h; cases h
    · rw [if_neg h1] at h
      by_cases h2 : isConnectionSpecific k = true
      · rw [if_pos h2] at h; cases h
      · rw [if_neg h2] at h
        by_cases h3 : (k == Gen.s_StringContentLength) = true
        · rw [if_pos h3] at h
          cases hu : parseUint v with
          | none => rw [hu] at h; cases h
          | some n => rw [hu] at h; cases h; exact .inr ⟨hp', rfl, rfl, .inl ⟨n, rfl⟩⟩
        · rw [if_neg h3] at h
          by_cases h4 : (k == Gen.s_StringContentType) = true
          · rw [if_pos h4] at h; cases h; exact .inr ⟨hp', rfl, rfl, .inr (.inl rfl)⟩
          · rw [if_neg h4] at h; cases h; exact .inr ⟨hp', rfl, rfl, .inr (.inr rfl)⟩

theorem fieldStep_isSome (r : Req) (a b : Bool) (k v : Bytes) :
    (fieldStep r a b k v).isSome =
      if isPseudo k then !a && !b && k == Gen.s_StringStatus && validStatus v else regularOk (k, v) := by
  unfold fieldStep validStatus regularOk
  by_cases hp : isPseudo k = true
  · rw [if_pos hp, if_pos hp]
    cases a with
    | true => rfl
    | false =>
      by_cases hk : (k != Gen.s_StringStatus) = true
      · rw [if_neg (by decide), if_pos hk, show (k == Gen.s_StringStatus) = false by simpa using hk]; cases b <;> rfl
      · rw [if_neg (by decide), if_neg hk, show (k == Gen.s_StringStatus) = true by simpa using hk]
        cases parseUint v with
        | none => cases b <;> rfl
        | some n =>
          cases b with
          | true => rfl
          | false =>
            dsimp only
            by_cases h3 : v.length = 3 <;> by_cases hn : n < 100 <;> simp [h3, hn] <;> omega
  · rw [if_neg hp, if_neg hp, Bool.eq_false_iff.mpr hp]
    by_cases h1 : hasUpperCase k = true
    · rw [if_pos h1, h1]; rfl
    · rw [if_neg h1, Bool.eq_false_iff.mpr h1]
      by_cases h2 : isConnectionSpecific k = true
      · rw [if_pos h2, h2]; rfl
      · rw [if_neg h2, Bool.eq_false_iff.mpr h2]
        by_cases h3 : (k == Gen.s_StringContentLength) = true
        · rw [if_pos h3, show (k != Gen.s_StringContentLength) = false by simpa using h3]
          cases parseUint v <;> rfl
        · rw [if_neg h3, show (k != Gen.s_StringContentLength) = true by simpa using h3]
          by_cases h4 : (k == Gen.s_StringContentType) = true
          · rw [if_pos h4]; rfl
          · rw [if_neg h4]; rfl

theorem loop_after_status (rest : List (Bytes × Bytes)) (r : Req) (rs : Bool) :
    (fieldLoop r rs true rest).isSome = rest.all regularOk ∧
    ∀ x, fieldLoop r rs true rest = some x → x.2 = true := by
  induction rest generalizing r rs with
  | nil => exact ⟨rfl, fun x h => by cases h; rfl⟩
  | cons kv rest ih =>
    obtain ⟨k, v⟩ := kv
    -- with `:status` seen no pseudo-header is accepted, and `regularOk` says so too
    have hs : (fieldStep r rs true k v).isSome = regularOk (k, v) := by
      rw [fieldStep_isSome]
      cases hp : isPseudo k
      · rfl
      · rw [if_pos rfl, regularOk, hp]; cases rs <;> rfl
    rw [fieldLoop, List.all_cons, ← hs]
    cases hfs : fieldStep r rs true k v with
    | none => exact ⟨rfl, fun x h => by cases h⟩
    | some y =>
      obtain ⟨r', rs', ss'⟩ := y
      have : ss' = true := by
        rcases fieldStep_some hfs with ⟨_, _, hb, _⟩ | ⟨_, _, hss, _⟩
        · cases hb
        · exact hss
      subst this
      exact ⟨(ih r' rs').1.trans (Bool.true_and _).symm, (ih r' rs').2⟩

theorem loop_no_status (rest : List (Bytes × Bytes)) (r : Req) :
    ∀ x, fieldLoop r true false rest = some x → x.2 = false := by
  induction rest generalizing r with
  | nil => intro x h; cases h; rfl
  | cons kv rest ih =>
    obtain ⟨k, v⟩ := kv
    intro x h
    rw [fieldLoop] at h
    cases hfs : fieldStep r true false k v with
    | none => rw [hfs] at h; cases h
    | some y =>
      obtain ⟨r', rs, ss⟩ := y
      rcases fieldStep_some hfs with ⟨_, ha, _⟩ | ⟨_, rfl, rfl, _⟩
      · cases ha
      · rw [hfs] at h
        exact ih _ x h

theorem fieldStep_tag {r : Req} {a b : Bool} {k v : Bytes} {r' : Req} {rs ss : Bool}
    (h : fieldStep r a b k v = some (r', rs, ss)) : r'.tag = r.tag := by
  rcases fieldStep_some h with ⟨_, _, _, _, _, _, rfl⟩ | ⟨_, _, _, ⟨_, rfl⟩ | rfl | rfl⟩ <;> rfl

theorem readHeader_rel {R : Req → Req → Prop} (refl : ∀ r, R r r) (trans : ∀ {x y z}, R x y → R y z → R x z)
    (step : ∀ {r a b k v r' rs ss}, fieldStep r a b k v = some (r', rs, ss) → R r r') (fuel : Nat) :
    ∀ (st : Hpack.DecState) (r : Req) (a b : Bool) (nf : Nat) (bs : Bytes), R r (readHeader fuel st r a b nf bs).2.1 := by
  induction fuel with
  | zero => intros; exact refl _
  | succ k ih =>
    intro st r a b nf bs
    simp only [readHeader]
    split
    · exact refl r
    · split <;> try exact refl r
      split
      · exact refl r
      · rename_i hfs
        exact trans (step hfs) (ih _ _ _ _ _ _)

theorem readHeader_tag (fuel : Nat) (st : Hpack.DecState) (r : Req) (a b : Bool) (nf : Nat) (bs : Bytes) :
    (readHeader fuel st r a b nf bs).2.1.tag = r.tag :=
  readHeader_rel (R := fun r r' => r'.tag = r.tag) (fun _ => rfl) (fun h1 h2 => h2.trans h1) fieldStep_tag fuel st r a b nf bs

/-! ## the requests a stream frame leaves alone -/

def OthersSame (tag : String) (c c' : Conn) : Prop := ∀ t, t ≠ tag → getReq c' t = getReq c t

theorem OthersSame.refl (tag : String) (c : Conn) : OthersSame tag c c := fun _ _ => rfl

theorem OthersSame.trans {tag : String} {a b c : Conn} (h1 : OthersSame tag a b) (h2 : OthersSame tag b c) :
    OthersSame tag a c := fun t ht => (h2 t ht).trans (h1 t ht)

theorem OthersSame.of_reqs {tag : String} {c c' : Conn} (h : c'.reqs = c.reqs) : OthersSame tag c c' := by
  intro t _; simp [getReq, h]

theorem othersSame_updReq (c : Conn) (tag : String) (f : Req → Req) (hf : ∀ r, r.tag = tag → (f r).tag = tag) :
    OthersSame tag c (updReq c tag f) := fun t ht => getReq_updReq_other c tag t f hf ht

theorem othersSame_finish (c : Conn) (tag : String) (sid : Nat) (e : Err) : OthersSame tag c (finish c tag sid e) := by
  obtain ⟨_, h⟩ := finish_eq c tag sid e
  rw [h]
  exact (othersSame_updReq c tag _ fun r h => (resolve_tag r e).trans h).trans (OthersSame.of_reqs rfl)

theorem othersSame_readStream (c : Conn) (tag : String) (r : Req) (f : Frame.Frame) (hr : r.tag = tag) :
    OthersSame tag c (readStream c tag r f).1 := by
  unfold readStream
  split
  · simp only
    split
    · exact (OthersSame.of_reqs rfl).trans (othersSame_updReq _ tag _ (fun _ _ => (readHeader_tag _ _ _ _ _ _ _).trans hr))
    · exact OthersSame.of_reqs rfl
  · simp only
    split
    · exact (OthersSame.of_reqs rfl).trans (othersSame_updReq _ tag _ (fun _ _ => (readHeader_tag _ _ _ _ _ _ _).trans hr))
    · exact OthersSame.of_reqs rfl
  · exact OthersSame.refl _ _
  · have h1 : ∀ d : Bytes, OthersSame tag c
        (if (d.length != 0) = true then updReq c tag fun q => { q with body := q.body ++ d } else c) := by
      intro d
      split
      · exact othersSame_updReq c tag (fun q => { q with body := q.body ++ d }) (fun _ h => h)
      · exact OthersSame.refl _ _
    simp only
    split
    · exact (h1 _).trans (OthersSame.of_reqs rfl)
    · exact h1 _
  · exact OthersSame.refl _ _

end H2.Client
