import H2.Proofs.ClientRunHdr
import H2.Proofs.ClientGoAway
/-!
# C11 and C18c on the full serial client model, run level

* `no_headers_after_goaway`: once `goAway` is set, no step of any run writes a HEADERS frame (no new stream).
* `goaway_disclaims`: what a GOAWAY(last > 0) does, request by request: a waiting request on a stream above `last` gets
  exactly `goAwayErr` (retryable unless its body came from a reader); a request none of whose streams is above `last`
  is not touched and stays in the table.
* `headers_within_limit`: whenever a step writes HEADERS, `openStreams` was below the `maxStreams` the connection held just
  before, its event is a request and no GOAWAY has been seen.
-/
namespace H2.Client

/-! ## C11 (1): no new stream after GOAWAY -/

/-- what the run-level theorems about HEADERS frames start from -/
structure HInv (c : Conn) : Prop where
  inv : Inv c
  outQ : NoHdr c.outQ
  closed : c.stateClosed = true → c.goAway = true

theorem init_hinv {c : Conn} (h : Init c) : HInv c :=
  ⟨init_inv h, by rw [h.outQ]; exact noHdr_nil, fun hc => by rw [h.stateClosed] at hc; cases hc⟩

theorem step_hinv (c : Conn) (ev : Event) (h : HInv c) : HInv (step c ev).1 :=
  let k := step_ctl c h.inv ev
  ⟨step_inv c ev h.inv, k.outQ h.outQ, k.closed h.closed⟩

theorem run_hinv {c : Conn} (h : HInv c) (evs : List Event) : HInv (run c evs).1 :=
  run_inv (I := HInv) step_hinv evs c h

def writesHeaders : StepOut → Bool
  | .frames fs => fs.any OutFrame.isHeaders
  | _ => false

def opensStream : StepOut → Bool
  | .frames fs => fs.any OutFrame.opens
  | _ => false

theorem opensStream_writes {o : StepOut} (h : opensStream o = true) : writesHeaders o = true := by
  cases o with
  | frames fs =>
    simp only [opensStream, writesHeaders, List.any_eq_true] at h ⊢
    obtain ⟨f, hf, ho⟩ := h
    exact ⟨f, hf, OutFrame.opens_isHeaders ho⟩
  | _ => cases h

theorem not_writes_not_opens {o : StepOut} (h : writesHeaders o = false) : opensStream o = false := by
  cases ho : opensStream o with
  | false => rfl
  | true => rw [opensStream_writes ho] at h; cases h

theorem canOpen_goAway {c : Conn} (h : canOpenStream c = true) : c.goAway = false := by
  simp only [canOpenStream, Bool.and_eq_true, Bool.not_eq_true'] at h
  exact h.1.1

theorem noHdr_any {fs : List OutFrame} (h : NoHdr fs) : fs.any OutFrame.isHeaders = false := by
  rw [List.any_eq_false]
  intro f hf; rw [h f hf]; simp

theorem step_after_goaway (c : Conn) (h : HInv c) (hg : c.goAway = true) (ev : Event) :
    (step c ev).1.goAway = true ∧ writesHeaders (step c ev).2 = false := by
  refine ⟨(step_ctl c h.inv ev).goAway hg, ?_⟩
  rcases step_frames_spec c h.inv h.outQ ev with ⟨_, hf⟩ | ⟨r, _, hc, _⟩
  · cases ho : (step c ev).2 with
    | frames fs => exact noHdr_any (hf fs ho)
    | _ => rfl
  · rw [canOpen_goAway hc] at hg; cases hg

theorem no_headers_after_goaway (c : Conn) (h : HInv c) (hg : c.goAway = true) (evs : List Event) :
    AllSteps (fun _ _ c' o => c'.goAway = true ∧ writesHeaders o = false) c evs := by
  refine allSteps_of_inv (I := fun c => HInv c ∧ c.goAway = true) ?_ ?_ evs c ⟨h, hg⟩
  · intro c e ⟨h, hg⟩; exact ⟨step_hinv c e h, (step_after_goaway c h hg e).1⟩
  · intro c e ⟨h, hg⟩; exact step_after_goaway c h hg e

/-! ## C11 (2): who is disclaimed, who is kept -/

theorem getReq_refuse_ne (c : Conn) (sid : Nat) (t tag : String) (hne : tag ≠ t) :
    getReq (refuse c sid t) tag = getReq c tag := by
  rcases refuse_cases c sid t with ⟨_, h⟩ | ⟨r, _, _, h⟩ <;> rw [h]
  · rfl
  · rw [getReq_finish, getReq_resolve_other c t tag _ hne]

def disclaimed (r : Req) : Req := { r with errBuf := some (goAwayErr r) }

/-- `refuse` on the tag itself: a waiting request gets `goAwayErr`; one that has it keeps it -/
theorem getReq_refuse_self (c : Conn) (sid : Nat) (tag : String) (r : Req) (hd : r.done = false) (he : r.errBuf = none)
    (h : getReq c tag = some r ∨ getReq c tag = some (disclaimed r)) :
    getReq (refuse c sid tag) tag = some (disclaimed r) := by
  rcases h with h | h
  · exact refuse_resolves c sid tag r h hd he
  · rw [getReq_refuse c sid tag _ h hd]
    rcases (disclaimed r).resolve_cases (goAwayErr (disclaimed r)) with ⟨_, e⟩ | ⟨_, hn, _⟩
    · rw [e]
    · cases hn

theorem refuseAbove_spec (tag : String) (r : Req) (hd : r.done = false) (he : r.errBuf = none) (l : List (Nat × String)) :
    ∀ c : Conn,
      ((getReq c tag = some r ∨ getReq c tag = some (disclaimed r)) →
        (getReq (refuseAbove c l) tag = some r ∨ getReq (refuseAbove c l) tag = some (disclaimed r)) ∧
        ((getReq c tag = some (disclaimed r) ∨ ∃ sid, (sid, tag) ∈ l ∧ sid > c.closeRef) →
          getReq (refuseAbove c l) tag = some (disclaimed r))) := by
  induction l with
  | nil =>
    intro c h
    refine ⟨h, ?_⟩
    rintro (h2 | ⟨sid, hm, _⟩)
    · exact h2
    · cases hm
  | cons x xs ih =>
    intro c h
    obtain ⟨sid, t⟩ := x
    simp only [refuseAbove]
    split
    · rename_i hgt
      by_cases ht : t = tag
      · subst ht
        have h1 := getReq_refuse_self c sid t r hd he h
        obtain ⟨i1, i2⟩ := ih (refuse c sid t) (.inr h1)
        exact ⟨i1, fun _ => i2 (.inl h1)⟩
      · have hne : tag ≠ t := fun e => ht e.symm
        have h1 : getReq (refuse c sid t) tag = getReq c tag := getReq_refuse_ne c sid t tag hne
        obtain ⟨i1, i2⟩ := ih (refuse c sid t) (by rw [h1]; exact h)
        refine ⟨i1, ?_⟩
        rintro (h2 | ⟨s, hm, hs⟩)
        · exact i2 (.inl (by rw [h1]; exact h2))
        · simp only [List.mem_cons, Prod.mk.injEq] at hm
          rcases hm with ⟨_, e⟩ | hm
          · exact absurd e.symm ht
          · exact i2 (.inr ⟨s, hm, by rw [(quiet_refuse _ _ _).closeRef]; exact hs⟩)
    · rename_i hle
      obtain ⟨i1, i2⟩ := ih c h
      refine ⟨i1, ?_⟩
      rintro (h2 | ⟨s, hm, hs⟩)
      · exact i2 (.inl h2)
      · simp only [List.mem_cons, Prod.mk.injEq] at hm
        rcases hm with ⟨e1, _⟩ | hm
        · rw [e1] at hs; exact absurd hs hle
        · exact i2 (.inr ⟨s, hm, hs⟩)

theorem refuseAbove_keeps (tag : String) (l : List (Nat × String)) : ∀ c : Conn,
    (∀ p ∈ l, p.1 > c.closeRef → p.2 ≠ tag) → getReq (refuseAbove c l) tag = getReq c tag := by
  induction l with
  | nil => intro c _; rfl
  | cons x xs ih =>
    intro c hl
    obtain ⟨sid, t⟩ := x
    simp only [refuseAbove]
    split
    · rename_i hgt
      have hne : tag ≠ t := fun e => hl (sid, t) (List.mem_cons_self ..) hgt e.symm
      rw [ih (refuse c sid t) fun p hp hg =>
        hl p (List.mem_cons_of_mem _ hp) (by rw [(quiet_refuse _ _ _).closeRef] at hg; exact hg)]
      exact getReq_refuse_ne c sid t tag hne
    · exact ih c (fun p hp => hl p (List.mem_cons_of_mem _ hp))

theorem goaway_disclaims (c : Conn) (f : Frame.Frame) (last code : Nat) (d : Bytes)
    (hs : f.stream = 0) (hb : f.body = .goAway last code d) (hl : 0 < last) :
    (∀ sid tag r, (sid, tag) ∈ c.reqQueued → sid > last → getReq c tag = some r → r.done = false → r.errBuf = none →
      getReq (rdFrame c f).1 tag = some { r with errBuf := some (goAwayErr r) }) ∧
    (∀ tag, (∀ sid, (sid, tag) ∈ c.reqQueued → sid ≤ last) →
      getReq (rdFrame c f).1 tag = getReq c tag ∧
      ∀ sid, (sid, tag) ∈ c.reqQueued → (sid, tag) ∈ (rdFrame c f).1.reqQueued) := by
  rw [rdFrame_goAway c f last code d hs hb, if_neg (by simpa using Nat.ne_of_gt hl), afterGoAway]
  constructor
  · intro sid tag r hm hgt hq hd he
    exact ((refuseAbove_spec tag r hd he c.reqQueued { c with goAway := true, closeRef := last, stateClosed := true })
      (.inl hq)).2 (.inr ⟨sid, hm, hgt⟩)
  · intro tag hle
    have hl' : ∀ p ∈ c.reqQueued, p.1 > last → p.2 ≠ tag := by
      intro p hp hg e
      have := hle p.1 (by rw [← e]; exact hp)
      omega
    exact ⟨refuseAbove_keeps tag c.reqQueued { c with goAway := true, closeRef := last, stateClosed := true } hl',
      fun sid hm => (refuseAbove_table c.reqQueued { c with goAway := true, closeRef := last, stateClosed := true }).2
        (sid, tag) hm (hle sid hm)⟩

/-! ## C18c: MAX_CONCURRENT_STREAMS at every HEADERS written -/

theorem canOpen_below {c : Conn} (h : canOpenStream c = true) : c.openStreams < (c.maxStreams : Int) := by
  simp only [canOpenStream, Bool.and_eq_true, decide_eq_true_eq] at h
  exact h.2

theorem headers_within_limit (c : Conn) (h : HInv c) (evs : List Event) :
    AllSteps (fun c e _ o => writesHeaders o = true →
      c.openStreams < (c.maxStreams : Int) ∧ c.goAway = false ∧ ∃ r, e = .req r) c evs := by
  refine allSteps_of_inv (I := HInv) step_hinv ?_ evs c h
  intro c e h hw
  rcases step_frames_spec c h.inv h.outQ e with ⟨_, hf⟩ | ⟨r, he, hc, _⟩
  · cases ho : (step c e).2 with
    | frames fs => rw [ho] at hw; rw [show writesHeaders (.frames fs) = fs.any OutFrame.isHeaders from rfl, noHdr_any (hf fs ho)] at hw; cases hw
    | _ => rw [ho] at hw; cases hw
  · exact ⟨canOpen_below hc, canOpen_goAway hc, r, he⟩

end H2.Client
