import H2.Proofs.MsgRefineSplit
/-!
# C20 — refinement: one frame through the body of the stream loop

* `hhf_loop`, `hhf_block` — `handleHeaderFrame` IS `fieldLoop` on `prevHdr ++ fragment`; on a HEADERS frame that holds a whole
  block (the request's, or the trailers') it gives what `Msg.loop` gives on the decoded fields
* `hf_hdr` — `handleFrame` on a header-bearing frame that `verifyState` lets through
* `dispatchOrSend_decision` — at END_STREAM: dispatch record (with `Msg.St.view`) iff `lastClause`, else RST_STREAM(PROTOCOL_ERROR)
* `knownStream_refused`, `knownStream_open`, `knownStream_decides` — the loop body around a frame that is refused / that
  leaves the stream open / that completes the request
* `headers_end_stream` — the HEADERS frame (END_HEADERS | END_STREAM) that ends a request; `request_one_frame` — a whole request
  in one such frame against `Msg.validate`
-/
namespace H2.Server.Lock
open H2.Server H2.Frame

/-! ## `handleHeaderFrame` is the field loop -/

theorem hhf_loop (s : Srv) (st : Strm) (fr : Frame)
    (hlast : (st.headersFinished && !Frame.hasFlag fr.flags Gen.c_FlagEndStream) = false)
    (hdep : hdrSelfDep st fr.body = false) :
    handleHeaderFrame s st fr =
      fieldLoop ((st.prevHdr ++ (hdrParts fr.body).2.2.2).length + 1) s
        (hdrPre st (hdrParts fr.body).1 (Frame.hasFlag fr.flags Gen.c_FlagEndHeaders))
        (!(hdrPre st (hdrParts fr.body).1 (Frame.hasFlag fr.flags Gen.c_FlagEndHeaders)).fieldSeen)
        (hdrParts fr.body).2.1 0 (st.prevHdr ++ (hdrParts fr.body).2.2.2) := by
  rw [handleHeaderFrame_eq, hlast, hdep]
  rfl

theorem hdrSelfDep_headers {st : Strm} {fr : Frame} {es eh : Bool} {prio : Option (Nat × Nat)} {frag : Bytes}
    (hb : fr.body = .headers es eh prio frag) (hprio : ∀ dep w, prio = some (dep, w) → (dep == st.id) = false) :
    hdrSelfDep st fr.body = false := by
  rw [hb]
  cases prio with
  | none => rfl
  | some p => exact hprio p.1 p.2 rfl

theorem hdrPre_open (st : Strm) (isCont eh : Bool) (hfin : st.headersFinished = false) :
    hdrPre st isCont eh = if isCont then { st with prevHdr := [] } else { st with fieldSeen := false, prevHdr := [] } := by
  have ht : hdrTrailer st eh = st := by
    unfold hdrTrailer
    rw [hfin]
    rfl
  unfold hdrPre
  rw [ht]
  cases isCont <;> rfl

theorem hhf_headers (s : Srv) (st : Strm) (fr : Frame) (es eh : Bool) (prio : Option (Nat × Nat)) (frag : Bytes)
    (hb : fr.body = .headers es eh prio frag) (hfin : st.headersFinished = false)
    (hprio : ∀ dep w, prio = some (dep, w) → (dep == st.id) = false) :
    handleHeaderFrame s st fr = feedPiece s { st with fieldSeen := false } eh frag := by
  rw [hhf_loop s st fr (by rw [hfin]; rfl) (hdrSelfDep_headers hb hprio), hb, hdrPre_open _ _ _ hfin]
  rfl

theorem hhf_cont (s : Srv) (st : Strm) (fr : Frame) (eh : Bool) (frag : Bytes)
    (hb : fr.body = .continuation eh frag) (hfin : st.headersFinished = false) :
    handleHeaderFrame s st fr = feedPiece s st eh frag := by
  rw [hhf_loop s st fr (by rw [hfin]; rfl) (by rw [hb]; rfl), hb, hdrPre_open _ _ _ hfin]
  rfl

theorem hdrPre_end (st : Strm) :
    (hdrPre st false true).ctl = st.ctl ∧ (st.Good → (hdrPre st false true).Good) ∧ (hdrPre st false true).prevHdr = [] ∧
    (hdrPre st false true).fieldSeen = false ∧
    msgSt (hdrPre st false true) = if st.headersFinished then Msg.startTrailers (msgSt st) else msgSt st := by
  have ht : hdrTrailer st true = if st.headersFinished then { st with regularSeen := true } else st := by
    unfold hdrTrailer
    cases st.headersFinished <;> rfl
  unfold hdrPre
  rw [ht]
  by_cases h : st.headersFinished = true
  · rw [if_pos h, if_pos h]; exact ⟨rfl, id, rfl, rfl, rfl⟩
  · rw [if_neg h, if_neg h]; exact ⟨rfl, id, rfl, rfl, rfl⟩

/-- **a whole block in one HEADERS frame** (END_HEADERS; a trailer block also carries END_STREAM), decoded completely to `fs`:
`handleHeaderFrame` gives what `Msg.loop` gives on `fs`, from the state the block kind calls for -/
theorem hhf_block (s : Srv) (st : Strm) (fr : Frame) (es : Bool) (prio : Option (Nat × Nat)) (frag : Bytes)
    (hb : fr.body = .headers es true prio frag) (heh : Frame.hasFlag fr.flags Gen.c_FlagEndHeaders = true)
    (hlast : st.headersFinished = true → Frame.hasFlag fr.flags Gen.c_FlagEndStream = true)
    (hprio : ∀ dep w, prio = some (dep, w) → (dep == st.id) = false) (hprev : st.prevHdr = []) (hg : st.Good)
    (fs : List Hpack.Field) (d : Hpack.DecState) (hdec : decRun (frag.length + 1) s.dec true 0 frag = (fs, .clean d)) :
    (handleHeaderFrame s st fr).2.1.ctl = st.ctl ∧ (handleHeaderFrame s st fr).2.1.Good ∧
    match Msg.loop (cfgOf s.cfg) (if st.headersFinished then Msg.startTrailers (msgSt st) else msgSt st) (fs.map kv) with
    | .error v => ∃ e, (handleHeaderFrame s st fr).2.2 = some e ∧ absErr e = v
    | .ok m => (handleHeaderFrame s st fr).2.2 = none ∧ msgSt (handleHeaderFrame s st fr).2.1 = m ∧
        (handleHeaderFrame s st fr).1.dec = d ∧ (handleHeaderFrame s st fr).2.1.prevHdr = [] := by
  obtain ⟨pc, pg, pp, ps, pm⟩ := hdrPre_end st
  have hL := hhf_loop s st fr (by cases h : st.headersFinished <;> simp [hlast, h]) (hdrSelfDep_headers hb hprio)
  rw [hb, heh, hprev] at hL
  simp only [hdrParts, List.nil_append, ps, Bool.not_false] at hL
  rw [hL]
  obtain ⟨kc, kg, _⟩ := fieldLoop_ctl (frag.length + 1) s (hdrPre st false true) true true 0 frag
  refine ⟨kc.trans pc, kg (pg hg), ?_⟩
  have h := fieldLoop_clean (frag.length + 1) s (hdrPre st false true) true true 0 frag (pg hg).1 fs d hdec
  rw [pm] at h
  cases hl : Msg.loop (cfgOf s.cfg) (if st.headersFinished then Msg.startTrailers (msgSt st) else msgSt st) (fs.map kv) with
  | error v => rw [hl] at h; exact h
  | ok m => rw [hl] at h; exact ⟨h.1, h.2.1, by rw [h.2.2.1], h.2.2.2.trans pp⟩

/-! ## the decision at END_STREAM -/

/-- the message model's request view as a dispatch record of the full model -/
def dispOut (sid : Nat) (v : MsgSpec.View) (body : Digest) : Out := .dispatch sid v.method v.path v.authority v.fields body

theorem reqView_msg (st : Strm) (hu : st.uri = st.path) : reqView st = dispOut st.id (msgSt st).view st.body := by
  simp only [reqView, dispOut, Msg.St.view, msgSt, viewFields, hu]
  cases st.contentType <;> cases st.userAgent <;> rfl

/-- a request that is complete but for the decision: END_STREAM received, header block(s) finished, not handed over yet -/
def AtEnd (st : Strm) : Prop := st.state = .halfClosed ∧ st.headersFinished = true ∧ st.responded = false

/-- the message model's last clause (`Msg.validate` after `Msg.message`) on the state `m` with `n` DATA octets received -/
def lastClause (m : Msg.St) (n : Nat) : Msg.Verdict := if m.hasCL ∧ m.cl ≠ n then Msg.eProtocol else .dispatch

/-- **decision**: at END_STREAM `dispatchOrSend` hands the request over iff the message model's last clause says so, with the
message model's request view; otherwise it answers RST_STREAM(PROTOCOL_ERROR) — nothing else is sent -/
theorem dispatchOrSend_decision (r : R) (uid : Nat) (st : Strm) (he : AtEnd st) (hg : st.Good) :
    (dispatchOrSend r uid st).out = r.out ++
      [match lastClause (msgSt st) st.recvBody with
       | .dispatch => dispOut st.id (msgSt st).view st.body
       | _ => .rst st.id Gen.c_ProtocolError] := by
  obtain ⟨h1, h2, h3⟩ := he
  have hcl : ((st.recvBody : Int) != st.contentLength) = decide (st.contentLength.toNat ≠ st.recvBody) := by
    have := hg.1
    by_cases h : (st.recvBody : Int) = st.contentLength
    · have : st.contentLength.toNat = st.recvBody := by omega
      simp [h, this]
    · have : st.contentLength.toNat ≠ st.recvBody := by omega
      simp [h, this]
  cases hh : st.hasCL
  · simp [dispatchOrSend, h1, h2, h3, hh, lastClause, msgSt, dispatch_out, reqView_msg st hg.2]
  · by_cases hc : st.contentLength.toNat = st.recvBody
    · simp [dispatchOrSend, h1, h2, h3, hh, lastClause, msgSt, hcl, hc, dispatch_out, reqView_msg st hg.2]
    · simp [dispatchOrSend, h1, h2, h3, hh, lastClause, msgSt, hcl, hc, Msg.eProtocol, writeReset, R.emit, R.updStrm]

/-! ## `handleState` -/

theorem handleState_uid (fr : Frame) (x : Strm) : (handleState fr x).uid = x.uid := by
  rw [handleState_after]

theorem handleState_idle (fr : Frame) (x : Strm) (ht : fr.typ = Gen.c_FrameHeaders) (hs : x.state = .idle) :
    handleState fr x = { x with state := if Frame.hasFlag fr.flags Gen.c_FlagEndStream then .halfClosed else .open } := by
  rw [handleState_after, hs, StState.after_idle ht]

theorem handleState_open (fr : Frame) (x : Strm) (ht : fr.typ ≠ Gen.c_FrameResetStream) (hs : x.state = .open) :
    handleState fr x =
      if (fr.typ == Gen.c_FrameData || fr.typ == Gen.c_FrameHeaders) && Frame.hasFlag fr.flags Gen.c_FlagEndStream then
        { x with state := .halfClosed }
      else x := by
  rw [handleState_after, hs, StState.after_open ht]
  split
  · rfl
  · rw [← hs]

/-! ## the loop body -/

theorem knownStream_accepted (r : R) (uid : Nat) (fr : Frame) (st1 : Strm) (hp : headersPrelude r fr = (r, true))
    (hok : (handleFrame r uid fr).2 = none) (hg1 : (handleFrame r uid fr).1.getStrm uid = some st1) :
    knownStream r uid fr false =
      closeIfClosed (dispatchOrSend ((handleFrame r uid fr).1.updStrm uid (handleState fr)) uid (handleState fr st1)) uid := by
  have hg2 := getStrm_upd _ uid (handleState fr) st1 (fun x hx => (handleState_uid fr x).trans hx) hg1
  rw [knownStream_of_pre uid false hp, hok]
  exact knownTail_of false hg2

theorem knownStream_open (r : R) (uid : Nat) (fr : Frame) (st1 : Strm) (hp : headersPrelude r fr = (r, true))
    (hok : (handleFrame r uid fr).2 = none) (hg1 : (handleFrame r uid fr).1.getStrm uid = some st1)
    (ho : (handleState fr st1).state = .open) (hr : (handleState fr st1).responded = false) :
    knownStream r uid fr false = (handleFrame r uid fr).1.updStrm uid (handleState fr) := by
  have hg2 := getStrm_upd _ uid (handleState fr) st1 (fun x hx => (handleState_uid fr x).trans hx) hg1
  rw [knownStream_accepted r uid fr st1 hp hok hg1]
  have hd : dispatchOrSend ((handleFrame r uid fr).1.updStrm uid (handleState fr)) uid (handleState fr st1) =
      (handleFrame r uid fr).1.updStrm uid (handleState fr) := by
    simp [dispatchOrSend, ho, hr]
  rw [hd]
  simp [closeIfClosed, hg2, ho]

theorem knownStream_decides (r : R) (uid : Nat) (fr : Frame) (st1 : Strm) (hp : headersPrelude r fr = (r, true))
    (hok : (handleFrame r uid fr).2 = none) (hg1 : (handleFrame r uid fr).1.getStrm uid = some st1)
    (he : AtEnd (handleState fr st1)) (hg : (handleState fr st1).Good) :
    (knownStream r uid fr false).out = (handleFrame r uid fr).1.out ++
      [match lastClause (msgSt (handleState fr st1)) (handleState fr st1).recvBody with
       | .dispatch => dispOut (handleState fr st1).id (msgSt (handleState fr st1)).view (handleState fr st1).body
       | _ => .rst (handleState fr st1).id Gen.c_ProtocolError] := by
  rw [knownStream_accepted r uid fr st1 hp hok hg1, closeIfClosed_out, dispatchOrSend_decision _ _ _ he hg]
  rfl

/-! ## a frame that is refused -/

theorem writeReset_getStrm (r : R) (sid code uid : Nat) : (writeReset r sid code).getStrm uid = r.getStrm uid := rfl
theorem writeReset_out (r : R) (sid code : Nat) : (writeReset r sid code).out = r.out ++ [.rst sid code] := rfl

theorem writeGoAway_getStrm (r : R) (sid code uid : Nat) (tag : String) : (writeGoAway r sid code tag).getStrm uid = r.getStrm uid := by
  rw [writeGoAway_eq]
  rfl

theorem writeGoAway_out (r : R) (sid code : Nat) (tag : String) :
    (writeGoAway r sid code tag).out = r.out ++ [.goAway ((if sid > r.s.lastID then sid else r.s.lastID) % 2 ^ 31) code tag] :=
  H2.Server.writeGoAway_out r sid code tag

theorem updStrm_out (r : R) (uid : Nat) (f : Strm → Strm) : (r.updStrm uid f).out = r.out := rfl

/-- the frame `writeError` sends for the error `e` about the stream `st` -/
def errOut (r : R) (st : Strm) : SErr → Out
  | .reset code => .rst st.id code
  | .goAway code tag => .goAway ((if st.id > r.s.lastID then st.id else r.s.lastID) % 2 ^ 31) code tag

theorem writeError_spec (r : R) (uid : Nat) (e : SErr) (st : Strm) (hg : r.getStrm uid = some st) :
    (writeError r uid e).out = r.out ++ [errOut r st e] ∧ (writeError r uid e).getStrm uid = some { st with state := .closed } := by
  rw [writeError_of hg]
  cases e with
  | reset code => exact ⟨rfl, getStrm_upd (writeReset r st.id code) uid _ st (fun _ h => h) hg⟩
  | goAway code tag =>
    exact ⟨writeGoAway_out r st.id code tag,
      getStrm_upd (writeGoAway r st.id code tag) uid _ st (fun _ h => h) ((writeGoAway_getStrm ..).trans hg)⟩

/-- **a frame `handleFrame` refuses**: the loop body answers with the one frame `writeError` sends — RST_STREAM(code) on the
stream, or GOAWAY(code) — and nothing else (no dispatch) -/
theorem knownStream_refused (r : R) (uid : Nat) (fr : Frame) (st1 : Strm) (e : SErr) (hp : headersPrelude r fr = (r, true))
    (he : (handleFrame r uid fr).2 = some e) (hg1 : (handleFrame r uid fr).1.getStrm uid = some st1)
    (hresp : st1.responded = false) :
    (knownStream r uid fr false).out = (handleFrame r uid fr).1.out ++ [errOut (handleFrame r uid fr).1 st1 e] := by
  obtain ⟨wo, wg⟩ := writeError_spec (handleFrame r uid fr).1 uid e st1 hg1
  have g2 := getStrm_upd _ uid (fun st => { st with state := StState.closed }) _ (fun _ h => h) wg
  have g3 := getStrm_upd _ uid (handleState fr) _ (fun x hx => (handleState_uid fr x).trans hx) g2
  rw [handleState_closed fr _ rfl] at g3
  rw [knownStream_of_pre uid false hp, he]
  refine onFrameError_cases (P := fun x => (if x.2 then stopLoop x.1 else knownTail x.1 uid fr false).out = _)
    (handleFrame r uid fr).1 uid (some e) nofun fun e' b he' => ?_
  cases he'
  cases b
  · rw [if_neg Bool.false_ne_true, knownTail_of false g3]
    show (closeIfClosed _ uid).out = _
    rw [closeIfClosed_out]
    simp [dispatchOrSend, hresp, wo]
  · exact wo

/-- the output `o` is the answer the verdict `v` of the message model calls for, on stream `sid` -/
def Answers (sid : Nat) (o : Out) : Msg.Verdict → Prop
  | .rst c => o = .rst sid c
  | .goAway c => ∃ l t, o = .goAway l c t
  | .dispatch => False

theorem errOut_answers (r : R) (st : Strm) (e : SErr) : Answers st.id (errOut r st e) (absErr e) := by
  cases e with
  | reset c => rfl
  | goAway c t => exact ⟨_, _, rfl⟩

/-! ## header-bearing frames through `handleFrame` -/

theorem hf_hdr (r : R) (uid : Nat) (fr : Frame) (st : Strm) (hg : r.getStrm uid = some st)
    (htyp : fr.typ = Gen.c_FrameHeaders ∨ fr.typ = Gen.c_FrameContinuation)
    (hst : st.state = .open ∨ (st.state = .idle ∧ fr.typ = Gen.c_FrameHeaders)) :
    handleFrame r uid fr = hfHdr r uid st fr := by
  have hv : verifyState st fr = none ∧ (decide (st.state.rank ≥ StState.halfClosed.rank) && !continuingHeaders st fr) = false := by
    rcases hst with h | ⟨h, ht⟩
    · exact ⟨by simp [verifyState, h], by rw [h]; rfl⟩
    · exact ⟨by rw [verifyState, h, ht]; rfl, by rw [h]; rfl⟩
  have ht : (fr.typ == Gen.c_FrameHeaders || fr.typ == Gen.c_FrameContinuation) = true := by
    rcases htyp with h | h <;> rw [h] <;> rfl
  rw [handleFrame_eq, hg]
  simp only [hv.1, ht, if_true]
  rw [hfHeaders_eq, hv.2]
  rfl

theorem hhf_cfg (s : Srv) (st : Strm) (fr : Frame) : (handleHeaderFrame s st fr).1.cfg = s.cfg := by
  rw [(handleHeaderFrame_keeps s st fr).1]

theorem getStrm_hdrUpd {r : R} {uid : Nat} {st : Strm} (fr : Frame) (hg : r.getStrm uid = some st) :
    (hdrUpd r uid st fr).getStrm uid = some (handleHeaderFrame r.s st fr).2.1 := by
  obtain ⟨k1, k2⟩ := handleHeaderFrame_keeps r.s st fr
  have hu : (handleHeaderFrame r.s st fr).2.1.uid = st.uid := congrArg Strm.Core.uid k2
  refine getStrm_upd _ uid _ st (fun _ _ => hu.trans (by simpa using List.find?_some hg)) ?_
  unfold R.getStrm
  rw [k1]
  exact hg

theorem validatePseudo_msg (st : Strm) :
    validatePseudo st = if Msg.pseudoOK (msgSt st) then none else some (.reset Gen.c_ProtocolError) := by
  have key : ∀ (a b c d : Bool) (x : SErr),
      (if (!a || !b || !c) = true then some x else if d = true then some x else none) =
      if (a && b && c && !d) = true then none else some x := by
    intro a b c d x
    cases a <;> cases b <;> cases c <;> cases d <;> rfl
  exact key _ _ _ _ _

/-- **the HEADERS frame that ends the request** (END_HEADERS | END_STREAM, the whole block in it) — the request itself on a
stream just opened, or the trailers on the open stream: refused with the answer `Msg.loop` over its fields calls for, or the
decision at END_STREAM on the state after them -/
theorem headers_end_stream (r : R) (uid : Nat) (fr : Frame) (st : Strm) (es : Bool) (prio : Option (Nat × Nat)) (frag : Bytes)
    (hg : r.getStrm uid = some st) (hp : headersPrelude r fr = (r, true)) (htyp : fr.typ = Gen.c_FrameHeaders)
    (hst : st.state = .idle ∨ st.state = .open) (hresp : st.responded = false)
    (hb : fr.body = .headers es true prio frag) (heh : Frame.hasFlag fr.flags Gen.c_FlagEndHeaders = true)
    (hes : Frame.hasFlag fr.flags Gen.c_FlagEndStream = true)
    (hprio : ∀ dep w, prio = some (dep, w) → (dep == st.id) = false) (hprev : st.prevHdr = []) (hgood : st.Good)
    (fs : List Hpack.Field) (d : Hpack.DecState) (hdec : decRun (frag.length + 1) r.s.dec true 0 frag = (fs, .clean d)) :
    match Msg.loop (cfgOf r.s.cfg) (if st.headersFinished then Msg.startTrailers (msgSt st) else msgSt st) (fs.map kv) with
    | .error v => ∃ e, (handleFrame r uid fr).2 = some e ∧ absErr e = v ∧
        ∃ o, (knownStream r uid fr false).out = r.out ++ [o] ∧ Answers st.id o v
    | .ok m =>
      if Msg.pseudoOK m then
        (knownStream r uid fr false).out = r.out ++
          [match lastClause m st.recvBody with
           | .dispatch => dispOut st.id m.view st.body
           | _ => .rst st.id Gen.c_ProtocolError]
      else (handleFrame r uid fr).2 = some (.reset Gen.c_ProtocolError) ∧
        (knownStream r uid fr false).out = r.out ++ [.rst st.id Gen.c_ProtocolError] := by
  obtain ⟨kc, kg, hB⟩ := hhf_block r.s st fr es prio frag hb heh (fun _ => hes) hprio hprev hgood fs d hdec
  have hF := hf_hdr r uid fr st hg (.inl htyp) (hst.elim (fun h => .inr ⟨h, htyp⟩) .inl)
  unfold hfHdr at hF
  have g1 := getStrm_hdrUpd fr hg
  rcases hX : handleHeaderFrame r.s st fr with ⟨s1, st1, e1⟩
  rw [hX] at kc kg hB hF g1
  simp only [heh, if_true] at kc kg hB hF g1
  have hid : st1.id = st.id := congrArg Ctl.id kc
  have hresp1 : st1.responded = false := (congrArg Ctl.responded kc).trans hresp
  cases hl : Msg.loop (cfgOf r.s.cfg) (if st.headersFinished then Msg.startTrailers (msgSt st) else msgSt st) (fs.map kv) with
  | error v =>
    rw [hl] at hB
    obtain ⟨e, he, hv⟩ := hB
    subst he
    have hk := knownStream_refused r uid fr st1 e hp (by rw [hF]) (by rw [hF]; exact g1) hresp1
    rw [hF] at hk ⊢
    exact ⟨e, rfl, hv, _, hk, by rw [← hv, ← hid]; exact errOut_answers _ _ _⟩
  | ok m =>
    rw [hl] at hB
    obtain ⟨he, hm, _, hpv⟩ := hB
    subst he
    simp only [hpv, List.isEmpty_nil, if_true, validatePseudo_msg, hm] at hF
    have g2 := getStrm_upd _ uid (fun x => { x with headersFinished := true }) _ (fun _ h => h) g1
    cases hps : Msg.pseudoOK m
    · simp only [hps, Bool.false_eq_true, if_false] at hF ⊢
      have hk := knownStream_refused r uid fr { st1 with headersFinished := true } (.reset Gen.c_ProtocolError) hp (by rw [hF])
        (by rw [hF]; exact g2) hresp1
      rw [hF] at hk ⊢
      exact ⟨rfl, by rw [hk, ← hid]; rfl⟩
    · simp only [hps, if_true] at hF ⊢
      have hS : handleState fr { st1 with headersFinished := true } = { st1 with headersFinished := true, state := .halfClosed } := by
        have hs1 : st1.state = st.state := congrArg Ctl.state kc
        rcases hst with h | h
        · rw [handleState_idle fr { st1 with headersFinished := true } htyp (hs1.trans h), hes]; rfl
        · rw [handleState_open fr { st1 with headersFinished := true } (by rw [htyp]; decide) (hs1.trans h), htyp, hes]; rfl
      have hk := knownStream_decides r uid fr _ hp (by rw [hF]) (by rw [hF]; exact g2)
        (by rw [hS]; exact ⟨rfl, rfl, hresp1⟩) (by rw [hS]; exact kg)
      rw [hS, hF] at hk
      rw [hk, ← hm, ← hid, ← show st1.recvBody = st.recvBody from congrArg Ctl.recvBody kc,
        ← show st1.body = st.body from congrArg Ctl.body kc]
      rfl

/-! ## the message model, clause by clause -/

theorem validate_hs_error (cfg : Msg.Cfg) (hs tr : List MsgSpec.Field) (n : Nat) (v : Msg.Verdict)
    (h : Msg.loop cfg Msg.St.init hs = .error v) : Msg.validate cfg hs tr n = v := by
  simp [Msg.validate, Msg.message, h]

theorem validate_pseudo (cfg : Msg.Cfg) (hs tr : List MsgSpec.Field) (n : Nat) (m : Msg.St)
    (h : Msg.loop cfg Msg.St.init hs = .ok m) (hp : Msg.pseudoOK m = false) : Msg.validate cfg hs tr n = Msg.eProtocol := by
  simp [Msg.validate, Msg.message, h, hp]

theorem validate_body (cfg : Msg.Cfg) (hs tr : List MsgSpec.Field) (n : Nat) (m : Msg.St)
    (h : Msg.loop cfg Msg.St.init hs = .ok m) (hp : Msg.pseudoOK m = true) (hb : 0 < cfg.maxBody ∧ cfg.maxBody < n) :
    Msg.validate cfg hs tr n = Msg.eTooLarge := by
  simp [Msg.validate, Msg.message, h, hp, hb]

theorem validate_tr_error (cfg : Msg.Cfg) (hs tr : List MsgSpec.Field) (n : Nat) (m : Msg.St) (v : Msg.Verdict)
    (h : Msg.loop cfg Msg.St.init hs = .ok m) (hp : Msg.pseudoOK m = true) (hb : ¬ (0 < cfg.maxBody ∧ cfg.maxBody < n))
    (ht : Msg.loop cfg (Msg.startTrailers m) tr = .error v) : Msg.validate cfg hs tr n = v := by
  simp only [Msg.validate, Msg.message, h, hp, Bool.not_true, Bool.false_eq_true, if_false, hb, ht]

theorem validate_end (cfg : Msg.Cfg) (hs tr : List MsgSpec.Field) (n : Nat) (m mt : Msg.St)
    (h : Msg.loop cfg Msg.St.init hs = .ok m) (hp : Msg.pseudoOK m = true) (hb : ¬ (0 < cfg.maxBody ∧ cfg.maxBody < n))
    (ht : Msg.loop cfg (Msg.startTrailers m) tr = .ok mt) :
    Msg.validate cfg hs tr n = lastClause mt n ∧ (lastClause mt n = .dispatch → Msg.requestView cfg hs tr n = some mt.view) := by
  simp only [Msg.validate, Msg.requestView, Msg.message, h, hp, Bool.not_true, Bool.false_eq_true, if_false, hb, ht, lastClause]
  refine ⟨trivial, fun hd => ?_⟩
  split
  · rename_i hc; simp [hc] at hd; cases hd
  · rfl

/-- `o` answers the request on stream `sid` as the message model's verdict on it says: the dispatch record with the model's
request view (and the body digest `body`), RST_STREAM with the model's code, or GOAWAY with the model's code -/
def Verdicted (cfg : Msg.Cfg) (hs tr : List MsgSpec.Field) (n sid : Nat) (body : Digest) (o : Out) : Prop :=
  match Msg.validate cfg hs tr n with
  | .dispatch => ∃ v, Msg.requestView cfg hs tr n = some v ∧ o = dispOut sid v body
  | w => Answers sid o w

theorem Verdicted.refused {cfg : Msg.Cfg} {hs tr : List MsgSpec.Field} {n sid : Nat} {body : Digest} {o : Out} {v : Msg.Verdict}
    (hv : Msg.validate cfg hs tr n = v) (ho : Answers sid o v) : Verdicted cfg hs tr n sid body o := by
  unfold Verdicted
  rw [hv]
  cases v <;> first | exact ho | exact ho.elim

theorem Verdicted.decided {cfg : Msg.Cfg} {hs tr : List MsgSpec.Field} {n sid : Nat} {body : Digest} {mt : Msg.St}
    (h : Msg.validate cfg hs tr n = lastClause mt n ∧ (lastClause mt n = .dispatch → Msg.requestView cfg hs tr n = some mt.view)) :
    Verdicted cfg hs tr n sid body
      (match lastClause mt n with
       | .dispatch => dispOut sid mt.view body
       | _ => .rst sid Gen.c_ProtocolError) := by
  unfold Verdicted
  rw [h.1]
  by_cases hc : mt.hasCL = true ∧ mt.cl ≠ n
  · have hv : lastClause mt n = Msg.eProtocol := if_pos hc
    rw [hv]
    rfl
  · have hv : lastClause mt n = .dispatch := if_neg hc
    rw [hv]
    exact ⟨_, h.2 hv, rfl⟩

theorem Verdicted.iff_wf {cfg : Msg.Cfg} {hs tr : List MsgSpec.Field} {n sid : Nat} {body : Digest} {o : Out}
    (h : Verdicted cfg hs tr n sid body o) (hl : Msg.WithinLimits cfg hs tr n) (hnt : Msg.NoTrailerCL tr) :
    (MsgSpec.WFRequest hs tr n → ∃ v, Msg.requestView cfg hs tr n = some v ∧ o = dispOut sid v body) ∧
    (¬ MsgSpec.WFRequest hs tr n → o = .rst sid Gen.c_ProtocolError) := by
  have hiff := Msg.dispatched_iff_wf cfg hs tr n hl hnt
  unfold Verdicted at h
  constructor
  · intro hwf
    rw [hiff.mpr hwf] at h
    exact h
  · intro hwf
    rcases Msg.refused_stream_scoped cfg hs tr n hl with hv | hv
    · exact absurd (hiff.mp hv) hwf
    · rw [hv] at h; exact h

/-! ## a whole request in one HEADERS frame -/

/-- a stream as `unknownStream` has just created it -/
structure Fresh (st : Strm) : Prop where
  state : st.state = .idle
  fin : st.headersFinished = false
  resp : st.responded = false
  prev : st.prevHdr = []
  msg : msgSt st = Msg.St.init
  cl : st.contentLength = 0
  uri : st.uri = []
  recv : st.recvBody = 0

theorem Fresh.good {st : Strm} (hf : Fresh st) : st.Good := by
  have hpath : (msgSt st).path = [] := by rw [hf.msg]; rfl
  exact ⟨by rw [hf.cl]; exact Int.le_refl 0, hf.uri.trans hpath.symm⟩

/-- **a whole request in one HEADERS frame (END_HEADERS | END_STREAM)** on a stream just opened: the body of the stream loop
ends with exactly one more output, the one `Msg.validate` calls for on the decoded fields -/
theorem request_one_frame (r : R) (uid : Nat) (fr : Frame) (st : Strm) (prio : Option (Nat × Nat)) (frag : Bytes)
    (hg : r.getStrm uid = some st) (hf : Fresh st) (ht : fr.typ = Gen.c_FrameHeaders)
    (hb : fr.body = .headers true true prio frag) (heh : Frame.hasFlag fr.flags Gen.c_FlagEndHeaders = true)
    (hes : Frame.hasFlag fr.flags Gen.c_FlagEndStream = true)
    (hprio : ∀ dep w, prio = some (dep, w) → (dep == st.id) = false)
    (hp : headersPrelude r fr = (r, true))
    (fs : List Hpack.Field) (d : Hpack.DecState) (hdec : decRun (frag.length + 1) r.s.dec true 0 frag = (fs, .clean d)) :
    ∃ o, (knownStream r uid fr false).out = r.out ++ [o] ∧ Verdicted (cfgOf r.s.cfg) (fs.map kv) [] 0 st.id st.body o := by
  have h := headers_end_stream r uid fr st true prio frag hg hp ht (.inl hf.state) hf.resp hb heh hes hprio hf.prev hf.good fs d hdec
  rw [hf.fin, hf.msg, hf.recv] at h
  simp only [Bool.false_eq_true, if_false] at h
  cases hl : Msg.loop (cfgOf r.s.cfg) Msg.St.init (fs.map kv) with
  | error v =>
    rw [hl] at h
    obtain ⟨_, _, _, o, ho, ha⟩ := h
    exact ⟨o, ho, .refused (validate_hs_error _ _ _ _ v hl) ha⟩
  | ok m =>
    rw [hl] at h
    cases hps : Msg.pseudoOK m
    · simp only [hps, Bool.false_eq_true, if_false] at h
      exact ⟨_, h.2, .refused (validate_pseudo _ _ _ _ m hl hps) rfl⟩
    · simp only [hps, if_true] at h
      exact ⟨_, h, .decided (mt := Msg.startTrailers m) (validate_end _ _ [] 0 m _ hl hps (by omega) rfl)⟩

end H2.Server.Lock
