import H2.Proofs.ClientSerial
/-! Helper lemmas for C11: what `afterGoAway` (`refuse`, `refuseAbove`) does to the table of waiting requests and to
their results. -/
namespace H2.Client

theorem refuse_fields (c : Conn) (sid : Nat) (tag : String) :
    (refuse c sid tag).reqQueued = eraseA c.reqQueued sid ∧ (refuse c sid tag).closeRef = c.closeRef ∧
    (refuse c sid tag).goAway = c.goAway ∧ (refuse c sid tag).stateClosed = c.stateClosed := by
  obtain ⟨_, _, _, h⟩ := refuse_eq c sid tag
  rw [h]
  exact ⟨rfl, rfl, rfl, rfl⟩

theorem rdFrame_goAway (c : Conn) (f : Frame.Frame) (last code : Nat) (d : Bytes) (hs : f.stream = 0)
    (hb : f.body = .goAway last code d) :
    rdFrame c f = if last == 0 then (setLastErr { c with goAway := true } .goaway, true)
      else afterGoAway { c with goAway := true, closeRef := last, stateClosed := true } := by
  simp only [rdFrame, hs, hb, beq_self_eq_true, if_true]

theorem refuseAbove_table (l : List (Nat × String)) :
    ∀ c : Conn,
      (∀ p ∈ (refuseAbove c l).reqQueued, p ∈ c.reqQueued ∧ ∀ q ∈ l, q.1 > c.closeRef → p.1 ≠ q.1) ∧
      (∀ p ∈ c.reqQueued, p.1 ≤ c.closeRef → p ∈ (refuseAbove c l).reqQueued) := by
  induction l with
  | nil => intro c; exact ⟨fun p hp => ⟨hp, fun q hq => nomatch hq⟩, fun p hp _ => hp⟩
  | cons x xs ih =>
    intro c
    obtain ⟨sid, tag⟩ := x
    rw [refuseAbove]
    by_cases hgt : sid > c.closeRef
    · rw [if_pos hgt]
      obtain ⟨r1, r2, _⟩ := refuse_fields c sid tag
      obtain ⟨i4, i5⟩ := ih (refuse c sid tag)
      have mem_erase : ∀ p, p ∈ (refuse c sid tag).reqQueued ↔ p ∈ c.reqQueued ∧ p.1 ≠ sid := fun p => by
        rw [r1, eraseA, List.mem_filter, bne_iff_ne]
      refine ⟨fun p hp => ?_, fun p hp hle => i5 p ((mem_erase p).mpr ⟨hp, by omega⟩) (r2 ▸ hle)⟩
      obtain ⟨hm, hne⟩ := i4 p hp
      refine ⟨((mem_erase p).mp hm).1, fun q hq hq2 => ?_⟩
      rcases List.mem_cons.mp hq with rfl | hq
      · exact ((mem_erase p).mp hm).2
      · exact hne q hq (r2 ▸ hq2)
    · rw [if_neg hgt]
      obtain ⟨i4, i5⟩ := ih c
      refine ⟨fun p hp => ⟨(i4 p hp).1, fun q hq hq2 => ?_⟩, i5⟩
      rcases List.mem_cons.mp hq with rfl | hq
      · exact absurd hq2 hgt
      · exact (i4 p hp).2 q hq hq2

/-! ### resolution -/

theorem getReq_resolve (c : Conn) (t tag : String) (e : Err) :
    getReq (resolve c t e) tag = (getReq c tag).map fun r => if r.tag == t then r.resolve e else r :=
  getReq_updReq c t _ (fun r h => (resolve_tag r e).trans h) tag

/-- the request has a result, or its caller has taken it back -/
def Settled (c : Conn) (tag : String) : Prop :=
  ∀ q, getReq c tag = some q → q.done = true ∨ q.errBuf.isSome = true

theorem settled_resolve (c : Conn) (t tag : String) (e : Err) (h : Settled c tag) : Settled (resolve c t e) tag := by
  intro q hq
  rw [getReq_resolve] at hq
  obtain ⟨r, hr, rfl⟩ := Option.map_eq_some_iff.mp hq
  split
  · exact (r.resolve_settled e).symm
  · exact h r hr

theorem getReq_finish (c : Conn) (t tag : String) (sid : Nat) (e : Err) :
    getReq (finish c t sid e) tag = getReq (resolve c t e) tag := by
  obtain ⟨_, h⟩ := finish_eq c t sid e
  rw [h]
  rfl

theorem settled_refuse_other (c : Conn) (sid : Nat) (t tag : String) (h : Settled c tag) : Settled (refuse c sid t) tag := by
  rcases refuse_cases c sid t with ⟨_, e⟩ | ⟨r, _, _, e⟩ <;> rw [e]
  · exact h
  · intro q hq
    rw [getReq_finish] at hq
    exact settled_resolve c t tag _ h q hq

theorem getReq_refuse (c : Conn) (sid : Nat) (tag : String) (r : Req) (hr : getReq c tag = some r) (hd : r.done = false) :
    getReq (refuse c sid tag) tag = some (r.resolve (goAwayErr r)) := by
  rcases refuse_cases c sid tag with ⟨hs, _⟩ | ⟨r', hr', _, e⟩
  · rw [hs r hr] at hd; cases hd
  · obtain rfl := Option.some.inj (hr'.symm.trans hr)
    rw [e, getReq_finish, resolve, getReq_updReq_self c tag _ (fun q h => (resolve_tag q _).trans h), hr]
    rfl

theorem refuse_resolves (c : Conn) (sid : Nat) (tag : String) (r : Req) (hr : getReq c tag = some r)
    (hd : r.done = false) (he : r.errBuf = none) :
    getReq (refuse c sid tag) tag = some { r with errBuf := some (goAwayErr r) } := by
  rw [getReq_refuse c sid tag r hr hd]
  rcases r.resolve_cases (goAwayErr r) with ⟨h, _⟩ | ⟨_, _, h⟩
  · rw [hd, he] at h
    rcases h with h | h <;> cases h
  · rw [h]

theorem settled_refuse (c : Conn) (sid : Nat) (tag : String) : Settled (refuse c sid tag) tag := by
  rcases refuse_cases c sid tag with ⟨hs, e⟩ | ⟨r, hr, hd, _⟩
  · rw [e]
    exact fun q hq => .inl (hs q hq)
  · intro q hq
    rw [getReq_refuse c sid tag r hr hd] at hq
    cases hq
    exact (r.resolve_settled _).symm

theorem refuseAbove_settles (l : List (Nat × String)) :
    ∀ c : Conn, (∀ tag, Settled c tag → Settled (refuseAbove c l) tag) ∧
      (∀ p ∈ l, p.1 > c.closeRef → Settled (refuseAbove c l) p.2) := by
  induction l with
  | nil => intro c; exact ⟨fun _ h => h, fun p hp => by simp at hp⟩
  | cons x xs ih =>
    intro c
    obtain ⟨sid, tag⟩ := x
    simp only [refuseAbove]
    split
    · rename_i hgt
      obtain ⟨i1, i2⟩ := ih (refuse c sid tag)
      refine ⟨fun t h => i1 t (settled_refuse_other c sid tag t h), ?_⟩
      intro p hp hp2
      simp only [List.mem_cons] at hp
      rcases hp with rfl | hp
      · exact i1 _ (settled_refuse c sid tag)
      · exact i2 p hp (by rw [(refuse_fields c sid tag).2.1]; exact hp2)
    · rename_i hle
      obtain ⟨i1, i2⟩ := ih c
      refine ⟨i1, ?_⟩
      intro p hp hp2
      simp only [List.mem_cons] at hp
      rcases hp with rfl | hp
      · exact absurd hp2 hle
      · exact i2 p hp hp2

end H2.Client
