import H2.Server.Model
/-!
# What each branching function of the full server model does

The invariants of the full model (`ServerExt`, `ServerOnce`, `ServerFlowFull`, `ServerSlotsFull`,
`ServerHdrLimitFull`, `MsgRefine*`, `StreamSMRefine/*`) are proved function by function. For the branching functions of the read loop and the stream loop in
`H2/Server/Model.lean` this file has a case principle `f_outcomes {P} … : P (f …)`: one
hypothesis per way `f` can end, each with the conditions under which that branch is taken. `f_cases` is its corollary
with fewer conditions and fewer branches, for properties that do not need them. The loops have an equation
(`sendDataFuel_succ`, `closeIdleBelow_succ`, `rlDrain_succ`) or an induction principle (`flushStreams_ind`); a function
that only sets fields and appends outputs has the equation that says which (`writeGoAway_eq`, `consumeConnWindow_eq`,
`writeError_of`); a branch that proofs speak of has a name (`hfHdr`, `knownTail`). An invariant proof instantiates the
motive `P`; only step-level lemmas that need the exact result under hypotheses rewrite with the definition.
-/
namespace H2.Server
open H2.Frame (Frame Body)

/-- case analysis on an `if` under a motive, without `split` (which simplifies the whole goal at every call) -/
theorem ite_ind {α : Sort _} {P : α → Prop} {c : Prop} [Decidable c] {a b : α} (ha : c → P a) (hb : ¬c → P b) :
    P (if c then a else b) := by
  by_cases h : c
  · rw [if_pos h]; exact ha h
  · rw [if_neg h]; exact hb h

theorem foldl_inv {α β : Type} (P : β → Prop) (f : β → α → β) (h : ∀ b a, P b → P (f b a))
    (l : List α) (b : β) (hb : P b) : P (l.foldl f b) := by
  induction l generalizing b with
  | nil => exact hb
  | cons a l ih => exact ih _ (h _ _ hb)

/-! ## header blocks: `fieldUpdate`, `fieldLoop`, `handleHeaderFrame`

They touch the header-parsing state and the request view of the stream, and the decoder of the connection. -/

/-- the part of a stream that header-block processing never touches -/
structure Strm.Core where
  uid : Nat
  id : Nat
  window : Int
  state : StState
  origType : Nat
  recvBody : Nat
  responded : Bool
  handlerRunning : Bool
  abandoned : Bool
  body : Digest
  src : Src
  pendOff : Nat
  pendLen : Nat
  pendingEnd : Bool
  stream : Option BodyStream
  bodySize : Int
  bodyRead : Nat

def Strm.core (st : Strm) : Strm.Core :=
  ⟨st.uid, st.id, st.window, st.state, st.origType, st.recvBody, st.responded, st.handlerRunning, st.abandoned,
   st.body, st.src, st.pendOff, st.pendLen, st.pendingEnd, st.stream, st.bodySize, st.bodyRead⟩

/-- the stream record with the size of `f` added to the header list, from which every branch of `fieldUpdate` goes on -/
def counted (st : Strm) (f : Hpack.Field) : Strm :=
  { st with hdrListSize := st.hdrListSize + f.name.length + f.value.length + 32 }

theorem fieldUpdate_cases {P : Strm → Prop} (st : Strm) (f : Hpack.Field)
    (method : P { counted st f with pMethod := true, method := f.value })
    (path : P { counted st f with pPath := true, path := f.value, uri := f.value })
    (scheme : P { counted st f with pScheme := true })
    (authority : P { counted st f with pAuthority := true, host := f.value })
    (otherPseudo : P (counted st f))
    (userAgent : P { counted st f with regularSeen := true, userAgent := some f.value })
    (contentType : P { counted st f with regularSeen := true, contentType := some f.value })
    (contentLength : ∀ n, parseUint f.value = some n →
      P { counted st f with regularSeen := true, contentLength := n, hasCL := true })
    (badLength : P { counted st f with regularSeen := true })
    (other : P { counted st f with regularSeen := true, fields := st.fields ++ [(f.name, f.value)] }) :
    P (fieldUpdate st f) := by
  unfold fieldUpdate
  dsimp only
  refine ite_ind (fun _ => ?_) fun _ => ?_
  · refine ite_ind (fun _ => method) fun _ => ite_ind (fun _ => path) fun _ => ite_ind (fun _ => scheme) fun _ => ?_
    exact ite_ind (fun _ => authority) fun _ => otherPseudo
  · refine ite_ind (fun _ => userAgent) fun _ => ite_ind (fun _ => contentType) fun _ => ite_ind (fun _ => ?_) fun _ => other
    cases h : parseUint f.value with
    | none => exact badLength
    | some n => exact contentLength n h

theorem fieldUpdate_core (st : Strm) (f : Hpack.Field) : (fieldUpdate st f).core = st.core :=
  fieldUpdate_cases (P := fun x => x.core = st.core) st f rfl rfl rfl rfl rfl rfl rfl (fun _ _ => rfl) rfl rfl

theorem fieldLoop_keeps (fuel : Nat) (s : Srv) (st : Strm) (bs eh : Bool) (fp : Nat) (b : Bytes) :
    (fieldLoop fuel s st bs eh fp b).1 = { s with dec := (fieldLoop fuel s st bs eh fp b).1.dec } ∧
    (fieldLoop fuel s st bs eh fp b).2.1.core = st.core := by
  induction fuel generalizing s st fp b with
  | zero => exact ⟨rfl, rfl⟩
  | succ n ih =>
    cases b with
    | nil => exact ⟨rfl, rfl⟩
    | cons c cs =>
      simp only [fieldLoop]
      cases Hpack.Dec.next s.dec bs fp (c :: cs) with
      | needMore => simp only; (repeat' split) <;> exact ⟨rfl, rfl⟩
      | err => exact ⟨rfl, rfl⟩
      | ok dec fo rest =>
        cases fo with
        | none => exact ⟨rfl, rfl⟩
        | some f =>
          simp only [fieldStep]
          split
          · exact ⟨rfl, fieldUpdate_core _ f⟩
          · obtain ⟨h1, h2⟩ := ih { s with dec := dec } (fieldUpdate { st with fieldSeen := true } f) (fp + 1) rest
            exact ⟨by rw [h1], h2.trans (fieldUpdate_core _ f)⟩

theorem fieldVerdict_cases {P : Option SErr → Prop} (cfg : Cfg) (st : Strm) (f : Hpack.Field)
    (ok : ¬(cfg.maxHeaderList > 0 &&
        ((st.hdrListSize + f.name.length + f.value.length + 32 : Nat) : Int) > cfg.maxHeaderList) = true → P none)
    (listTooLong : P (some (.goAway Gen.c_EnhanceYourCalm "header list exceeds the maximum size")))
    (malformed : P (some (.reset Gen.c_ProtocolError)))
    (bodyTooLong : P (some (.reset Gen.c_EnhanceYourCalm))) :
    P (fieldVerdict cfg st f) := by
  unfold fieldVerdict
  dsimp only
  refine ite_ind (fun _ => listTooLong) fun h => ?_
  refine ite_ind (fun _ => malformed) fun _ => ?_
  refine ite_ind (fun _ => ?_) fun _ => ?_
  · refine ite_ind (fun _ => malformed) fun _ => ?_
    refine ite_ind (fun _ => ite_ind (fun _ => malformed) fun _ => ok h) fun _ => ?_
    refine ite_ind (fun _ => ite_ind (fun _ => malformed) fun _ => ok h) fun _ => ?_
    refine ite_ind (fun _ => ite_ind (fun _ => malformed) fun _ => ok h) fun _ => ?_
    exact ite_ind (fun _ => ite_ind (fun _ => malformed) fun _ => ok h) fun _ => malformed
  · refine ite_ind (fun _ => malformed) fun _ => ?_
    refine ite_ind (fun _ => malformed) fun _ => ?_
    refine ite_ind (fun _ => ?_) fun _ => ok h
    cases parseUint f.value with
    | none => exact malformed
    | some n => exact ite_ind (fun _ => malformed) fun _ => ite_ind (fun _ => bodyTooLong) fun _ => ok h

/-- a HEADERS or CONTINUATION payload: is it CONTINUATION, END_HEADERS as parsed, the priority section, the fragment -/
def hdrParts : Body → Bool × Bool × Option (Nat × Nat) × Bytes
  | .headers _ eh p f => (false, eh, p, f)
  | .continuation eh f => (true, eh, none, f)
  | _ => (false, false, none, [])

/-- a trailer section starts: no pseudo-header fields any more; the block is open again unless it ends in this frame -/
def hdrTrailer (st : Strm) (eh : Bool) : Strm :=
  if st.headersFinished && !eh then { st with headersFinished := false, regularSeen := true }
  else if st.headersFinished then { st with regularSeen := true }
  else st

/-- the stream record `handleHeaderFrame` hands to the field loop -/
def hdrPre (st : Strm) (isCont eh : Bool) : Strm :=
  { (if isCont then hdrTrailer st eh else { hdrTrailer st eh with fieldSeen := false }) with prevHdr := [] }

/-- a HEADERS frame whose priority section names the stream itself -/
def hdrSelfDep (st : Strm) (b : Body) : Bool :=
  match (hdrParts b).2.2.1 with
  | some (dep, _) => dep == st.id
  | none => false

theorem handleHeaderFrame_eq (s : Srv) (st : Strm) (fr : Frame) :
    handleHeaderFrame s st fr =
      if (st.headersFinished && !Frame.hasFlag fr.flags Gen.c_FlagEndStream) && !Frame.hasFlag fr.flags Gen.c_FlagEndHeaders then
        (s, st, some (.goAway Gen.c_ProtocolError "stream not open"))
      else if hdrSelfDep st fr.body then
        (s, hdrTrailer st (Frame.hasFlag fr.flags Gen.c_FlagEndHeaders), some (.goAway Gen.c_ProtocolError "stream that depends on itself"))
      else
        let st0 := hdrPre st (hdrParts fr.body).1 (Frame.hasFlag fr.flags Gen.c_FlagEndHeaders)
        let b := st.prevHdr ++ (hdrParts fr.body).2.2.2
        let x := fieldLoop (b.length + 1) s st0 (!st0.fieldSeen) (hdrParts fr.body).2.1 0 b
        if (st.headersFinished && !Frame.hasFlag fr.flags Gen.c_FlagEndStream) && x.2.2.isNone then
          (x.1, x.2.1, some (.reset Gen.c_ProtocolError))
        else x := by
  unfold handleHeaderFrame hdrPre hdrTrailer hdrSelfDep
  generalize Frame.hasFlag fr.flags Gen.c_FlagEndHeaders = eh
  cases fr.body <;> cases st.headersFinished <;> cases eh <;> rfl

theorem hdrTrailer_core (st : Strm) (eh : Bool) : (hdrTrailer st eh).core = st.core := by
  unfold hdrTrailer
  split
  · rfl
  · split <;> rfl

theorem hdrPre_core (st : Strm) (isCont eh : Bool) : (hdrPre st isCont eh).core = st.core := by
  unfold hdrPre
  cases isCont <;> exact hdrTrailer_core st eh

theorem handleHeaderFrame_keeps (s : Srv) (st : Strm) (fr : Frame) :
    (handleHeaderFrame s st fr).1 = { s with dec := (handleHeaderFrame s st fr).1.dec } ∧
    (handleHeaderFrame s st fr).2.1.core = st.core := by
  rw [handleHeaderFrame_eq]
  split
  · exact ⟨rfl, rfl⟩
  · split
    · exact ⟨rfl, hdrTrailer_core _ _⟩
    · have h := fieldLoop_keeps ((st.prevHdr ++ (hdrParts fr.body).2.2.2).length + 1) s
        (hdrPre st (hdrParts fr.body).1 (Frame.hasFlag fr.flags Gen.c_FlagEndHeaders))
        (!(hdrPre st (hdrParts fr.body).1 (Frame.hasFlag fr.flags Gen.c_FlagEndHeaders)).fieldSeen)
        (hdrParts fr.body).2.1 0 (st.prevHdr ++ (hdrParts fr.body).2.2.2)
      dsimp only
      split <;> exact ⟨h.1, h.2.trans (hdrPre_core _ _ _)⟩

/-! ## `consumeConnWindow`, `consumeRecvWindow` -/

/-- the shape of everything `consumeConnWindow` does: a new `recvWin`, some outputs appended -/
def setRecv (r : R) (w : Int) (l : List Out) : R := { r with s := { r.s with recvWin := w }, out := r.out ++ l }

theorem consumeConnWindow_eq (r : R) (n : Nat) :
    consumeConnWindow r n =
      if n == 0 then r
      else if r.s.recvWin - n < (Gen.c_serverMaxWindow : Int) / 2 then
        setRecv r Gen.c_serverMaxWindow [.wu 0 ((Gen.c_serverMaxWindow : Int) - (r.s.recvWin - n)).toNat]
      else setRecv r (r.s.recvWin - n) [] := by
  unfold consumeConnWindow setRecv
  split
  · rfl
  · dsimp only
    split
    · rfl
    · simp

theorem consumeConnWindow_cases {P : R → Prop} (r : R) (n : Nat)
    (quiet : ∀ w, P { r with s := { r.s with recvWin := w } })
    (credit : ∀ w inc, P { (r.emit (.wu 0 inc)) with s := { r.s with recvWin := w } }) : P (consumeConnWindow r n) := by
  rw [consumeConnWindow_eq]
  refine ite_ind (fun _ => quiet r.s.recvWin) fun _ => ite_ind (fun _ => credit _ _) fun _ => ?_
  rw [setRecv, List.append_nil]
  exact quiet _

theorem consumeRecvWindow_eq (r : R) (st : Strm) (fr : Frame) (n : Nat) :
    consumeRecvWindow r st fr n =
      consumeConnWindow (if n ≠ 0 ∧ Frame.hasFlag fr.flags Gen.c_FlagEndStream = false then r.emit (.wu st.id n) else r) n := by
  unfold consumeRecvWindow
  by_cases hn : n = 0
  · subst hn
    rw [if_pos (beq_self_eq_true 0), if_neg (fun h => h.1 rfl)]
    rfl
  · rw [if_neg (mt beq_iff_eq.mp hn)]
    cases Frame.hasFlag fr.flags Gen.c_FlagEndStream <;> simp [hn]

/-- `same`: an empty frame; `final`: the frame ends the stream, which gets no octets back -/
theorem consumeRecvWindow_cases {P : R → Prop} (r : R) (st : Strm) (fr : Frame) (n : Nat)
    (same : P r) (final : P (consumeConnWindow r n)) (credit : P (consumeConnWindow (r.emit (.wu st.id n)) n)) :
    P (consumeRecvWindow r st fr n) :=
  ite_ind (fun _ => same) fun _ => ite_ind (P := fun x => P (consumeConnWindow x n)) (fun _ => credit) fun _ => final

/-! ## `handleFrame` -/

/-- the HEADERS / CONTINUATION branch of `handleFrame` -/
def hfHeaders (r : R) (uid : Nat) (st : Strm) (fr : Frame) : R × Option SErr :=
  if st.state.rank ≥ StState.halfClosed.rank && !continuingHeaders st fr then
    (r, some (.goAway Gen.c_ProtocolError "received headers on a finished stream"))
  else
    let x := handleHeaderFrame r.s st fr
    let r := ({ r with s := x.1 }).updStrm uid fun _ => x.2.1
    match x.2.2 with
    | some e => (r, some e)
    | none =>
      if Frame.hasFlag fr.flags Gen.c_FlagEndHeaders then
        let fin := x.2.1.prevHdr.isEmpty
        let r := r.updStrm uid fun s => { s with headersFinished := fin }
        if !fin then (r, some (.goAway Gen.c_ProtocolError "END_HEADERS received on an incomplete stream"))
        else (r, validatePseudo x.2.1)
      else (r, none)

def dataOf (fr : Frame) : Bytes := match fr.body with | .data _ b => b | _ => []

/-- the DATA branch -/
def hfData (r : R) (uid : Nat) (st : Strm) (fr : Frame) : R × Option SErr :=
  if !st.headersFinished then (r, some (.goAway Gen.c_ProtocolError "stream didn't end the headers"))
  else if st.state.rank ≥ StState.halfClosed.rank then (r, some (.goAway Gen.c_StreamClosedError "stream closed"))
  else
    let d : Bytes := dataOf fr
    let st' := { st with recvBody := st.recvBody + d.length }
    let r := r.updStrm uid fun _ => st'
    if r.s.cfg.maxBody > 0 && st'.recvBody > r.s.cfg.maxBody then (consumeConnWindow r fr.length, some (.reset Gen.c_EnhanceYourCalm))
    else
      let r := r.updStrm uid fun s => { s with body := s.body.add d }
      (consumeRecvWindow r st' fr fr.length, none)

def wuOf (fr : Frame) : Nat := match fr.body with | .windowUpdate n => n | _ => 0

/-- the WINDOW_UPDATE branch -/
def hfWU (r : R) (uid : Nat) (st : Strm) (fr : Frame) : R × Option SErr :=
  if st.state == .idle then (r, some (.goAway Gen.c_ProtocolError "window update on idle stream"))
  else
    let inc : Nat := wuOf fr
    if inc == 0 then (r, some (.goAway Gen.c_ProtocolError "window increment of 0"))
    else
      let w := st.window + inc
      let r := r.updStrm uid fun s => { s with window := w }
      if w > 2 ^ 31 - 1 then (r, some (.reset Gen.c_FlowControlError)) else (r, none)

theorem handleFrame_eq (r : R) (uid : Nat) (fr : Frame) :
    handleFrame r uid fr =
      match r.getStrm uid with
      | none => (r, none)
      | some st =>
        match verifyState st fr with
        | some e => (r, some e)
        | none =>
          if fr.typ == Gen.c_FrameHeaders || fr.typ == Gen.c_FrameContinuation then hfHeaders r uid st fr
          else if fr.typ == Gen.c_FrameData then hfData r uid st fr
          else if fr.typ == Gen.c_FrameResetStream then
            if st.state == .idle then (r, some (.goAway Gen.c_ProtocolError "RST_STREAM on idle stream")) else (r, none)
          else if fr.typ == Gen.c_FramePriority then
            if st.state != .idle && !st.headersFinished then (r, some (.goAway Gen.c_ProtocolError "frame priority on an open stream"))
            else if (match fr.body with | .priority dep _ => dep == st.id | _ => false) then
              (r, some (.goAway Gen.c_ProtocolError "stream that depends on itself"))
            else (r, none)
          else if fr.typ == Gen.c_FrameWindowUpdate then hfWU r uid st fr
          else (r, some (.goAway Gen.c_ProtocolError "invalid frame")) := by
  rfl

/-- the table after a header frame: the decoder moved on, the stream's header state updated -/
def hdrUpd (r : R) (uid : Nat) (st : Strm) (fr : Frame) : R :=
  ({ r with s := (handleHeaderFrame r.s st fr).1 } : R).updStrm uid fun _ => (handleHeaderFrame r.s st fr).2.1

/-- the stream after a DATA frame has been counted -/
def recvd (st : Strm) (fr : Frame) : Strm := { st with recvBody := st.recvBody + (dataOf fr).length }

/-- a HEADERS or CONTINUATION frame for a stream that is at least half-closed and not in the middle of a header block -/
def hdrLate (st : Strm) (fr : Frame) : Bool :=
  st.state.rank ≥ StState.halfClosed.rank && !continuingHeaders st fr

/-- `hfHeaders` past its finished-stream test: the error of `handleHeaderFrame`, or at END_HEADERS the verdict on the
finished block, or nothing yet -/
def hfHdr (r : R) (uid : Nat) (st : Strm) (fr : Frame) : R × Option SErr :=
  match (handleHeaderFrame r.s st fr).2.2 with
  | some e => (hdrUpd r uid st fr, some e)
  | none =>
    if Frame.hasFlag fr.flags Gen.c_FlagEndHeaders then
      ((hdrUpd r uid st fr).updStrm uid fun s => { s with headersFinished := (handleHeaderFrame r.s st fr).2.1.prevHdr.isEmpty },
        if (handleHeaderFrame r.s st fr).2.1.prevHdr.isEmpty then validatePseudo (handleHeaderFrame r.s st fr).2.1
        else some (.goAway Gen.c_ProtocolError "END_HEADERS received on an incomplete stream"))
    else (hdrUpd r uid st fr, none)

theorem hfHeaders_eq (r : R) (uid : Nat) (st : Strm) (fr : Frame) :
    hfHeaders r uid st fr =
      if st.state.rank ≥ StState.halfClosed.rank && !continuingHeaders st fr then
        (r, some (.goAway Gen.c_ProtocolError "received headers on a finished stream"))
      else hfHdr r uid st fr := by
  unfold hfHeaders hfHdr hdrUpd
  dsimp only
  refine ite_congr rfl (fun _ => rfl) fun _ => ?_
  cases (handleHeaderFrame r.s st fr).2.2 with
  | some e => rfl
  | none =>
    cases Frame.hasFlag fr.flags Gen.c_FlagEndHeaders
    · rfl
    · cases (handleHeaderFrame r.s st fr).2.1.prevHdr.isEmpty <;> rfl

theorem verifyState_err {st : Strm} {fr : Frame} {e : SErr} (h : verifyState st fr = some e) :
    ∃ code tag, e = .goAway code tag ∧ code ≠ Gen.c_NoError := by
  unfold verifyState at h
  repeat' split at h
  all_goals first
    | (cases h; exact ⟨_, _, rfl, by decide⟩)
    | cases h

/-- Where the state does not depend on the error returned (`hdrEnd`, `wu`), the error is left open. -/
theorem handleFrame_outcomes {P : R × Option SErr → Prop} (r : R) (uid : Nat) (fr : Frame)
    (absent : r.getStrm uid = none → P (r, none))
    (connErr : ∀ st code tag, r.getStrm uid = some st → code ≠ Gen.c_NoError → P (r, some (.goAway code tag)))
    (plain : fr.typ = Gen.c_FrameResetStream ∨ fr.typ = Gen.c_FramePriority → ∀ st, r.getStrm uid = some st → P (r, none))
    (hdrErr : fr.typ = Gen.c_FrameHeaders ∨ fr.typ = Gen.c_FrameContinuation → ∀ st e, r.getStrm uid = some st →
      hdrLate st fr = false → (handleHeaderFrame r.s st fr).2.2 = some e → P (hdrUpd r uid st fr, some e))
    (hdrMore : fr.typ = Gen.c_FrameHeaders ∨ fr.typ = Gen.c_FrameContinuation → ∀ st, r.getStrm uid = some st →
      hdrLate st fr = false → (handleHeaderFrame r.s st fr).2.2 = none → P (hdrUpd r uid st fr, none))
    (hdrEnd : fr.typ = Gen.c_FrameHeaders ∨ fr.typ = Gen.c_FrameContinuation → ∀ st, r.getStrm uid = some st →
      hdrLate st fr = false → (handleHeaderFrame r.s st fr).2.2 = none → ∀ e,
      P ((hdrUpd r uid st fr).updStrm uid fun s =>
          { s with headersFinished := (handleHeaderFrame r.s st fr).2.1.prevHdr.isEmpty }, e))
    (dataOver : fr.typ = Gen.c_FrameData → ∀ st, r.getStrm uid = some st →
      (r.s.cfg.maxBody > 0 && (recvd st fr).recvBody > r.s.cfg.maxBody) = true →
      P (consumeConnWindow (r.updStrm uid fun _ => recvd st fr) fr.length, some (.reset Gen.c_EnhanceYourCalm)))
    (data : fr.typ = Gen.c_FrameData → ∀ st, r.getStrm uid = some st →
      ¬(r.s.cfg.maxBody > 0 && (recvd st fr).recvBody > r.s.cfg.maxBody) = true →
      P (consumeRecvWindow ((r.updStrm uid fun _ => recvd st fr).updStrm uid fun s => { s with body := s.body.add (dataOf fr) })
          (recvd st fr) fr fr.length, none))
    (wu : fr.typ = Gen.c_FrameWindowUpdate → ∀ st, r.getStrm uid = some st →
      ∀ e, P (r.updStrm uid fun s => { s with window := st.window + wuOf fr }, e)) :
    P (handleFrame r uid fr) := by
  rw [handleFrame_eq]
  cases hg : r.getStrm uid with
  | none => exact absent hg
  | some st =>
    dsimp only
    cases hv : verifyState st fr with
    | some e =>
      obtain ⟨code, tag, rfl, hc⟩ := verifyState_err hv
      exact connErr st code tag hg hc
    | none =>
      dsimp only
      by_cases h1 : (fr.typ == Gen.c_FrameHeaders || fr.typ == Gen.c_FrameContinuation) = true
      · rw [if_pos h1]
        have ht : fr.typ = Gen.c_FrameHeaders ∨ fr.typ = Gen.c_FrameContinuation := by simpa using h1
        unfold hfHeaders
        split
        · exact connErr st _ _ hg (by decide)
        · rename_i hl
          have hl : hdrLate st fr = false := Bool.eq_false_iff.mpr hl
          dsimp only
          cases hx : (handleHeaderFrame r.s st fr).2.2 with
          | some e => exact hdrErr ht st e hg hl hx
          | none =>
            dsimp only
            split
            · split <;> exact hdrEnd ht st hg hl hx _
            · exact hdrMore ht st hg hl hx
      rw [if_neg h1]
      by_cases h2 : (fr.typ == Gen.c_FrameData) = true
      · rw [if_pos h2]
        have ht : fr.typ = Gen.c_FrameData := by simpa using h2
        unfold hfData
        split
        · exact connErr st _ _ hg (by decide)
        · split
          · exact connErr st _ _ hg (by decide)
          · dsimp only
            split
            · rename_i h; exact dataOver ht st hg h
            · rename_i h; exact data ht st hg h
      rw [if_neg h2]
      by_cases h3 : (fr.typ == Gen.c_FrameResetStream) = true
      · rw [if_pos h3]
        exact ite_ind (fun _ => connErr st _ _ hg (by decide)) (fun _ => plain (Or.inl (by simpa using h3)) st hg)
      rw [if_neg h3]
      by_cases h4 : (fr.typ == Gen.c_FramePriority) = true
      · rw [if_pos h4]
        exact ite_ind (fun _ => connErr st _ _ hg (by decide)) fun _ =>
          ite_ind (fun _ => connErr st _ _ hg (by decide)) (fun _ => plain (Or.inr (by simpa using h4)) st hg)
      rw [if_neg h4]
      by_cases h5 : (fr.typ == Gen.c_FrameWindowUpdate) = true
      · rw [if_pos h5]
        have ht : fr.typ = Gen.c_FrameWindowUpdate := by simpa using h5
        unfold hfWU
        refine ite_ind (fun _ => connErr st _ _ hg (by decide)) fun _ => ite_ind (fun _ => connErr st _ _ hg (by decide)) fun _ => ?_
        exact ite_ind (fun _ => wu ht st hg _) (fun _ => wu ht st hg _)
      rw [if_neg h5]
      exact connErr st _ _ hg (by decide)

/-- for a property that does not look at the error returned -/
theorem handleFrame_cases {P : R × Option SErr → Prop} (r : R) (uid : Nat) (fr : Frame)
    (same : ∀ e, P (r, e))
    (hdr : ∀ st, r.getStrm uid = some st → ∀ e, P (hdrUpd r uid st fr, e))
    (hdrEnd : ∀ st, r.getStrm uid = some st → (handleHeaderFrame r.s st fr).2.2 = none → ∀ e,
      P ((hdrUpd r uid st fr).updStrm uid fun s =>
          { s with headersFinished := (handleHeaderFrame r.s st fr).2.1.prevHdr.isEmpty }, e))
    (dataOver : ∀ st, r.getStrm uid = some st →
      (r.s.cfg.maxBody > 0 && (recvd st fr).recvBody > r.s.cfg.maxBody) = true →
      P (consumeConnWindow (r.updStrm uid fun _ => recvd st fr) fr.length, some (.reset Gen.c_EnhanceYourCalm)))
    (data : ∀ st, r.getStrm uid = some st →
      ¬(r.s.cfg.maxBody > 0 && (recvd st fr).recvBody > r.s.cfg.maxBody) = true →
      P (consumeRecvWindow ((r.updStrm uid fun _ => recvd st fr).updStrm uid fun s => { s with body := s.body.add (dataOf fr) })
          (recvd st fr) fr fr.length, none))
    (wu : ∀ st, r.getStrm uid = some st → ∀ e, P (r.updStrm uid fun s => { s with window := st.window + wuOf fr }, e)) :
    P (handleFrame r uid fr) :=
  handleFrame_outcomes r uid fr (fun _ => same _) (fun _ _ _ _ _ => same _) (fun _ _ _ => same _)
    (fun _ st _ hg _ _ => hdr st hg _) (fun _ st hg _ _ => hdr st hg _) (fun _ st hg _ hx => hdrEnd st hg hx)
    (fun _ => dataOver) (fun _ => data) (fun _ => wu)

/-! ## `handleState` -/

/-- the state `handleState` moves a stream to: it depends on the frame's type and END_STREAM flag only -/
def StState.after (s : StState) (fr : Frame) : StState :=
  if fr.typ == Gen.c_FrameResetStream then .closed
  else match s with
    | .idle =>
      if fr.typ == Gen.c_FrameHeaders then (if Frame.hasFlag fr.flags Gen.c_FlagEndStream then .halfClosed else .open)
      else .idle
    | .open =>
      if (fr.typ == Gen.c_FrameData || fr.typ == Gen.c_FrameHeaders) && Frame.hasFlag fr.flags Gen.c_FlagEndStream then .halfClosed
      else .open
    | s => s

theorem handleState_after (fr : Frame) (x : Strm) : handleState fr x = { x with state := x.state.after fr } := by
  unfold handleState StState.after
  by_cases ht : (fr.typ == Gen.c_FrameResetStream) = true
  · simp only [ht, if_true]
  · simp only [ht, if_false, Bool.false_eq_true]
    cases hs : x.state <;> dsimp only <;> (repeat' split) <;> first | rfl | rw [← hs]

theorem StState.after_cases {P : StState → Prop} (s : StState) (fr : Frame)
    (same : (s = .idle → fr.typ ≠ Gen.c_FrameHeaders) → P s)
    (rst : fr.typ = Gen.c_FrameResetStream → P .closed)
    (opened : s = .idle → fr.typ = Gen.c_FrameHeaders →
      P (if Frame.hasFlag fr.flags Gen.c_FlagEndStream then .halfClosed else .open))
    (ended : s = .open → Frame.hasFlag fr.flags Gen.c_FlagEndStream = true → P .halfClosed) : P (s.after fr) := by
  unfold StState.after
  refine ite_ind (fun h => rst (beq_iff_eq.mp h)) fun _ => ?_
  cases s with
  | idle => exact ite_ind (fun h => opened rfl (beq_iff_eq.mp h)) fun h => same fun _ e => h (beq_iff_eq.mpr e)
  | «open» => exact ite_ind (fun h => ended rfl (Bool.and_eq_true_iff.mp h).2) fun _ => same nofun
  | _ => exact same nofun

theorem StState.after_closed (fr : Frame) : StState.closed.after fr = .closed :=
  ite_ind (P := (· = StState.closed)) (fun _ => rfl) fun _ => rfl

theorem StState.after_idle {fr : Frame} (h : fr.typ = Gen.c_FrameHeaders) :
    StState.idle.after fr = if Frame.hasFlag fr.flags Gen.c_FlagEndStream then .halfClosed else .open := by
  rw [StState.after, h]
  rfl

theorem StState.after_open {fr : Frame} (h : fr.typ ≠ Gen.c_FrameResetStream) :
    StState.open.after fr =
      if (fr.typ == Gen.c_FrameData || fr.typ == Gen.c_FrameHeaders) && Frame.hasFlag fr.flags Gen.c_FlagEndStream then .halfClosed
      else .open :=
  if_neg (mt beq_iff_eq.mp h)

theorem handleState_closed (fr : Frame) (x : Strm) (hx : x.state = .closed) : handleState fr x = x := by
  rw [handleState_after, hx, StState.after_closed, ← hx]

theorem StState.rank_after (s : StState) (fr : Frame) : s.rank ≤ (s.after fr).rank :=
  StState.after_cases (P := fun σ => s.rank ≤ σ.rank) s fr (fun _ => Nat.le_refl _) (fun _ => by cases s <;> decide)
    (fun hs _ => by rw [hs]; split <;> decide) (fun hs _ => by rw [hs]; decide)

/-! ## `unknownStream` -/

/-- the table with the stream a HEADERS frame opens -/
def withNew (r : R) (fr : Frame) : R :=
  { r with s := { r.s with strms := r.s.strms ++ [{ uid := r.s.nextUid, id := fr.stream, window := r.s.curInitWin, origType := fr.typ }],
                            nextUid := r.s.nextUid + 1, openStreams := r.s.openStreams + 1, lastID := fr.stream } }

theorem unknownStream_outcomes {P : R × Option Nat → Prop} (r : R) (fr : Frame) (wc : Bool)
    (inFlight : r.s.resetByUs.contains fr.stream = true → fr.typ ≠ Gen.c_FrameData → P (r, none))
    (charged : r.s.resetByUs.contains fr.stream = true → fr.typ = Gen.c_FrameData → P (consumeConnWindow r fr.length, none))
    (lateRst : fr.typ = Gen.c_FrameResetStream → fr.stream ≤ r.s.lastID → P (r, none))
    (closed : r.s.ring.contains fr.stream = true → fr.typ = Gen.c_FramePriority ∨ fr.typ = Gen.c_FrameWindowUpdate → P (r, none))
    (priority : fr.typ = Gen.c_FramePriority → P (r, none))
    (lateWU : fr.typ = Gen.c_FrameWindowUpdate → fr.stream ≤ r.s.lastID → P (r, none))
    (goAway : fr.typ ≠ Gen.c_FrameWindowUpdate → ∀ code tag, code ≠ Gen.c_NoError →
      P (closeIfDone (writeGoAway r fr.stream code tag), none))
    (goAwayStop : ∀ code tag, code ≠ Gen.c_NoError → P (stopLoop (writeGoAway r fr.stream code tag), none))
    (refused : fr.typ = Gen.c_FrameHeaders →
      P (writeReset { r with s := { r.s with lastRefused := max r.s.lastRefused fr.stream } } fr.stream
        Gen.c_RefusedStreamError, none))
    (new : fr.typ = Gen.c_FrameHeaders → r.s.resetByUs.contains fr.stream = false → r.s.ring.contains fr.stream = false →
      r.s.openStreams < (r.s.cfg.maxStreams : Int) → wc = false →
      r.s.lastID < fr.stream → r.s.lastRefused < fr.stream → P (withNew r fr, some r.s.nextUid)) :
    P (unknownStream r fr wc) := by
  unfold unknownStream
  by_cases c1 : r.s.resetByUs.contains fr.stream = true
  · rw [if_pos c1]
    by_cases ht : fr.typ = Gen.c_FrameData
    · rw [if_pos (beq_iff_eq.mpr ht)]; exact charged c1 ht
    · rw [if_neg (mt beq_iff_eq.mp ht)]; exact inFlight c1 ht
  rw [if_neg c1]
  by_cases c2 : fr.typ = Gen.c_FrameResetStream
  · rw [if_pos (beq_iff_eq.mpr c2)]
    by_cases hl : fr.stream > r.s.lastID
    · rw [if_pos hl]; exact goAway (by rw [c2]; decide) _ _ (by decide)
    · rw [if_neg hl]; exact lateRst c2 (Nat.le_of_not_gt hl)
  rw [if_neg (mt beq_iff_eq.mp c2)]
  by_cases c3 : r.s.ring.contains fr.stream = true
  · rw [if_pos c3]
    by_cases ht : (fr.typ == Gen.c_FramePriority || fr.typ == Gen.c_FrameWindowUpdate) = true
    · rw [if_pos ht]; exact closed c3 (by simpa using ht)
    · rw [if_neg ht]
      simp only [Bool.or_eq_true, beq_iff_eq, not_or] at ht
      exact goAway ht.2 _ _ (by decide)
  rw [if_neg c3]
  by_cases c4 : fr.typ = Gen.c_FrameHeaders
  · rw [if_neg (by simpa using c4)]
    by_cases c5 : (decide (r.s.openStreams ≥ (r.s.cfg.maxStreams : Int)) || wc) = true
    · rw [if_pos c5]; exact refused c4
    rw [if_neg c5]
    by_cases c6 : (decide (fr.stream ≤ r.s.lastID) || decide (fr.stream ≤ r.s.lastRefused)) = true
    · rw [if_pos c6]; exact goAway (by rw [c4]; decide) _ _ (by decide)
    rw [if_neg c6]
    simp only [Bool.or_eq_true, decide_eq_true_eq, not_or, Int.not_le, Nat.not_le, Bool.not_eq_true] at c5 c6
    exact new c4 (by simpa using c1) (by simpa using c3) c5.1 c5.2 c6.1 c6.2
  · rw [if_pos (by simpa using c4)]
    by_cases c5 : fr.typ = Gen.c_FramePriority
    · rw [if_pos (beq_iff_eq.mpr c5)]
      exact ite_ind (fun _ => goAwayStop _ _ (by decide)) (fun _ => priority c5)
    rw [if_neg (mt beq_iff_eq.mp c5)]
    by_cases c6 : fr.stream > r.s.lastID
    · rw [if_pos c6]; exact goAwayStop _ _ (by decide)
    rw [if_neg c6]
    by_cases c7 : fr.typ = Gen.c_FrameWindowUpdate
    · rw [if_neg (by simpa using c7)]; exact lateWU c7 (Nat.le_of_not_gt c6)
    · rw [if_pos (by simpa using c7)]; exact goAway c7 _ _ (by decide)

theorem unknownStream_cases {P : R × Option Nat → Prop} (r : R) (fr : Frame) (wc : Bool)
    (same : P (r, none))
    (charged : P (consumeConnWindow r fr.length, none))
    (goAway : ∀ code tag, P (closeIfDone (writeGoAway r fr.stream code tag), none))
    (goAwayStop : ∀ code tag, P (stopLoop (writeGoAway r fr.stream code tag), none))
    (refused : P (writeReset { r with s := { r.s with lastRefused := max r.s.lastRefused fr.stream } } fr.stream
        Gen.c_RefusedStreamError, none))
    (new : fr.typ = Gen.c_FrameHeaders → r.s.openStreams < (r.s.cfg.maxStreams : Int) → wc = false →
      r.s.lastID < fr.stream → r.s.lastRefused < fr.stream → P (withNew r fr, some r.s.nextUid)) :
    P (unknownStream r fr wc) :=
  unknownStream_outcomes r fr wc (fun _ _ => same) (fun _ _ => charged) (fun _ _ => same) (fun _ _ => same) (fun _ => same)
    (fun _ _ => same) (fun _ code tag _ => goAway code tag) (fun code tag _ => goAwayStop code tag) (fun _ => refused)
    (fun ht _ _ => new ht)

/-! ## `refill`, `sendFrame`, `sendData` -/

/-- the stream as `refill` leaves it after a successful read from the body stream `bs` -/
def refillRead (st : Strm) (bs : BodyStream) : Strm :=
  let rd := readBody bs
  let n := rd.1
  let eof := rd.2.1
  let bs' := rd.2.2.2
  let st' := { st with stream := some bs',
                       pendOff := if n > 0 then st.bodyRead else st.pendOff,
                       pendLen := if n > 0 then n else st.pendLen,
                       bodyRead := st.bodyRead + n,
                       pendingEnd := st.pendingEnd || eof }
  if st'.bodySize ≥ 0 && (st'.bodyRead : Int) ≥ st'.bodySize then { st' with pendingEnd := true } else st'

theorem refillRead_pendLen (st : Strm) (bs : BodyStream) :
    (refillRead st bs).pendLen = if (readBody bs).1 > 0 then (readBody bs).1 else st.pendLen := by
  simp only [refillRead]; split <;> rfl

theorem refillRead_stream (st : Strm) (bs : BodyStream) : (refillRead st bs).stream.isSome = true := by
  simp only [refillRead]; split <;> rfl

theorem refill_eq (r : R) (uid : Nat) (st : Strm) :
    refill r uid st =
      if st.pendLen == 0 then
        match st.stream with
        | none => (r, st, true)
        | some bs =>
          if (readBody bs).2.2.1 || ((readBody bs).1 == 0 && !(readBody bs).2.1) then
            (writeReset (r.updStrm uid fun _ => { st with stream := none }) st.id Gen.c_InternalError,
              { st with stream := none }, true)
          else if (refillRead st bs).pendLen == 0 then
            ((if (refillRead st bs).pendingEnd then (r.updStrm uid fun _ => refillRead st bs).emit (.data st.id true 0 {})
              else r.updStrm uid fun _ => refillRead st bs), refillRead st bs, true)
          else (r.updStrm uid fun _ => refillRead st bs, refillRead st bs, false)
      else (r, st, false) := by
  rfl

/-- `ended`: the reader is at its end with nothing left, so END_STREAM goes out on an empty DATA frame. `dry` is the
model's other branch of that test (`pendingEnd` not set); a read of nothing that is not `failed` is an end of body and
sets `pendingEnd`, so it is never taken. -/
theorem refill_outcomes {P : R × Strm × Bool → Prop} (r : R) (uid : Nat) (st : Strm)
    (idle : st.pendLen = 0 → st.stream = none → P (r, st, true))
    (pending : st.pendLen ≠ 0 → P (r, st, false))
    (failed : ∀ bs, st.pendLen = 0 → st.stream = some bs →
      P (writeReset (r.updStrm uid fun _ => { st with stream := none }) st.id Gen.c_InternalError, { st with stream := none }, true))
    (ended : ∀ bs, st.pendLen = 0 → st.stream = some bs → (refillRead st bs).pendLen = 0 →
      P ((r.updStrm uid fun _ => refillRead st bs).emit (.data st.id true 0 {}), refillRead st bs, true))
    (read : ∀ bs, st.pendLen = 0 → st.stream = some bs → (refillRead st bs).pendLen ≠ 0 →
      P (r.updStrm uid fun _ => refillRead st bs, refillRead st bs, false)) :
    P (refill r uid st) := by
  rw [refill_eq]
  by_cases hp : st.pendLen = 0
  · rw [if_pos (beq_iff_eq.mpr hp)]
    cases hs : st.stream with
    | none => exact idle hp hs
    | some bs =>
      dsimp only
      split
      · exact failed bs hp hs
      · rename_i hf
        by_cases h0 : (refillRead st bs).pendLen = 0
        · rw [if_pos (beq_iff_eq.mpr h0)]
          -- nothing was read and the reader did not fail: it reported its end, so END_STREAM is due
          have he : (refillRead st bs).pendingEnd = true := by
            have hn : (readBody bs).1 = 0 := by
              have := refillRead_pendLen st bs
              rw [h0, hp] at this
              by_cases hz : (readBody bs).1 > 0
              · rw [if_pos hz] at this; omega
              · omega
            have heof : (readBody bs).2.1 = true := by
              cases h : (readBody bs).2.1
              · exact absurd (by simp [hn, h]) hf
              · rfl
            unfold refillRead
            dsimp only
            split <;> simp [heof]
          rw [if_pos he]
          exact ended bs hp hs h0
        · rw [if_neg (mt beq_iff_eq.mp h0)]
          exact read bs hp hs h0
  · rw [if_neg (mt beq_iff_eq.mp hp)]
    exact pending hp

theorem refill_cases {P : R × Strm × Bool → Prop} (r : R) (uid : Nat) (st : Strm)
    (same : ∀ b, P (r, st, b))
    (failed : ∀ bs, st.pendLen = 0 → st.stream = some bs →
      P (writeReset (r.updStrm uid fun _ => { st with stream := none }) st.id Gen.c_InternalError, { st with stream := none }, true))
    (ended : ∀ bs, st.pendLen = 0 → st.stream = some bs → (refillRead st bs).pendLen = 0 →
      P ((r.updStrm uid fun _ => refillRead st bs).emit (.data st.id true 0 {}), refillRead st bs, true))
    (read : ∀ bs, st.pendLen = 0 → st.stream = some bs → ∀ b, P (r.updStrm uid fun _ => refillRead st bs, refillRead st bs, b)) :
    P (refill r uid st) :=
  refill_outcomes r uid st (fun _ _ => same _) (fun _ => same _) failed ended (fun bs h1 h2 _ => read bs h1 h2 _)

theorem sendFrame_eq (r : R) (uid : Nat) (st : Strm) (step : Nat) :
    sendFrame r uid st step =
      ({ ((r.updStrm uid fun s => { s with pendOff := s.pendOff + step, pendLen := st.pendLen - step, window := s.window - step }).emit
            (.data st.id (st.pendingEnd && st.pendLen - step == 0) step (st.src.digest st.pendOff step))) with
          s := { ((r.updStrm uid fun s => { s with pendOff := s.pendOff + step, pendLen := st.pendLen - step, window := s.window - step }).emit
            (.data st.id (st.pendingEnd && st.pendLen - step == 0) step (st.src.digest st.pendOff step))).s with
              clientWindow := r.s.clientWindow - step } },
       st.pendingEnd && st.pendLen - step == 0) := rfl

/-- `min(strm.window, clientWindow)` of `sendData` -/
def availOf (r : R) (st : Strm) : Int := if r.s.clientWindow < st.window then r.s.clientWindow else st.window

theorem sendDataFuel_succ (n : Nat) (r : R) (uid : Nat) :
    sendDataFuel (n + 1) r uid =
      match r.getStrm uid with
      | none => (r, true)
      | some st0 =>
        if (refill r uid st0).2.2 then (closeBody (refill r uid st0).1 uid, true)
        else if availOf (refill r uid st0).1 (refill r uid st0).2.1 ≤ 0 then ((refill r uid st0).1, false)
        else if (sendFrame (refill r uid st0).1 uid (refill r uid st0).2.1
            (min (min Gen.c_maxDataFrameSize (availOf (refill r uid st0).1 (refill r uid st0).2.1).toNat)
              (refill r uid st0).2.1.pendLen)).2
          then (closeBody (sendFrame (refill r uid st0).1 uid (refill r uid st0).2.1
            (min (min Gen.c_maxDataFrameSize (availOf (refill r uid st0).1 (refill r uid st0).2.1).toNat)
              (refill r uid st0).2.1.pendLen)).1 uid, true)
        else sendDataFuel n (sendFrame (refill r uid st0).1 uid (refill r uid st0).2.1
            (min (min Gen.c_maxDataFrameSize (availOf (refill r uid st0).1 (refill r uid st0).2.1).toNat)
              (refill r uid st0).2.1.pendLen)).1 uid := rfl

theorem sendData_cases {P : R × Bool → Prop} (r : R) (uid : Nat)
    (absent : r.getStrm uid = none → P (r, true)) (loop : ∀ fuel, P (sendDataFuel fuel r uid)) : P (sendData r uid) := by
  unfold sendData
  cases hg : r.getStrm uid with
  | none => exact absent hg
  | some st => exact loop _

/-! ## `finishRequest` -/

/-- the encoder moves on, the peer's decoder follows it or is broken by it (then the model is undefined), and the frames
of the one block go out -/
theorem responseHeaders_cases {P : R → Prop} (r : R) (st : Strm) (resp : Resp) (hb : Bool)
    (h : ∀ dec broken un fs err,
      P (({ r with s := { r.s with enc := (encodeFields r.s.enc (responseFields resp)).1, peerDec := dec, peerDecBroken := broken,
                                   undefined := un } } : R).emits
          (blockOuts st.id (!hb) fs err (cutBlock Gen.c_maxDataFrameSize (encodeFields r.s.enc (responseFields resp)).2)))) :
    P (responseHeaders r st resp hb) := by
  unfold responseHeaders
  dsimp only
  split
  · exact h _ _ _ _ _
  · exact h _ _ _ _ _

/-- the response `finishRequest` goes on with: a handler panic has become a 500 without body -/
def finalResp (resp : Resp) : Resp :=
  if resp.kind == "panic" then { (default : Resp) with status := 500, kind := "none", view := resp.view } else resp

/-- the stream when its response body starts: a body stream to read from, or the buffered body pending -/
def bodyStart (resp : Resp) (s : Strm) : Strm :=
  if resp.kind == "stream" then
    { s with stream := some resp.stream, bodySize := resp.size, bodyRead := 0, src := resp.src, pendOff := 0, pendLen := 0,
             pendingEnd := false }
  else { s with src := resp.src, pendOff := 0, pendLen := resp.len, pendingEnd := true }

/-- `finishRequest` once the stream and the response are known -/
def finishBody (r : R) (uid : Nat) (st : Strm) (resp : Resp) : R × Bool :=
  let hasBody := resp.kind == "stream" || (resp.kind == "buf" && resp.len > 0)
  let r := responseHeaders r st resp hasBody
  if !hasBody then (r, true)
  else
    let r := if resp.kind == "stream" then
        r.updStrm uid fun s => { s with stream := some resp.stream, bodySize := resp.size, bodyRead := 0,
                                        src := resp.src, pendOff := 0, pendLen := 0, pendingEnd := false }
      else
        r.updStrm uid fun s => { s with src := resp.src, pendOff := 0, pendLen := resp.len, pendingEnd := true }
    sendData r uid

theorem finishRequest_eq (r : R) (uid : Nat) (resp : Resp) :
    finishRequest r uid resp =
      match r.getStrm uid with
      | none => (r, true)
      | some st => finishBody r uid st (finalResp resp) := rfl

theorem finishRequest_outcomes {P : R × Bool → Prop} (r : R) (uid : Nat) (resp : Resp)
    (absent : r.getStrm uid = none → P (r, true))
    (noBody : ∀ st, r.getStrm uid = some st → P (responseHeaders r st (finalResp resp) false, true))
    (body : ∀ st, r.getStrm uid = some st →
      P (sendData ((responseHeaders r st (finalResp resp) true).updStrm uid (bodyStart (finalResp resp))) uid)) :
    P (finishRequest r uid resp) := by
  rw [finishRequest_eq]
  cases hg : r.getStrm uid with
  | none => exact absent hg
  | some st =>
    have hn := noBody st hg
    have hb := body st hg
    dsimp only
    generalize finalResp resp = resp' at hn hb ⊢
    unfold finishBody
    dsimp only
    cases resp'.kind == "stream" || (resp'.kind == "buf" && decide (resp'.len > 0))
    · exact hn
    · have e : (if resp'.kind == "stream" then
            (responseHeaders r st resp' true).updStrm uid fun s =>
              { s with stream := some resp'.stream, bodySize := resp'.size, bodyRead := 0,
                       src := resp'.src, pendOff := 0, pendLen := 0, pendingEnd := false }
          else (responseHeaders r st resp' true).updStrm uid fun s =>
              { s with src := resp'.src, pendOff := 0, pendLen := resp'.len, pendingEnd := true }) =
          (responseHeaders r st resp' true).updStrm uid (bodyStart resp') := by
        unfold bodyStart
        split <;> rfl
      exact e ▸ hb

/-! ## the stream loop, piece by piece -/

/-- whether closing the object `uid` with id `id` leaves the model undefined: `Streams.Del` removes the first entry with
that id, which may be another object -/
def closeUndefined (r : R) (uid id : Nat) : Bool :=
  r.s.undefined || (match r.s.strms.find? (·.id == id) with
    | some f => f.uid != uid
    | none => false)

theorem releaseStream_cases {P : R → Prop} (r : R) (st : Strm)
    (same : st.origType ≠ Gen.c_FrameHeaders → P r)
    (freed : st.origType = Gen.c_FrameHeaders → P { r with s := { r.s with openStreams := r.s.openStreams - 1 } }) :
    P (releaseStream r st) :=
  ite_ind (fun h => freed (beq_iff_eq.mp h)) fun h => same (mt beq_iff_eq.mpr h)

/-- The id is remembered in the ring and the first table entry with that id goes: to `abandoned`, keeping its slot, while
its handler runs; otherwise its slot is given back. -/
theorem closeStream_outcomes {P : R → Prop} (r : R) (uid : Nat)
    (same : r.getStrm uid = none → P r)
    (abandoned : ∀ st, r.getStrm uid = some st → st.handlerRunning = true →
      P { r with s := { r.s with ring := markClosed r.s.ring st.id, strms := delFirst r.s.strms st.id,
                                  undefined := closeUndefined r uid st.id, abandoned := r.s.abandoned ++ [st] } })
    (released : ∀ st, r.getStrm uid = some st → st.handlerRunning = false →
      P (releaseStream { r with s := { r.s with ring := markClosed r.s.ring st.id, strms := delFirst r.s.strms st.id,
                                                undefined := closeUndefined r uid st.id } } st)) :
    P (closeStream r uid) := by
  unfold closeStream
  cases hg : r.getStrm uid with
  | none => exact same hg
  | some st =>
    dsimp only
    exact ite_ind (fun h => abandoned st hg h) fun h => released st hg (by simpa using h)

/-- saying only which fields move -/
theorem closeStream_cases {P : R → Prop} (r : R) (uid : Nat)
    (same : r.getStrm uid = none → P r)
    (gone : ∀ st, r.getStrm uid = some st → ∀ (un : Bool) (ab : List Strm) (os : Int),
      P { r with s := { r.s with ring := markClosed r.s.ring st.id, strms := delFirst r.s.strms st.id,
                                  undefined := un, abandoned := ab, openStreams := os } }) :
    P (closeStream r uid) :=
  closeStream_outcomes r uid same (fun st hg _ => gone st hg _ _ _) fun st hg _ =>
    releaseStream_cases _ st (fun _ => gone st hg _ _ _) fun _ => gone st hg _ _ _

theorem flushOne_cases {P : R × List Nat → Prop} (acc : R × List Nat) (uid : Nat)
    (same : P acc)
    (sent : ∀ st, acc.1.getStrm uid = some st →
      P ((sendData acc.1 uid).1, if (sendData acc.1 uid).2 then acc.2 ++ [uid] else acc.2)) :
    P (flushOne acc uid) := by
  unfold flushOne
  cases hg : acc.1.getStrm uid with
  | none => exact same
  | some st =>
    dsimp only
    split
    · exact sent st hg
    · exact same

theorem flushStreams_ind {P : R → Prop} (r : R) (one : ∀ (acc : R × List Nat) uid, P acc.1 → P (flushOne acc uid).1)
    (close : ∀ x uid, P x → P (closeDone x uid)) (h : P r) : P (flushStreams r) :=
  foldl_inv P closeDone close _ _ (foldl_inv (fun acc => P acc.1) flushOne one _ (r, []) h)

theorem writeGoAway_eq (r : R) (sid code : Nat) (tag : String) :
    writeGoAway r sid code tag =
      { r.emit (.goAway ((if sid > r.s.lastID then sid else r.s.lastID) % 2 ^ 31) code tag) with
        s := { r.s with closing := true, closeRef := if sid ≠ 0 then r.s.lastID else r.s.closeRef } } := by
  unfold writeGoAway
  by_cases h : sid ≠ 0
  · simp only [if_pos h]; rfl
  · simp only [if_neg h]; rfl

theorem writeError_of {r : R} {uid : Nat} {st : Strm} (hg : r.getStrm uid = some st) (e : SErr) :
    writeError r uid e = (match e with
      | .goAway code tag => writeGoAway r st.id code tag
      | .reset code => writeReset r st.id code).updStrm uid fun s => { s with state := .closed } := by
  unfold writeError
  rw [hg]
  rfl

theorem writeError_cases {P : R → Prop} (r : R) (uid : Nat) (e : SErr)
    (same : r.getStrm uid = none → P r)
    (goAway : ∀ st code tag, r.getStrm uid = some st → e = .goAway code tag →
      P ((writeGoAway r st.id code tag).updStrm uid fun s => { s with state := .closed }))
    (reset : ∀ st code, r.getStrm uid = some st → e = .reset code →
      P ((writeReset r st.id code).updStrm uid fun s => { s with state := .closed })) :
    P (writeError r uid e) := by
  unfold writeError
  cases hg : r.getStrm uid with
  | none => exact same hg
  | some st =>
    cases e with
    | goAway code tag => exact goAway st code tag hg rfl
    | reset code => exact reset st code hg rfl

/-- `b`: after a GOAWAY the loop may be left -/
theorem onFrameError_cases {P : R × Bool → Prop} (r : R) (uid : Nat) (e : Option SErr)
    (same : e = none → P (r, false))
    (err : ∀ e' b, e = some e' → P ((writeError r uid e').updStrm uid fun s => { s with state := .closed }, b)) :
    P (onFrameError r uid e) := by
  unfold onFrameError
  cases e with
  | none => exact same rfl
  | some e' => cases e' <;> exact err _ _ rfl

theorem headersPrelude_cases {P : R × Bool → Prop} (r : R) (fr : Frame)
    (same : P (r, true))
    (prevOpen : ∀ n, fr.typ = Gen.c_FrameHeaders → getPrevious r.s.strms = some n → n.headersFinished = false →
      P (writeError r n.uid (.goAway Gen.c_ProtocolError "previous stream headers not ended"), false))
    (idles : fr.typ = Gen.c_FrameHeaders → P (closeIdleBelow (r.s.strms.length + 1) r fr.stream, true)) :
    P (headersPrelude r fr) := by
  unfold headersPrelude
  split
  · rename_i ht
    simp only [beq_iff_eq] at ht
    cases hp : getPrevious r.s.strms with
    | none => exact idles ht
    | some n =>
      dsimp only
      split
      · rename_i hf
        exact prevOpen n ht hp (by simpa using hf)
      · exact idles ht
  · exact same

theorem closeIdleBelow_succ (fuel : Nat) (r : R) (id : Nat) :
    closeIdleBelow (fuel + 1) r id =
      match r.s.strms with
      | [] => r
      | n :: _ =>
        if n.id < id && n.state == .idle && n.origType == Gen.c_FrameHeaders then
          closeIdleBelow fuel (writeReset (closeStream (r.updStrm n.uid fun s => { s with state := .closed }) n.uid) n.id
            Gen.c_StreamCanceled) id
        else r := rfl

theorem getPrevious_mem {l : List Strm} {n : Strm} (h : getPrevious l = some n) : n ∈ l ∧ n.origType = Gen.c_FrameHeaders := by
  unfold getPrevious at h
  split at h
  · rename_i a p rest heq
    cases h
    have : n ∈ l.reverse.filter fun st => st.origType == Gen.c_FrameHeaders := by rw [heq]; simp
    simpa [List.mem_filter] using this
  · cases h

theorem closeIdleBelow_noop (fuel : Nat) (r : R) (id : Nat)
    (h : ∀ x ∈ r.s.strms, ¬(x.id < id ∧ x.state = .idle ∧ x.origType = Gen.c_FrameHeaders)) : closeIdleBelow fuel r id = r := by
  cases fuel with
  | zero => rfl
  | succ n =>
    rw [closeIdleBelow_succ]
    cases hl : r.s.strms with
    | nil => rfl
    | cons a l =>
      dsimp only
      rw [if_neg]
      intro hc
      simp only [Bool.and_eq_true, decide_eq_true_eq, beq_iff_eq] at hc
      exact h a (by rw [hl]; exact List.mem_cons_self ..) ⟨hc.1.1, hc.1.2, hc.2⟩

theorem headersPrelude_pass (r : R) (fr : Frame)
    (hprev : fr.typ = Gen.c_FrameHeaders → ∀ n, getPrevious r.s.strms = some n → n.headersFinished = true)
    (hidle : fr.typ = Gen.c_FrameHeaders →
      ∀ x ∈ r.s.strms, ¬(x.id < fr.stream ∧ x.state = .idle ∧ x.origType = Gen.c_FrameHeaders)) :
    headersPrelude r fr = (r, true) :=
  headersPrelude_cases (P := (· = (r, true))) r fr rfl
    (fun n ht hn hf => by rw [hprev ht n hn] at hf; cases hf)
    (fun ht => by rw [closeIdleBelow_noop _ r _ (hidle ht)])

theorem headersPrelude_other (r : R) (fr : Frame) (hne : fr.typ ≠ Gen.c_FrameHeaders) : headersPrelude r fr = (r, true) :=
  headersPrelude_pass r fr (fun ht => absurd ht hne) (fun ht => absurd ht hne)

theorem closeIfDone_cases {P : R → Prop} (r : R) (stop : canCloseAfterGoAway r.s = true → P (stopLoop r)) (same : P r) :
    P (closeIfDone r) :=
  ite_ind stop fun _ => same

theorem closeIfClosing_cases {P : R → Prop} (r : R)
    (stop : r.s.closing = true → canCloseAfterGoAway r.s = true → P (stopLoop r)) (same : P r) : P (closeIfClosing r) :=
  ite_ind (fun h => stop (Bool.and_eq_true_iff.mp h).1 (Bool.and_eq_true_iff.mp h).2) fun _ => same

/-- a stream whose request is complete and not yet handed over: END_STREAM received (half-closed (remote)), header
block finished, not marked `responded`, and the body as long as `content-length` said (if it was given) -/
def Complete (st : Strm) : Prop :=
  st.state = .halfClosed ∧ st.headersFinished = true ∧ st.responded = false ∧
  (st.hasCL = true → (st.recvBody : Int) = st.contentLength)

theorem dispatchOrSend_outcomes {P : R → Prop} (r : R) (uid : Nat) (st : Strm)
    (same : ¬(st.state = .halfClosed ∧ st.headersFinished = true ∧ st.responded = false) → P r)
    (badLength : st.state = .halfClosed → st.headersFinished = true → st.responded = false →
      st.hasCL = true → (st.recvBody : Int) ≠ st.contentLength →
      P ((writeReset (r.updStrm uid fun s => { s with responded := true }) st.id Gen.c_ProtocolError).updStrm uid
        fun s => { s with state := .closed }))
    (toHandler : Complete st → P (dispatch (r.updStrm uid fun s => { s with responded := true }) uid st))
    (send : st.responded = true → st.handlerRunning = false →
      P (if (sendData r uid).2 then (sendData r uid).1.updStrm uid fun s => { s with state := .closed } else (sendData r uid).1)) :
    P (dispatchOrSend r uid st) := by
  unfold dispatchOrSend
  split
  · rename_i hc
    simp only [Bool.and_eq_true, Bool.not_eq_true', beq_iff_eq] at hc
    dsimp only
    split
    · rename_i hcl
      simp only [Bool.and_eq_true, bne_iff_ne, ne_eq] at hcl
      exact badLength hc.1.1 hc.1.2 hc.2 hcl.1 hcl.2
    · rename_i hcl
      exact toHandler ⟨hc.1.1, hc.1.2, hc.2, fun hh => by simpa [hh] using hcl⟩
  · rename_i hc
    simp only [Bool.and_eq_true, Bool.not_eq_true', beq_iff_eq] at hc
    split
    · rename_i h
      simp only [Bool.and_eq_true, Bool.not_eq_true'] at h
      exact send h.1.1 h.1.2
    · exact same fun h => hc ⟨⟨h.1, h.2.1⟩, h.2.2⟩

theorem dispatchOrSend_cases {P : R → Prop} (r : R) (uid : Nat) (st : Strm)
    (same : P r)
    (badLength : st.state = .halfClosed → st.headersFinished = true → st.responded = false →
      P ((writeReset (r.updStrm uid fun s => { s with responded := true }) st.id Gen.c_ProtocolError).updStrm uid
        fun s => { s with state := .closed }))
    (toHandler : Complete st → P (dispatch (r.updStrm uid fun s => { s with responded := true }) uid st))
    (send : st.responded = true → st.handlerRunning = false →
      P (if (sendData r uid).2 then (sendData r uid).1.updStrm uid fun s => { s with state := .closed } else (sendData r uid).1)) :
    P (dispatchOrSend r uid st) :=
  dispatchOrSend_outcomes r uid st (fun _ => same) (fun a b c _ _ => badLength a b c) toHandler send

theorem closeIfClosed_cases {P : R → Prop} (r : R) (uid : Nat)
    (same : (∀ st, r.getStrm uid = some st → st.state ≠ .closed) → P r)
    (closed : ∀ st, r.getStrm uid = some st → st.state = .closed → P (closeStream r uid)) :
    P (closeIfClosed r uid) := by
  unfold closeIfClosed
  cases hg : r.getStrm uid with
  | none => exact same fun _ e => by rw [hg] at e; cases e
  | some st =>
    dsimp only
    split
    · rename_i h
      exact closed st hg (by simpa using h)
    · rename_i h
      exact same fun _ e => by rw [hg] at e; cases e; simpa using h

/-- the state and the "leave the loop" flag after `headersPrelude`, `handleFrame` and `onFrameError` -/
def afterFrame (r : R) (uid : Nat) (fr : Frame) : R × Bool :=
  onFrameError (handleFrame (headersPrelude r fr).1 uid fr).1 uid (handleFrame (headersPrelude r fr).1 uid fr).2

/-- the end of the loop body: the stream's state moves, the request is handed over or the response goes on, a closed stream
leaves the table, and the loop stops if this was the last stream a GOAWAY was waiting for -/
def knownTail (r : R) (uid : Nat) (fr : Frame) (wc : Bool) : R :=
  match (r.updStrm uid (handleState fr)).getStrm uid with
  | none => r.updStrm uid (handleState fr)
  | some st =>
    if wc && canCloseAfterGoAway (closeIfClosed (dispatchOrSend (r.updStrm uid (handleState fr)) uid st) uid).s then
      stopLoop (closeIfClosed (dispatchOrSend (r.updStrm uid (handleState fr)) uid st) uid)
    else closeIfClosed (dispatchOrSend (r.updStrm uid (handleState fr)) uid st) uid

theorem knownTail_of {r : R} {uid : Nat} {fr : Frame} {st : Strm} (wc : Bool)
    (hg : (r.updStrm uid (handleState fr)).getStrm uid = some st) :
    knownTail r uid fr wc =
      if wc && canCloseAfterGoAway (closeIfClosed (dispatchOrSend (r.updStrm uid (handleState fr)) uid st) uid).s then
        stopLoop (closeIfClosed (dispatchOrSend (r.updStrm uid (handleState fr)) uid st) uid)
      else closeIfClosed (dispatchOrSend (r.updStrm uid (handleState fr)) uid st) uid := by
  rw [knownTail, hg]

theorem knownTail_cases {P : R → Prop} (r : R) (uid : Nat) (fr : Frame) (wc : Bool)
    (noStream : (r.updStrm uid (handleState fr)).getStrm uid = none → P (r.updStrm uid (handleState fr)))
    (done : ∀ st, (r.updStrm uid (handleState fr)).getStrm uid = some st → ∀ b : Bool,
      P (if b then stopLoop (closeIfClosed (dispatchOrSend (r.updStrm uid (handleState fr)) uid st) uid)
         else closeIfClosed (dispatchOrSend (r.updStrm uid (handleState fr)) uid st) uid)) :
    P (knownTail r uid fr wc) := by
  cases hg : (r.updStrm uid (handleState fr)).getStrm uid with
  | none => rw [knownTail, hg]; exact noStream hg
  | some st => rw [knownTail_of wc hg]; exact done st hg _

theorem knownStream_tail (r : R) (uid : Nat) (fr : Frame) (wc : Bool) :
    knownStream r uid fr wc =
      if !(headersPrelude r fr).2 then (headersPrelude r fr).1
      else if (afterFrame r uid fr).2 then stopLoop (afterFrame r uid fr).1
      else knownTail (afterFrame r uid fr).1 uid fr wc := rfl

theorem knownStream_of_pre {r : R} {fr : Frame} (uid : Nat) (wc : Bool) (hpre : headersPrelude r fr = (r, true)) :
    knownStream r uid fr wc =
      if (onFrameError (handleFrame r uid fr).1 uid (handleFrame r uid fr).2).2 then
        stopLoop (onFrameError (handleFrame r uid fr).1 uid (handleFrame r uid fr).2).1
      else knownTail (onFrameError (handleFrame r uid fr).1 uid (handleFrame r uid fr).2).1 uid fr wc := by
  rw [knownStream_tail, afterFrame, hpre]
  rfl

/-- `refused`: the previous header block is open and the frame is not handled -/
theorem knownStream_outcomes {P : R → Prop} (r : R) (uid : Nat) (fr : Frame) (wc : Bool)
    (refused : (headersPrelude r fr).2 = false → P (headersPrelude r fr).1)
    (stop : (afterFrame r uid fr).2 = true → P (stopLoop (afterFrame r uid fr).1))
    (noStream : (afterFrame r uid fr).2 = false →
      ((afterFrame r uid fr).1.updStrm uid (handleState fr)).getStrm uid = none →
      P ((afterFrame r uid fr).1.updStrm uid (handleState fr)))
    (done : (afterFrame r uid fr).2 = false → ∀ st,
      ((afterFrame r uid fr).1.updStrm uid (handleState fr)).getStrm uid = some st → ∀ b : Bool,
      P (if b then stopLoop (closeIfClosed (dispatchOrSend ((afterFrame r uid fr).1.updStrm uid (handleState fr)) uid st) uid)
         else closeIfClosed (dispatchOrSend ((afterFrame r uid fr).1.updStrm uid (handleState fr)) uid st) uid)) :
    P (knownStream r uid fr wc) := by
  rw [knownStream_tail]
  refine ite_ind (fun h => refused (by simpa using h)) fun _ => ite_ind stop fun hf => ?_
  have hf : (afterFrame r uid fr).2 = false := Bool.eq_false_iff.mpr hf
  exact knownTail_cases _ uid fr wc (noStream hf) (done hf)

theorem knownStream_cases {P : R → Prop} (r : R) (uid : Nat) (fr : Frame) (wc : Bool)
    (refused : (headersPrelude r fr).2 = false → P (headersPrelude r fr).1)
    (stop : P (stopLoop (afterFrame r uid fr).1))
    (noStream : P ((afterFrame r uid fr).1.updStrm uid (handleState fr)))
    (done : ∀ st, ((afterFrame r uid fr).1.updStrm uid (handleState fr)).getStrm uid = some st → ∀ b : Bool,
      P (if b then stopLoop (closeIfClosed (dispatchOrSend ((afterFrame r uid fr).1.updStrm uid (handleState fr)) uid st) uid)
         else closeIfClosed (dispatchOrSend ((afterFrame r uid fr).1.updStrm uid (handleState fr)) uid st) uid)) :
    P (knownStream r uid fr wc) :=
  knownStream_outcomes r uid fr wc refused (fun _ => stop) (fun _ _ => noStream) fun _ => done

theorem slStreamFrame_cases {P : R → Prop} (r : R) (fr : Frame)
    (known : ∀ st, (if fr.stream ≤ r.s.lastID then r.s.strms.find? (·.id == fr.stream) else none) = some st →
      P (knownStream r st.uid fr r.s.closing))
    (unknown : (if fr.stream ≤ r.s.lastID then r.s.strms.find? (·.id == fr.stream) else none) = none →
      (unknownStream r fr r.s.closing).2 = none → P (unknownStream r fr r.s.closing).1)
    (created : ∀ uid, (if fr.stream ≤ r.s.lastID then r.s.strms.find? (·.id == fr.stream) else none) = none →
      (unknownStream r fr r.s.closing).2 = some uid → P (knownStream (unknownStream r fr r.s.closing).1 uid fr r.s.closing)) :
    P (slStreamFrame r fr) := by
  unfold slStreamFrame
  dsimp only
  cases hf : (if fr.stream ≤ r.s.lastID then r.s.strms.find? (·.id == fr.stream) else none) with
  | some st => exact known st hf
  | none =>
    dsimp only
    cases hu : (unknownStream r fr r.s.closing).2 with
    | none => exact unknown hf hu
    | some uid => exact created uid hf hu

/-- SETTINGS_INITIAL_WINDOW_SIZE applied to the streams of the table -/
def withInitWin (r : R) (st : Frame.SettingsVal) : R :=
  { r with s := { r.s with curInitWin := st.windowSize,
                            strms := (applyDelta ((st.windowSize : Int) - r.s.curInitWin) r.s.strms).1 } }

theorem slFrame_outcomes {P : R → Prop} (r : R) (fr : Frame)
    (stopped : r.s.slStopped = true → P r)
    (winOver : fr.stream = 0 → ∀ st, fr.body = .settings st → st.hasWindowSize = true →
      (applyDelta ((st.windowSize : Int) - r.s.curInitWin) r.s.strms).2 = true →
      P (stopLoop (writeGoAway (withInitWin (applyTableSize { r with fwd := r.fwd ++ [fr] } st) st) 0 Gen.c_FlowControlError "stream-win-max")))
    (settingsWin : fr.stream = 0 → ∀ st, fr.body = .settings st → st.hasWindowSize = true →
      (applyDelta ((st.windowSize : Int) - r.s.curInitWin) r.s.strms).2 = false →
      P (closeIfClosing (flushStreams (withInitWin (applyTableSize { r with fwd := r.fwd ++ [fr] } st) st))))
    (settings : fr.stream = 0 → ∀ st, fr.body = .settings st → st.hasWindowSize = false →
      P (closeIfClosing (applyTableSize { r with fwd := r.fwd ++ [fr] } st)))
    (connOver : fr.stream = 0 → ∀ inc, fr.body = .windowUpdate inc →
      P (stopLoop (writeGoAway { r with fwd := r.fwd ++ [fr], s := { r.s with clientWindow := r.s.clientWindow + inc } } 0
        Gen.c_FlowControlError "conn-win-max")))
    (connWU : fr.stream = 0 → ∀ inc, fr.body = .windowUpdate inc →
      P (closeIfClosing (flushStreams { r with fwd := r.fwd ++ [fr], s := { r.s with clientWindow := r.s.clientWindow + inc } })))
    (other : fr.stream = 0 → (∀ st, fr.body ≠ .settings st) → (∀ inc, fr.body ≠ .windowUpdate inc) →
      P (closeIfClosing { r with fwd := r.fwd ++ [fr] }))
    (stream : fr.stream ≠ 0 → P (slStreamFrame { r with fwd := r.fwd ++ [fr] } fr)) :
    P (slFrame r fr) := by
  unfold slFrame
  split
  · rename_i h; exact stopped h
  · dsimp only
    split
    · rename_i h0
      have h0 : fr.stream = 0 := by simpa using h0
      split
      · rename_i st hb
        split
        · rename_i hw
          split
          · rename_i ho; exact winOver h0 st hb hw ho
          · rename_i ho; exact settingsWin h0 st hb hw (Bool.eq_false_iff.mpr ho)
        · rename_i hw; exact settings h0 st hb (Bool.eq_false_iff.mpr hw)
      · rename_i inc hb
        split
        · exact connOver h0 inc hb
        · exact connWU h0 inc hb
      · rename_i h1 h2
        exact other h0 (fun st e => h1 st e) (fun inc e => h2 inc e)
    · rename_i h0
      exact stream (by simpa using h0)

theorem slFrame_cases {P : R → Prop} (r : R) (fr : Frame)
    (stopped : r.s.slStopped = true → P r)
    (winOver : ∀ st, fr.body = .settings st →
      P (stopLoop (writeGoAway (withInitWin (applyTableSize { r with fwd := r.fwd ++ [fr] } st) st) 0 Gen.c_FlowControlError "stream-win-max")))
    (settingsWin : ∀ st, fr.body = .settings st →
      P (closeIfClosing (flushStreams (withInitWin (applyTableSize { r with fwd := r.fwd ++ [fr] } st) st))))
    (settings : ∀ st, fr.body = .settings st → P (closeIfClosing (applyTableSize { r with fwd := r.fwd ++ [fr] } st)))
    (connOver : ∀ inc, fr.body = .windowUpdate inc →
      P (stopLoop (writeGoAway { r with fwd := r.fwd ++ [fr], s := { r.s with clientWindow := r.s.clientWindow + inc } } 0
        Gen.c_FlowControlError "conn-win-max")))
    (connWU : ∀ inc, fr.body = .windowUpdate inc →
      P (closeIfClosing (flushStreams { r with fwd := r.fwd ++ [fr], s := { r.s with clientWindow := r.s.clientWindow + inc } })))
    (other : P (closeIfClosing { r with fwd := r.fwd ++ [fr] }))
    (stream : fr.stream ≠ 0 → P (slStreamFrame { r with fwd := r.fwd ++ [fr] } fr)) :
    P (slFrame r fr) :=
  slFrame_outcomes r fr stopped (fun _ st hb _ _ => winOver st hb) (fun _ st hb _ _ => settingsWin st hb)
    (fun _ st hb _ => settings st hb) (fun _ => connOver) (fun _ => connWU) (fun _ _ _ => other) stream

/-- the state once the handler of the stream object `uid` has reported back: the response is written as far as the
windows allow, and the stream is closed if that finished it -/
def answered (r : R) (uid : Nat) (resp : Resp) : R :=
  if (finishRequest (r.updStrm uid fun s => { s with handlerRunning := false }) uid resp).2
  then closeDone (finishRequest (r.updStrm uid fun s => { s with handlerRunning := false }) uid resp).1 uid
  else (finishRequest (r.updStrm uid fun s => { s with handlerRunning := false }) uid resp).1

theorem answered_cases {P : R → Prop} (r : R) (uid : Nat) (resp : Resp)
    (closed : P (closeDone (finishRequest (r.updStrm uid fun s => { s with handlerRunning := false }) uid resp).1 uid))
    (pending : P (finishRequest (r.updStrm uid fun s => { s with handlerRunning := false }) uid resp).1) :
    P (answered r uid resp) :=
  ite_ind (fun _ => closed) fun _ => pending

/-- `abandoned`: the stream was closed while its handler ran, and gives its slot back only here -/
theorem slHandlerDone_cases {P : R → Prop} (r : R) (sid : Nat) (resp : Resp)
    (same : ∀ r0, (r0 = r ∨ r0 = r.emit .handlerPanicLogged) → P r0)
    (abandoned : ∀ r0 st, (r0 = r ∨ r0 = r.emit .handlerPanicLogged) → r0.s.abandoned.find? (·.id == sid) = some st →
      P (releaseStream { r0 with s := { r0.s with abandoned := r0.s.abandoned.filter (·.uid != st.uid) } } st))
    (done : ∀ r0 st, (r0 = r ∨ r0 = r.emit .handlerPanicLogged) →
      r0.s.strms.find? (fun st => st.id == sid && st.handlerRunning) = some st →
      ∀ b : Bool, P (if b then stopLoop (answered r0 st.uid resp) else answered r0 st.uid resp)) :
    P (slHandlerDone r sid resp) := by
  unfold slHandlerDone
  have h0 : (if resp.kind == "panic" then r.emit .handlerPanicLogged else r) = r ∨
      (if resp.kind == "panic" then r.emit .handlerPanicLogged else r) = r.emit .handlerPanicLogged := by
    split
    · exact Or.inr rfl
    · exact Or.inl rfl
  dsimp only
  generalize (if resp.kind == "panic" then r.emit .handlerPanicLogged else r) = r0 at h0
  split
  · exact same r0 h0
  · cases hf : r0.s.strms.find? (fun st => st.id == sid && st.handlerRunning) with
    | none =>
      dsimp only
      split
      · rename_i ha
        exact abandoned r0 _ h0 ha
      · exact same r0 h0
    | some st => exact done r0 st h0 hf _

/-! ## the read loop -/

theorem contCheck_cases {P : R × Bool → Prop} (r : R) (fr : Frame)
    (goAway : ∀ tag, P (writeGoAway r 0 Gen.c_ProtocolError tag, true))
    (pass : ∀ e, P ({ r with s := { r.s with expectCont := e } }, false)) :
    P (contCheck r fr) := by
  unfold contCheck
  split
  · split
    · exact goAway _
    · split
      · exact pass _
      · exact pass r.s.expectCont
  · split
    · exact goAway _
    · split
      · exact pass _
      · exact pass r.s.expectCont

/-- the number of acknowledgements a frame is owed: one for a SETTINGS frame without ACK on stream 0
that passes the CONTINUATION sequencing check -/
def acksOwed (r : R) (fr : Frame) : Nat :=
  if (contCheck r fr).2 then 0
  else if fr.stream != 0 then 0
  else match fr.body with
    | .settings st => if !st.ack then 1 else 0
    | _ => 0

theorem rlFrame_cases {P : R → Prop} (r : R) (fr : Frame)
    (stop : acksOwed r fr = 0 → P (rlStop (contCheck r fr).1))
    (stopGoAway : acksOwed r fr = 0 → ∀ code tag, P (rlStop (writeGoAway (contCheck r fr).1 0 code tag)))
    (toSl : acksOwed r fr = 0 → P (slFrame (contCheck r fr).1 fr))
    (settings : acksOwed r fr = 1 → ∀ st, fr.body = .settings st → P (slFrame (handleSettings (contCheck r fr).1 st) fr))
    (ping : acksOwed r fr = 0 → ∀ b, P ((contCheck r fr).1.emit (.ping true b)))
    (same : acksOwed r fr = 0 → P (contCheck r fr).1) :
    P (rlFrame r fr) := by
  unfold rlFrame
  dsimp only
  split
  · rename_i hc
    exact stop (by simp [acksOwed, hc])
  · rename_i hc
    split
    · rename_i h0
      have ha : acksOwed r fr = 0 := by simp [acksOwed, hc, h0]
      split
      · exact stopGoAway ha _ _
      · split
        · exact stopGoAway ha _ _
        · split
          · exact stopGoAway ha _ _
          · exact toSl ha
    · rename_i h0
      unfold rlConnFrame
      split
      · rename_i st hb
        split
        · rename_i hk
          exact settings (by simp [acksOwed, hc, h0, hb, hk]) st hb
        · rename_i hk
          exact same (by simp [acksOwed, hc, h0, hb, hk])
      · rename_i hb
        have ha : acksOwed r fr = 0 := by simp [acksOwed, hc, h0, hb]
        split
        · exact stopGoAway ha _ _
        · exact toSl ha
      · rename_i hb
        have ha : acksOwed r fr = 0 := by simp [acksOwed, hc, h0, hb]
        split
        · exact ping ha _
        · exact same ha
      · rename_i hb
        exact stop (by simp [acksOwed, hc, h0, hb])
      · rename_i hb1 hb2 hb3 hb4
        refine stopGoAway ?_ _ _
        unfold acksOwed
        rw [if_neg hc, if_neg h0]
        split
        · rename_i st hb
          exact (hb1 st hb).elim
        · rfl

theorem rlDrain_succ (fuel : Nat) (r : R) :
    rlDrain (fuel + 1) r =
      if r.s.rlStopped || r.s.inbuf.isEmpty then r else
      match Frame.readFrame Gen.c_defaultDataFrameSize r.s.inbuf with
      | .ok fr n => rlDrain fuel (rlFrame { r with s := { r.s with inbuf := r.s.inbuf.drop n } } fr)
      | .unknownType _ n =>
        if r.s.inbuf.length < 9 + be24 r.s.inbuf then r
        else if r.s.expectCont != 0 then
          rlStop (writeGoAway { r with s := { r.s with inbuf := r.s.inbuf.drop n } } 0 Gen.c_ProtocolError "ext-in-block")
        else rlDrain fuel { r with s := { r.s with inbuf := r.s.inbuf.drop n } }
      | .err .io _ => r
      | .err (.goAway code) _ => rlStop (writeGoAway r 0 code "frame-error")
      | .err _ _ => rlStop r := rfl

theorem rlDrain_cases {P : R → Prop} (fuel : Nat) (r : R)
    (same : P r)
    (frame : ∀ fr n, Frame.readFrame Gen.c_defaultDataFrameSize r.s.inbuf = .ok fr n →
      P (rlDrain fuel (rlFrame { r with s := { r.s with inbuf := r.s.inbuf.drop n } } fr)))
    (skip : ∀ n, P (rlDrain fuel { r with s := { r.s with inbuf := r.s.inbuf.drop n } }))
    (goAway : ∀ n code tag, P (rlStop (writeGoAway { r with s := { r.s with inbuf := r.s.inbuf.drop n } } 0 code tag)))
    (dropped : P (rlStop r)) :
    P (rlDrain (fuel + 1) r) := by
  rw [rlDrain_succ]
  split
  · exact same
  · split
    · rename_i fr n h; exact frame fr n h
    · split
      · exact same
      · split
        · exact goAway _ _ _
        · exact skip _
    · exact same
    · exact goAway 0 _ _
    · exact dropped

/-! ## teardown -/

theorem settle_cases {P : R → Prop} (r : R) (same : P r)
    (returned : P { (r.emit .returned) with s := { r.s with returned := true, rlStopped := true, slStopped := true } }) :
    P (settle r) :=
  ite_ind (fun _ => returned) fun _ => same

end H2.Server
