import H2.Frame.Spec
import H2.Pool
/-! Helper lemmas for C05/C16: `deserialize` type by type and `readFrame` outcome by outcome (`deserialize_cases`,
`read_cases`); the mirror model `Frame.readFrame` refines the RFC grammar `Frame.Spec.parse` (`read_refines`). -/
namespace H2.Frame
open H2

theorem hasFlag_bitAt (fl k : Nat) : hasFlag fl (2 ^ k) = Spec.bitAt fl k := by
  simp only [hasFlag, Spec.bitAt]
  by_cases h : fl / 2 ^ k % 2 = 1 <;> simp [h]

theorem hasFlag_1 (fl : Nat) : hasFlag fl 1 = Spec.bitAt fl 0 := hasFlag_bitAt fl 0
theorem hasFlag_4 (fl : Nat) : hasFlag fl 4 = Spec.bitAt fl 2 := hasFlag_bitAt fl 2
theorem hasFlag_8 (fl : Nat) : hasFlag fl 8 = Spec.bitAt fl 3 := hasFlag_bitAt fl 3
theorem hasFlag_32 (fl : Nat) : hasFlag fl 32 = Spec.bitAt fl 5 := hasFlag_bitAt fl 5

theorem be32_u32 (a b c d : Nat) (t : Bytes) : be32 (a :: b :: c :: d :: t) = Spec.u32 a b c d := by
  simp [be32, Spec.u32]; omega

theorem be32_u31 (a b c d : Nat) (t : Bytes) (hb : b < 256) (hc : c < 256) (hd : d < 256) :
    be32 (a :: b :: c :: d :: t) % 2 ^ 31 = Spec.u31 a b c d := by
  simp [be32, Spec.u31, Spec.u32]; omega

theorem cutPadding_unpad (p : Bytes) : cutPadding p = Spec.unpad true p := by
  cases p with
  | nil => simp [cutPadding, Spec.unpad]
  | cons n rest =>
    simp only [cutPadding, Spec.unpad, List.length_cons, if_true]
    by_cases h : n ≤ rest.length
    · have h1 : ¬ (n + 1 > rest.length + 1) := by omega
      have h2 : rest.length + 1 - n - 1 = rest.length - n := by omega
      simp [h, h1, h2]
    · have h1 : n + 1 > rest.length + 1 := by omega
      simp [h, h1]

def withPairs (s : SettingsVal) (q : List (Nat × Nat)) : SettingsVal := { s with pairs := q }

theorem applyPair_withPairs (s : SettingsVal) (q : List (Nat × Nat)) (p : Nat × Nat) :
    Spec.applyPair (withPairs s q) p = withPairs (Spec.applyPair s p) q := by
  simp only [Spec.applyPair, apply_ite (withPairs · q)]
  rfl

theorem foldl_withPairs (ps : List (Nat × Nat)) (s : SettingsVal) (q : List (Nat × Nat)) :
    ps.foldl Spec.applyPair (withPairs s q) = withPairs (ps.foldl Spec.applyPair s) q := by
  induction ps generalizing s with
  | nil => rfl
  | cons p ps ih => simp only [List.foldl_cons, applyPair_withPairs, ih]

theorem settingsRead_cons (i0 i1 v0 v1 v2 v3 : Nat) (rest : Bytes) (s : SettingsVal) :
    settingsRead (i0 :: i1 :: v0 :: v1 :: v2 :: v3 :: rest) s =
      match Spec.pairBad (i0 * 256 + i1, Spec.u32 v0 v1 v2 v3) with
      | some c => .inr c
      | none => settingsRead rest (withPairs (Spec.applyPair s (i0 * 256 + i1, Spec.u32 v0 v1 v2 v3))
                  (s.pairs ++ [(i0 * 256 + i1, Spec.u32 v0 v1 v2 v3)])) := by
  rw [settingsRead]
  simp only [be32_u32]
  generalize i0 * 256 + i1 = k
  generalize Spec.u32 v0 v1 v2 v3 = v
  simp only [Spec.pairBad, Spec.applyPair, withPairs, Gen.c_HeaderTableSize, Gen.c_EnablePush, Gen.c_MaxConcurrentStreams,
    Gen.c_MaxWindowSize, Gen.c_MaxFrameSize, Gen.c_MaxHeaderListSize, Gen.c_ProtocolError, Gen.c_FlowControlError]
  by_cases h1 : k = 1
  · subst h1; simp
  by_cases h2 : k = 2
  · subst h2; by_cases hv : v > 1 <;> simp [hv]
  by_cases h3 : k = 3
  · subst h3; simp
  by_cases h4 : k = 4
  · subst h4; by_cases hv : v > 2 ^ 31 - 1 <;> simp [hv]
  by_cases h5 : k = 5
  · subst h5; by_cases hv : v < 2 ^ 14 ∨ v > 2 ^ 24 - 1 <;> simp [hv]
  by_cases h6 : k = 6
  · subst h6; simp
  simp [h1, h2, h3, h4, h5, h6]

theorem settingsRead_spec (p : Bytes) (s : SettingsVal) :
    settingsRead p s = match Spec.firstBad (Spec.pairsOf p) with
      | some c => .inr c
      | none => .inl (some (withPairs ((Spec.pairsOf p).foldl Spec.applyPair s) (s.pairs ++ Spec.pairsOf p))) := by
  fun_induction Spec.pairsOf p generalizing s with
  | case1 i0 i1 v0 v1 v2 v3 rest ih =>
    rw [settingsRead_cons]
    simp only [Spec.firstBad, List.foldl_cons]
    cases hb : Spec.pairBad (i0 * 256 + i1, Spec.u32 v0 v1 v2 v3) with
    | some c => rfl
    | none =>
      simp only [ih, foldl_withPairs]
      cases Spec.firstBad (Spec.pairsOf rest) with
      | some c => rfl
      | none => simp [withPairs]
  | case2 p h =>
    unfold settingsRead
    split
    · exact absurd rfl (fun e => h _ _ _ _ _ _ _ e)
    · simp [Spec.firstBad, withPairs]

theorem u32_mod (a b c d : Nat) (hb : b < 256) (hc : c < 256) (hd : d < 256) :
    Spec.u32 a b c d % 2147483648 = Spec.u31 a b c d := by
  simp [Spec.u31, Spec.u32]; omega

/-! `deserialize` type by type. The type tag is decided by evaluation, so each equation holds by `rfl`. -/

theorem deserialize_data_eq (flags : Nat) (p : Bytes) :
    deserialize Gen.c_FrameData flags p =
      if hasFlag flags Gen.c_FlagPadded then
        match cutPadding p with
        | some d => .inl (.data (hasFlag flags Gen.c_FlagEndStream) d)
        | none => .inr .plain
      else .inl (.data (hasFlag flags Gen.c_FlagEndStream) p) := rfl

theorem deserialize_headers_eq (flags : Nat) (p : Bytes) :
    deserialize Gen.c_FrameHeaders flags p =
      match (if hasFlag flags Gen.c_FlagPadded then cutPadding p else some p) with
      | none => .inr .plain
      | some q =>
        if hasFlag flags Gen.c_FlagPriority then
          if q.length < 5 then .inr (.other Gen.c_ProtocolError)
          else .inl (.headers (hasFlag flags Gen.c_FlagEndStream) (hasFlag flags Gen.c_FlagEndHeaders)
                      (some (be32 q % 2 ^ 31, q.getD 4 0)) (q.drop 5))
        else .inl (.headers (hasFlag flags Gen.c_FlagEndStream) (hasFlag flags Gen.c_FlagEndHeaders) none q) := rfl

theorem deserialize_priority_eq (flags : Nat) (p : Bytes) :
    deserialize Gen.c_FramePriority flags p =
      if p.length ≠ 5 then .inr (.other Gen.c_FrameSizeError) else .inl (.priority (be32 p % 2 ^ 31) (p.getD 4 0)) := rfl

theorem deserialize_rstStream_eq (flags : Nat) (p : Bytes) :
    deserialize Gen.c_FrameResetStream flags p =
      if p.length ≠ 4 then .inr (.goAway Gen.c_FrameSizeError) else .inl (.rstStream (be32 p)) := rfl

theorem deserialize_settings_eq (flags : Nat) (p : Bytes) :
    deserialize Gen.c_FrameSettings flags p =
      if p.length % 6 ≠ 0 then .inr (.goAway Gen.c_FrameSizeError)
      else if hasFlag flags Gen.c_FlagAck && p.length > 0 then .inr (.goAway Gen.c_FrameSizeError)
      else match settingsRead p { ack := hasFlag flags Gen.c_FlagAck } with
        | .inl (some s) => .inl (.settings s)
        | .inl none => .inr .plain
        | .inr code => .inr (.goAway code) := rfl

theorem deserialize_pushPromise_eq (flags : Nat) (p : Bytes) :
    deserialize Gen.c_FramePushPromise flags p =
      match (if hasFlag flags Gen.c_FlagPadded then cutPadding p else some p) with
      | none => .inr .plain
      | some q =>
        if q.length < 4 then .inr (.other Gen.c_ProtocolError)
        else .inl (.pushPromise (be32 q % 2 ^ 31) (hasFlag flags Gen.c_FlagEndHeaders) (q.drop 4)) := rfl

theorem deserialize_ping_eq (flags : Nat) (p : Bytes) :
    deserialize Gen.c_FramePing flags p =
      if p.length ≠ 8 then .inr (.goAway Gen.c_FrameSizeError) else .inl (.ping (hasFlag flags Gen.c_FlagAck) p) := rfl

theorem deserialize_goAway_eq (flags : Nat) (p : Bytes) :
    deserialize Gen.c_FrameGoAway flags p =
      if p.length < 8 then .inr (.goAway Gen.c_FrameSizeError)
      else .inl (.goAway (be32 p % 2 ^ 31) (be32 (p.drop 4)) (p.drop 8)) := rfl

theorem deserialize_windowUpdate_eq (flags : Nat) (p : Bytes) :
    deserialize Gen.c_FrameWindowUpdate flags p =
      if p.length ≠ 4 then .inr (.goAway Gen.c_FrameSizeError) else .inl (.windowUpdate (be32 p % 2 ^ 31)) := rfl

/-- `deserialize` does not check the upper end of the type range: `readFrame` has done that -/
theorem deserialize_continuation_eq {typ : Nat} (flags : Nat) (p : Bytes) (h : Gen.c_FrameContinuation ≤ typ) :
    deserialize typ flags p = .inl (.continuation (hasFlag flags Gen.c_FlagEndHeaders) p) := by
  obtain ⟨k, rfl⟩ : ∃ k, typ = k + 9 := ⟨typ - 9, by simp only [Gen.c_FrameContinuation] at h; omega⟩
  rfl

theorem deserialize_cases {P : Nat → Body → Prop} {typ flags : Nat} {p : Bytes} {body : Body}
    (h : deserialize typ flags p = .inl body)
    (data : ∀ d, P Gen.c_FrameData (.data (hasFlag flags Gen.c_FlagEndStream) d))
    (headers : ∀ prio frag, P Gen.c_FrameHeaders
      (.headers (hasFlag flags Gen.c_FlagEndStream) (hasFlag flags Gen.c_FlagEndHeaders) prio frag))
    (priority : ∀ dep weight, P Gen.c_FramePriority (.priority dep weight))
    (rstStream : ∀ code, P Gen.c_FrameResetStream (.rstStream code))
    (settings : ∀ s, settingsRead p { ack := hasFlag flags Gen.c_FlagAck } = .inl (some s) →
      P Gen.c_FrameSettings (.settings s))
    (pushPromise : ∀ promised frag, P Gen.c_FramePushPromise
      (.pushPromise promised (hasFlag flags Gen.c_FlagEndHeaders) frag))
    (ping : P Gen.c_FramePing (.ping (hasFlag flags Gen.c_FlagAck) p))
    (goAway : ∀ last code debug, P Gen.c_FrameGoAway (.goAway last code debug))
    (windowUpdate : ∀ inc, P Gen.c_FrameWindowUpdate (.windowUpdate inc))
    (continuation : Gen.c_FrameContinuation ≤ typ → P typ (.continuation (hasFlag flags Gen.c_FlagEndHeaders) p)) :
    P typ body := by
  by_cases ht : Gen.c_FrameContinuation ≤ typ
  · rw [deserialize_continuation_eq flags p ht] at h
    cases h
    exact continuation ht
  have hc : typ = 0 ∨ typ = 1 ∨ typ = 2 ∨ typ = 3 ∨ typ = 4 ∨ typ = 5 ∨ typ = 6 ∨ typ = 7 ∨ typ = 8 := by
    simp only [Gen.c_FrameContinuation] at ht; omega
  rcases hc with rfl | rfl | rfl | rfl | rfl | rfl | rfl | rfl | rfl
  · rw [show deserialize 0 flags p = _ from deserialize_data_eq flags p] at h
    split at h
    · split at h
      · cases h; exact data _
      · cases h
    · cases h; exact data _
  · rw [show deserialize 1 flags p = _ from deserialize_headers_eq flags p] at h
    split at h
    · cases h
    · split at h
      · split at h
        · cases h
        · cases h; exact headers _ _
      · cases h; exact headers _ _
  · rw [show deserialize 2 flags p = _ from deserialize_priority_eq flags p] at h
    split at h
    · cases h
    · cases h; exact priority _ _
  · rw [show deserialize 3 flags p = _ from deserialize_rstStream_eq flags p] at h
    split at h
    · cases h
    · cases h; exact rstStream _
  · rw [show deserialize 4 flags p = _ from deserialize_settings_eq flags p] at h
    split at h
    · cases h
    · split at h
      · cases h
      · split at h
        · rename_i s hs; cases h; exact settings s hs
        · cases h
        · cases h
  · rw [show deserialize 5 flags p = _ from deserialize_pushPromise_eq flags p] at h
    split at h
    · cases h
    · split at h
      · cases h
      · cases h; exact pushPromise _ _
  · rw [show deserialize 6 flags p = _ from deserialize_ping_eq flags p] at h
    split at h
    · cases h
    · cases h; exact ping
  · rw [show deserialize 7 flags p = _ from deserialize_goAway_eq flags p] at h
    split at h
    · cases h
    · cases h; exact goAway _ _ _
  · rw [show deserialize 8 flags p = _ from deserialize_windowUpdate_eq flags p] at h
    split at h
    · cases h
    · cases h; exact windowUpdate _

theorem deserialize_settings {typ flags : Nat} {p : Bytes} {s : SettingsVal}
    (h : deserialize typ flags p = .inl (.settings s)) :
    settingsRead p { ack := hasFlag flags Gen.c_FlagAck } = .inl (some s) :=
  deserialize_cases (P := fun _ b => b = .settings s → settingsRead p { ack := hasFlag flags Gen.c_FlagAck } = .inl (some s)) h
    (fun _ e => nomatch e) (fun _ _ e => nomatch e) (fun _ _ e => nomatch e) (fun _ e => nomatch e)
    (fun _ hs e => by cases e; exact hs)
    (fun _ _ e => nomatch e) (fun e => nomatch e) (fun _ _ _ e => nomatch e) (fun _ e => nomatch e) (fun _ e => nomatch e) rfl

/-- `readFrame` and the return path `Pool.path` make the same case split -/
theorem read_cases {P : Pool.Path → ReadRes → Prop} (max : Nat) (b : Bytes)
    (noHeader : b.length < 9 → P .noHeader (.err .io 0))
    (tooLarge : 9 ≤ b.length → max ≠ 0 → be24 b > max → P .tooLarge (.err .tooLarge 9))
    (unknown : 9 ≤ b.length → (max = 0 ∨ be24 b ≤ max) → b.getD 3 0 > Gen.c_FrameContinuation →
      P .unknownType (.unknownType (b.getD 3 0) (9 + min (be24 b) (b.length - 9))))
    (short : 9 ≤ b.length → (max = 0 ∨ be24 b ≤ max) → b.length < 9 + be24 b → P .shortPayload (.err .io b.length))
    (bad : ∀ k, (max = 0 ∨ be24 b ≤ max) → 9 + be24 b ≤ b.length →
      deserialize (b.getD 3 0) (b.getD 4 0) ((b.drop 9).take (be24 b)) = .inr k → P .deserErr (.err k (9 + be24 b)))
    (ok : ∀ body, (max = 0 ∨ be24 b ≤ max) → 9 + be24 b ≤ b.length → b.getD 3 0 ≤ Gen.c_FrameContinuation →
      deserialize (b.getD 3 0) (b.getD 4 0) ((b.drop 9).take (be24 b)) = .inl body →
      P .ok (.ok ⟨b.getD 3 0, b.getD 4 0, be32 (b.drop 5) % 2 ^ 31, be24 b, body⟩ (9 + be24 b))) :
    P (Pool.path max b) (readFrame max b) := by
  unfold Pool.path readFrame
  by_cases h9 : b.length < 9
  · rw [if_pos h9, if_pos h9]; exact noHeader h9
  rw [if_neg h9, if_neg h9]
  by_cases hm : (max ≠ 0 && be24 b > max) = true
  · simp only [hm, if_true]
    simp only [Bool.and_eq_true, decide_eq_true_eq] at hm
    exact tooLarge (by omega) hm.1 hm.2
  simp only [hm, if_false, Bool.false_eq_true]
  have hw : max = 0 ∨ be24 b ≤ max := by
    simp only [Bool.and_eq_true, decide_eq_true_eq] at hm; omega
  by_cases ht : b.getD 3 0 > Gen.c_FrameContinuation
  · rw [if_pos ht, if_pos ht]; exact unknown (by omega) hw ht
  rw [if_neg ht, if_neg ht]
  by_cases hl : (b.drop 9).length < be24 b
  · rw [if_pos hl, if_pos hl]; exact short (by omega) hw (by rw [List.length_drop] at hl; omega)
  rw [if_neg hl, if_neg hl]
  rw [List.length_drop] at hl
  cases hd : deserialize (b.getD 3 0) (b.getD 4 0) ((b.drop 9).take (be24 b)) with
  | inr k => exact bad k hw (by omega) hd
  | inl body => exact ok body hw (by omega) (Nat.le_of_not_gt ht) hd

theorem readFrame_ok_inv {max : Nat} {b : Bytes} {fr : Frame} {n : Nat} (h : readFrame max b = .ok fr n) :
    fr.typ ≤ Gen.c_FrameContinuation ∧ fr.stream < 2 ^ 31 ∧ fr.length = be24 b ∧ n = 9 + fr.length ∧ n ≤ b.length ∧
    deserialize fr.typ fr.flags ((b.drop 9).take fr.length) = .inl fr.body := by
  revert h
  refine read_cases (P := fun _ r => r = .ok fr n → _) max b (fun _ h => nomatch h) (fun _ _ _ h => nomatch h)
    (fun _ _ _ h => nomatch h) (fun _ _ _ h => nomatch h) (fun _ _ _ _ h => nomatch h) ?_
  intro body _ hl ht hd h
  cases h
  exact ⟨ht, Nat.mod_lt _ (by decide), rfl, rfl, hl, hd⟩

theorem readFrame_settings {max : Nat} {b : Bytes} {fr : Frame} {n : Nat} {s : SettingsVal}
    (h : readFrame max b = .ok fr n) (hs : fr.body = .settings s) :
    ∃ p ack, settingsRead p { ack := ack } = .inl (some s) :=
  ⟨_, _, deserialize_settings (hs ▸ (readFrame_ok_inv h).2.2.2.2.2)⟩

/-- what it means for the mirror model's `Deserialize` to agree with the RFC's payload grammar -/
def Agrees (s : Spec.BodyRes) (m : Body ⊕ ErrKind) : Prop :=
  match s with
  | .ok bd => m = .inl bd
  | .bad _ => ∃ k, m = .inr k ∧ k ≠ .io

theorem deser_data (flags : Nat) (p : Bytes) : Agrees (Spec.body 0 flags p) (deserialize 0 flags p) := by
  rw [show deserialize 0 flags p = _ from deserialize_data_eq flags p]
  simp only [Spec.body, Gen.c_FlagPadded, Gen.c_FlagEndStream, hasFlag_8, hasFlag_1, cutPadding_unpad]
  by_cases h : Spec.bitAt flags 3
  · simp only [h, if_true]
    cases Spec.unpad true p <;> simp [Agrees]
  · simp [h, Spec.unpad, Agrees]

theorem unpad_wf (pd : Bool) (p q : Bytes) (hp : WF p) (h : Spec.unpad pd p = some q) : WF q := by
  unfold Spec.unpad at h
  split at h
  · split at h
    · cases h
    · rename_i n rest
      split at h
      · cases h
        intro x hx
        exact hp x (List.mem_cons_of_mem _ (List.mem_of_mem_take hx))
      · cases h
  · cases h; exact hp

theorem unpad_if (c : Bool) (p : Bytes) : (if c = true then Spec.unpad true p else some p) = Spec.unpad c p := by
  cases c <;> rfl

theorem deser_headers (flags : Nat) (p : Bytes) (hp : WF p) : Agrees (Spec.body 1 flags p) (deserialize 1 flags p) := by
  rw [show deserialize 1 flags p = _ from deserialize_headers_eq flags p]
  simp only [Spec.body, Gen.c_FlagPadded, Gen.c_FlagEndStream, Gen.c_FlagEndHeaders, Gen.c_FlagPriority, hasFlag_8, hasFlag_1,
    hasFlag_4, hasFlag_32, cutPadding_unpad, unpad_if]
  cases hq : Spec.unpad (Spec.bitAt flags 3) p with
  | none => simp [Agrees]
  | some q =>
    have hw := unpad_wf _ _ _ hp hq
    by_cases h5 : Spec.bitAt flags 5
    · simp only [h5, if_true]
      rcases q with _ | ⟨a, _ | ⟨b, _ | ⟨c, _ | ⟨d, _ | ⟨w, frag⟩⟩⟩⟩⟩
      all_goals try (simp [Agrees, Gen.c_ProtocolError]; done)
      have hb := hw b (by simp); have hc := hw c (by simp); have hd := hw d (by simp)
      simp [Agrees, be32_u31 a b c d _ hb hc hd]
    · simp [h5, Agrees]

theorem deser_priority (flags : Nat) (p : Bytes) (hp : WF p) : Agrees (Spec.body 2 flags p) (deserialize 2 flags p) := by
  rw [show deserialize 2 flags p = _ from deserialize_priority_eq flags p]
  simp only [Spec.body, Gen.c_FrameSizeError]
  rcases p with _ | ⟨a, _ | ⟨b, _ | ⟨c, _ | ⟨d, _ | ⟨w, _ | ⟨x, t⟩⟩⟩⟩⟩⟩
  all_goals try (simp [Agrees]; done)
  have hb := hp b (by simp); have hc := hp c (by simp); have hd := hp d (by simp)
  simp [Agrees, be32_u31 a b c d _ hb hc hd]

theorem deser_rst (flags : Nat) (p : Bytes) : Agrees (Spec.body 3 flags p) (deserialize 3 flags p) := by
  rw [show deserialize 3 flags p = _ from deserialize_rstStream_eq flags p]
  simp only [Spec.body, Gen.c_FrameSizeError]
  rcases p with _ | ⟨a, _ | ⟨b, _ | ⟨c, _ | ⟨d, _ | ⟨x, t⟩⟩⟩⟩⟩
  all_goals try (simp [Agrees]; done)
  simp [Agrees, be32_u32]

theorem deser_settings (flags : Nat) (p : Bytes) : Agrees (Spec.body 4 flags p) (deserialize 4 flags p) := by
  rw [show deserialize 4 flags p = _ from deserialize_settings_eq flags p]
  simp only [Spec.body, Gen.c_FrameSizeError, Gen.c_FlagAck, hasFlag_1, settingsRead_spec]
  by_cases h6 : p.length % 6 = 0
  · by_cases ha : Spec.bitAt flags 0 = true ∧ p.length ≠ 0
    · have hpos : 0 < p.length := by omega
      simp [h6, ha, hpos, Agrees]
    · have : ¬ ((Spec.bitAt flags 0 && decide (p.length > 0)) = true) := by
        intro h; apply ha; simp at h; exact ⟨h.1, by omega⟩
      simp only [h6, ha, this]
      cases Spec.firstBad (Spec.pairsOf p) with
      | some c => simp [Agrees]
      | none => simp [Agrees, Spec.settingsVal, withPairs]
  · simp [h6, Agrees]

theorem deser_push (flags : Nat) (p : Bytes) (hp : WF p) : Agrees (Spec.body 5 flags p) (deserialize 5 flags p) := by
  rw [show deserialize 5 flags p = _ from deserialize_pushPromise_eq flags p]
  simp only [Spec.body, Gen.c_ProtocolError, Gen.c_FlagPadded, Gen.c_FlagEndHeaders, hasFlag_8, hasFlag_4, cutPadding_unpad,
    unpad_if]
  cases hq : Spec.unpad (Spec.bitAt flags 3) p with
  | none => simp [Agrees]
  | some q =>
    have hw := unpad_wf _ _ _ hp hq
    rcases q with _ | ⟨a, _ | ⟨b, _ | ⟨c, _ | ⟨d, frag⟩⟩⟩⟩
    all_goals try (simp [Agrees]; done)
    have hb := hw b (by simp); have hc := hw c (by simp); have hd := hw d (by simp)
    simp [Agrees, be32_u31 a b c d _ hb hc hd]

theorem deser_ping (flags : Nat) (p : Bytes) : Agrees (Spec.body 6 flags p) (deserialize 6 flags p) := by
  rw [show deserialize 6 flags p = _ from deserialize_ping_eq flags p]
  simp only [Spec.body, Gen.c_FrameSizeError, Gen.c_FlagAck, hasFlag_1]
  by_cases h : p.length = 8 <;> simp [h, Agrees]

theorem deser_goaway (flags : Nat) (p : Bytes) (hp : WF p) : Agrees (Spec.body 7 flags p) (deserialize 7 flags p) := by
  rw [show deserialize 7 flags p = _ from deserialize_goAway_eq flags p]
  simp only [Spec.body, Gen.c_FrameSizeError]
  rcases p with _ | ⟨a, _ | ⟨b, _ | ⟨c, _ | ⟨d, _ | ⟨e, _ | ⟨f, _ | ⟨g, _ | ⟨h, dbg⟩⟩⟩⟩⟩⟩⟩⟩
  all_goals try (simp [Agrees]; done)
  have hb := hp b (by simp); have hc := hp c (by simp); have hd := hp d (by simp)
  have hl : ¬ (dbg.length + 1 + 1 + 1 + 1 + 1 + 1 + 1 + 1 < 8) := by omega
  simp [Agrees, be32_u32, u32_mod a b c d hb hc hd, hl]

theorem deser_wu (flags : Nat) (p : Bytes) (hp : WF p) : Agrees (Spec.body 8 flags p) (deserialize 8 flags p) := by
  rw [show deserialize 8 flags p = _ from deserialize_windowUpdate_eq flags p]
  simp only [Spec.body, Gen.c_FrameSizeError]
  rcases p with _ | ⟨a, _ | ⟨b, _ | ⟨c, _ | ⟨d, _ | ⟨x, t⟩⟩⟩⟩⟩
  all_goals try (simp [Agrees]; done)
  have hb := hp b (by simp); have hc := hp c (by simp); have hd := hp d (by simp)
  simp [Agrees, be32_u31 a b c d _ hb hc hd]

theorem deser_cont (flags : Nat) (p : Bytes) : Agrees (Spec.body 9 flags p) (deserialize 9 flags p) := by
  rw [show deserialize 9 flags p = _ from deserialize_continuation_eq flags p (Nat.le_refl _)]
  simp [Spec.body, Gen.c_FlagEndHeaders, hasFlag_4, Agrees]

/-- every `Deserialize` reads a payload exactly as RFC 7540 §6 lays it out, and rejects what §6 rejects -/
theorem deser_agrees (typ flags : Nat) (p : Bytes) (hp : WF p) (ht : typ ≤ 9) :
    Agrees (Spec.body typ flags p) (deserialize typ flags p) := by
  have : typ = 0 ∨ typ = 1 ∨ typ = 2 ∨ typ = 3 ∨ typ = 4 ∨ typ = 5 ∨ typ = 6 ∨ typ = 7 ∨ typ = 8 ∨ typ = 9 := by omega
  rcases this with rfl | rfl | rfl | rfl | rfl | rfl | rfl | rfl | rfl | rfl
  · exact deser_data flags p
  · exact deser_headers flags p hp
  · exact deser_priority flags p hp
  · exact deser_rst flags p
  · exact deser_settings flags p
  · exact deser_push flags p hp
  · exact deser_ping flags p
  · exact deser_goaway flags p hp
  · exact deser_wu flags p hp
  · exact deser_cont flags p

/-- the mirror model's outcome `m` on input `b` is what the RFC grammar's outcome `s` demands -/
def Refines (b : Bytes) (s : Spec.Res) (m : ReadRes) : Prop :=
  match s with
  | .frame f rest => m = .ok f (9 + f.length) ∧ rest = b.drop (9 + f.length) ∧ 9 + f.length ≤ b.length
  | .ignored t l rest => m = .unknownType t (9 + l) ∧ rest = b.drop (9 + l) ∧ 9 + l ≤ b.length
  | .malformed _ => ∃ k n, m = .err k n ∧ k ≠ .io
  | .incomplete => (∃ n, m = .err .io n) ∨ (∃ t, m = .unknownType t b.length)

theorem read_refines (max : Nat) (b : Bytes) (hb : WF b) : Refines b (Spec.parse max b) (readFrame max b) := by
  rcases b with _ | ⟨l0, _ | ⟨l1, _ | ⟨l2, _ | ⟨t, _ | ⟨f, _ | ⟨s0, _ | ⟨s1, _ | ⟨s2, _ | ⟨s3, rest⟩⟩⟩⟩⟩⟩⟩⟩⟩
  all_goals try (simp [Spec.parse, Spec.parseHdr, readFrame, Refines]; done)
  have h1 := hb s1 (by simp); have h2 := hb s2 (by simp); have h3 := hb s3 (by simp)
  have hrest : WF rest := fun x hx => hb x (by simp [hx])
  have hlen : ¬ ((l0 :: l1 :: l2 :: t :: f :: s0 :: s1 :: s2 :: s3 :: rest).length < 9) := by simp
  have h24 : be24 (l0 :: l1 :: l2 :: t :: f :: s0 :: s1 :: s2 :: s3 :: rest) = (l0 * 256 + l1) * 256 + l2 := by
    simp [be24]; omega
  simp only [Spec.parse, Spec.parseHdr, readFrame, hlen, if_false, h24, List.getD_cons_succ, List.getD_cons_zero,
    List.drop_succ_cons, List.drop_zero, be32_u31 s0 s1 s2 s3 rest h1 h2 h3, Gen.c_FrameContinuation]
  generalize (l0 * 256 + l1) * 256 + l2 = len
  have hL : (l0 :: l1 :: l2 :: t :: f :: s0 :: s1 :: s2 :: s3 :: rest).length = rest.length + 9 := by simp
  by_cases hm : max ≠ 0 ∧ len > max
  · simp [hm, Refines]
  · have : ¬ ((decide (max ≠ 0) && decide (len > max)) = true) := by
      intro h; apply hm; simpa using h
    simp only [hm, this, if_false, Bool.false_eq_true]
    by_cases hr : rest.length < len
    · by_cases ht : t > 9
      · simp only [hr, ht, if_true, Refines, List.length_cons]
        right; exact ⟨t, by congr 1; omega⟩
      · simp [hr, ht, Refines]
    · by_cases ht : t > 9
      · simp only [hr, ht, if_true, if_false, Refines, List.length_cons]
        refine ⟨by congr 1; omega, ?_, by omega⟩
        have : 9 + len = len + 9 := by omega
        simp [this]
      · simp only [hr, ht, if_false]
        have hw : WF (rest.take len) := fun x hx => hrest x (List.mem_of_mem_take hx)
        have ha := deser_agrees t f (rest.take len) hw (by omega)
        unfold Agrees at ha
        cases hs : Spec.body t f (List.take len rest) with
        | ok bd =>
          rw [hs] at ha
          simp only [ha, Refines, List.length_cons]
          refine ⟨trivial, ?_, by omega⟩
          have : 9 + len = len + 9 := by omega
          simp [this]
        | bad c =>
          rw [hs] at ha
          obtain ⟨k, hk, hio⟩ := ha
          simp only [hk, Refines]
          exact ⟨k, _, rfl, hio⟩

end H2.Frame
