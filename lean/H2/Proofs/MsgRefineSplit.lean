import H2.Proofs.MsgRefineLoop
/-!
# C20 — refinement across frames: a header block cut into HEADERS + CONTINUATION frames

`MsgRefineLoop.fieldLoop_refines` is about the octets of one frame. Here the carry-over (`prevHdr`, `fieldSeen`, the decoder
state) between the frames of one block: the frames fed one by one give the verdict and the `msgSt` the whole block gives in
one frame (with END_HEADERS).

* `decRun_append` — the decoder's pass over `x ++ y` is the pass over `x`, then the pass over `what was carried over ++ y`
  (with the fields in front, also when the pass fails: unlike C03's `loop_gen`/`frames_gen` the fields decoded before an
  error are kept, the verdict depends on them)
* `decRun_congr`  — the pass depends on `(blockStart, fieldsProcessed)` only through "no field of the block yet"
* `feedPiece_split` — two pieces, the second one final: the verdict / state of the whole
* `feedBlock_whole` — any number of pieces
-/
namespace H2.Server.Lock
open H2.Server

/-- how the pass ended, the carried-over octets forgotten: `none` error, `some none` inside a representation,
`some (some dec)` at a representation boundary -/
def Tail.fin : Tail → Option (Option Hpack.DecState)
  | .clean d => some (some d)
  | .cut _ _ => some none
  | .bad => none

abbrev Coarse := List Hpack.Field × Option (Option Hpack.DecState)

def coarse (r : List Hpack.Field × Tail) : Coarse := (r.1, r.2.fin)

def prep (fs : List Hpack.Field) (c : Coarse) : Coarse := (fs ++ c.1, c.2)

theorem prep_nil (c : Coarse) : prep [] c = c := rfl

theorem prep_cons (f : Hpack.Field) (fs : List Hpack.Field) (c : Coarse) : prep (f :: fs) c = (f :: (prep fs c).1, (prep fs c).2) := rfl

theorem decRun_first (dec dec' : Hpack.DecState) (bs : Bool) (fp : Nat) (c c' : Nat) (cs cs' : Bytes)
    (h : Hpack.Spec.step dec bs fp (c :: cs) = Hpack.Spec.step dec' bs fp (c' :: cs')) :
    coarse (decRun ((c :: cs).length + 1) dec bs fp (c :: cs)) = coarse (decRun ((c' :: cs').length + 1) dec' bs fp (c' :: cs')) := by
  rw [decRun_cons, decRun_cons, h]
  cases Hpack.Spec.step dec' bs fp (c' :: cs') with
  | ok d fo rest => cases fo <;> rfl
  | _ => rfl

theorem decRun_congr (bs bs' : Bool) : ∀ (n : Nat) (fp fp' : Nat) (dec : Hpack.DecState) (b : Bytes),
    ((if bs then fp else fp + 1) = 0 ↔ (if bs' then fp' else fp' + 1) = 0) →
    coarse (decRun n dec bs fp b) = coarse (decRun n dec bs' fp' b) := by
  intro n
  induction n with
  | zero => intro fp fp' dec b _; rfl
  | succ n ih =>
    intro fp fp' dec b hK
    cases b with
    | nil => rfl
    | cons c cs =>
      simp only [decRun]
      have e : Hpack.Dec.next dec bs fp (c :: cs) = Hpack.Dec.next dec bs' fp' (c :: cs) := by
        rw [Hpack.next_eq_step, Hpack.next_eq_step]
        exact Hpack.step_congr bs bs' fp fp' hK _ dec _ (Nat.le_refl _)
      rw [← e]
      cases hd : Hpack.Dec.next dec bs fp (c :: cs) with
      | needMore => rfl
      | err => rfl
      | ok d fo rest =>
        cases fo with
        | none => rfl
        | some f =>
          have := ih (fp + 1) (fp' + 1) d rest (by cases bs <;> cases bs' <;> simp)
          simp only [coarse, Prod.mk.injEq] at this ⊢
          simp [this.1, this.2]

theorem decRun_append (bs : Bool) (y : Bytes) : ∀ (n : Nat) (dec : Hpack.DecState) (fp : Nat) (x : Bytes), x.length ≤ n →
    coarse (decRun ((x ++ y).length + 1) dec bs fp (x ++ y)) =
      match decRun (x.length + 1) dec bs fp x with
      | (fs1, .bad) => (fs1, none)
      | (fs1, .clean d) => prep fs1 (coarse (decRun (y.length + 1) d bs (fp + fs1.length) y))
      | (fs1, .cut d r) => prep fs1 (coarse (decRun ((r ++ y).length + 1) d bs (fp + fs1.length) (r ++ y))) := by
  intro n
  induction n with
  | zero =>
    intro dec fp x hx
    have : x = [] := List.eq_nil_of_length_eq_zero (by omega)
    subst this
    simp [decRun, prep_nil]
  | succ n ih =>
    intro dec fp x hx
    cases x with
    | nil => simp [decRun, prep_nil]
    | cons c cs =>
      have hA := Hpack.step_append bs fp y (c :: cs).length dec (c :: cs) (Nat.le_refl _)
      rw [decRun_cons dec bs fp c cs]
      cases hs : Hpack.Spec.step dec bs fp (c :: cs) with
      | err =>
        rw [hs] at hA
        rw [List.cons_append, decRun_cons, ← List.cons_append, hA]
        rfl
      | needMore =>
        have hsk := Hpack.skip_step bs fp y (c :: cs).length dec (c :: cs) (Nat.le_refl _)
        have hsk0 := Hpack.skip_step bs fp [] (c :: cs).length dec (c :: cs) (Nat.le_refl _)
        simp only [List.append_nil, hs] at hsk0
        -- what is handed back is not empty
        cases hr : (Hpack.Dec.skipUpdates dec bs fp (c :: cs)).2 with
        | nil => rw [hr, Hpack.step_nil] at hsk0; cases hsk0
        | cons c' cs' =>
          rw [hr] at hsk
          exact decRun_first _ _ bs fp _ _ _ _ hsk
      | ok d fo rest =>
        rw [hs] at hA
        cases fo with
        | none =>
          cases y with
          | nil => rw [List.append_nil, decRun_cons, hs]; rfl
          | cons c' cs' => exact decRun_first _ _ bs fp _ _ _ _ hA.2
        | some f =>
          have hlt := Hpack.step_progress _ _ _ _ _ _ _ hs
          rw [List.cons_append, decRun_cons, ← List.cons_append, hA]
          have := ih d (fp + 1) rest (by simp only [List.length_cons] at hlt hx; omega)
          rcases hrun : decRun (rest.length + 1) d bs (fp + 1) rest with ⟨fs1, t1⟩
          rw [hrun] at this
          simp only [coarse] at this ⊢
          have harith : fp + (fs1.length + 1) = fp + 1 + fs1.length := by omega
          cases t1 <;> simp only [hrun, List.length_cons, List.length_append, harith, prep, Prod.mk.injEq] at this ⊢ <;>
            simp [this.1, this.2]

/-! ## the field loop across the frames of one block -/

/-- the result of the loop on a frame that ends the block, seen through the projection: verdict, or the per-stream state and
the decoder state it leaves -/
def absFin (x : Srv × Strm × Option SErr) : Except Msg.Verdict (Msg.St × Hpack.DecState) :=
  match x.2.2 with
  | some e => .error (absErr e)
  | none => .ok (msgSt x.2.1, x.1.dec)

/-- the message model's account of a block that ends here: `Msg.loop` over the fields; octets left over or undecodable are
COMPRESSION_ERROR -/
def specC (cfg : Server.Cfg) (m : Msg.St) (c : Coarse) : Except Msg.Verdict (Msg.St × Hpack.DecState) :=
  match Msg.loop (cfgOf cfg) m (c.1.map kv) with
  | .error v => .error v
  | .ok m' =>
    match c.2 with
    | some (some d) => .ok (m', d)
    | _ => .error (.goAway Gen.c_CompressionError)

theorem specC_prep (cfg : Server.Cfg) (m : Msg.St) (fs : List Hpack.Field) (c : Coarse) :
    specC cfg m (prep fs c) = match Msg.loop (cfgOf cfg) m (fs.map kv) with
      | .error v => .error v
      | .ok m' => specC cfg m' c := by
  simp only [specC, prep, List.map_append, Msg.loop_append]
  cases Msg.loop (cfgOf cfg) m (fs.map kv) <;> rfl

/-- `fieldLoop_refines` for a frame with END_HEADERS, the decoder state included -/
theorem fieldLoop_final (fuel : Nat) (s : Srv) (st : Strm) (bs : Bool) (fp : Nat) (b : Bytes) (hcl : 0 ≤ st.contentLength) :
    absFin (fieldLoop fuel s st bs true fp b) = specC s.cfg (msgSt st) (coarse (decRun fuel s.dec bs fp b)) := by
  rcases hrun : decRun fuel s.dec bs fp b with ⟨fs, t⟩
  cases t with
  | clean d =>
    have h := fieldLoop_clean fuel s st bs true fp b hcl fs d hrun
    simp only [absFin, specC, coarse, Tail.fin]
    cases hl : Msg.loop (cfgOf s.cfg) (msgSt st) (fs.map kv) with
    | error v => rw [hl] at h; obtain ⟨e, he, hv⟩ := h; simp only [he, hv]
    | ok m => rw [hl] at h; simp only [h.1, h.2.1, h.2.2.1]
  | _ =>
    -- with END_HEADERS a pass that does not end at a boundary is COMPRESSION_ERROR, unless a field was refused before
    have h1 := fieldLoop_refines fuel s st bs true fp b hcl
    simp only [hrun, absOut, loopSpec, tailVerdict, if_true] at h1
    simp only [absFin, specC, coarse, Tail.fin]
    cases hl : Msg.loop (cfgOf s.cfg) (msgSt st) (fs.map kv) <;> cases he : (fieldLoop fuel s st bs true fp b).2.2 <;>
      simp [hl, he] at h1 ⊢ <;> exact h1

/-- the octets carried over to the next frame stay within `maxHeldHeaderFactor` times the list limit (otherwise the server
gives up on the block with GOAWAY(ENHANCE_YOUR_CALM): F68 — a verdict the whole block in one frame cannot get) -/
def HeldOK (cfg : Server.Cfg) (run : List Hpack.Field × Tail) : Prop :=
  ∀ d r, run.2 = .cut d r → heldTooLong cfg r = false

/-- one piece of a block through the loop of `handleHeaderFrame`: decoded together with what the previous piece left over
(`prevHdr`), `blockStart` is `!fieldSeen` -/
def feedPiece (s : Srv) (st : Strm) (eh : Bool) (p : Bytes) : Srv × Strm × Option SErr :=
  fieldLoop ((st.prevHdr ++ p).length + 1) s { st with prevHdr := [] } (!st.fieldSeen) eh 0 (st.prevHdr ++ p)

/-- **two pieces**: the octets `p` in a frame without END_HEADERS, then — on what was carried over — `y` in a frame with
END_HEADERS, against `p ++ y` in one frame with END_HEADERS: same verdict; when accepted, same `msgSt` and decoder state -/
theorem feedPiece_split (s : Srv) (st : Strm) (p y : Bytes) (hg : st.Good)
    (hh : HeldOK s.cfg (decRun ((st.prevHdr ++ p).length + 1) s.dec (!st.fieldSeen) 0 (st.prevHdr ++ p))) :
    absFin (feedPiece s st true (p ++ y)) =
      match (feedPiece s st false p).2.2 with
      | some e => .error (absErr e)
      | none => absFin (feedPiece (feedPiece s st false p).1 (feedPiece s st false p).2.1 true y) := by
  unfold feedPiece
  rw [← List.append_assoc]
  generalize st.prevHdr ++ p = x at hh ⊢
  have hg0 : Strm.Good { st with prevHdr := [] } := hg
  rw [fieldLoop_final _ s _ _ 0 (x ++ y) hg0.1, decRun_append (!st.fieldSeen) y x.length s.dec 0 x (Nat.le_refl _)]
  have h1 := fieldLoop_refines (x.length + 1) s { st with prevHdr := [] } (!st.fieldSeen) false 0 x hg0.1
  obtain ⟨_, k2, k3⟩ := fieldLoop_ctl (x.length + 1) s { st with prevHdr := [] } (!st.fieldSeen) false 0 x
  have hst := fieldLoop_state (x.length + 1) s { st with prevHdr := [] } (!st.fieldSeen) false 0 x
  have hgood := k2 hg0
  clear k2
  rcases hrun : decRun (x.length + 1) s.dec (!st.fieldSeen) 0 x with ⟨fs1, t1⟩
  rw [hrun] at hh
  simp only [hrun, absOut, loopSpec] at h1 hst
  generalize fieldLoop (x.length + 1) s { st with prevHdr := [] } (!st.fieldSeen) false 0 x = out1 at *
  obtain ⟨s1, st1, e1⟩ := out1
  have hm0 : msgSt { st with prevHdr := [] } = msgSt st := rfl
  simp only [hm0] at h1 hst hgood k3 ⊢
  cases hl : Msg.loop (cfgOf s.cfg) (msgSt st) (fs1.map kv) with
  | error v =>
    -- a field of the first piece is refused: that is the verdict of the whole
    rw [hl] at h1
    cases e1 with
    | none => cases h1
    | some e =>
      injection h1 with h1
      cases t1 with
      | bad => simp only [specC, hl, h1]
      | _ => simp only [specC_prep, hl, h1]
  | ok m1 =>
    rw [hl] at h1
    cases t1 with
    | bad =>
      cases e1 with
      | none => cases h1
      | some e =>
        injection h1 with h1
        simp only [specC, hl, h1]
        rfl
    | clean d =>
      cases e1 with
      | some e => cases h1
      | none =>
        obtain ⟨e1, e2, e3⟩ := hst rfl
        injection h1 with h1
        have hf := fieldLoop_final ((st1.prevHdr ++ y).length + 1) s1 { st1 with prevHdr := [] } (!st1.fieldSeen) 0 (st1.prevHdr ++ y) hgood.1
        have hm1 : msgSt { st1 with prevHdr := [] } = m1 := h1
        simp only [specC_prep, hl]
        rw [hf, hm1, k3, e1, e2, e3]
        exact congrArg _ (decRun_congr _ _ _ _ _ _ _ (by cases st.fieldSeen <;> cases fs1 <;> simp))
    | cut d r =>
      cases e1 with
      | some e => simp [tailVerdict, hh d r rfl] at h1
      | none =>
        obtain ⟨_, hht, e1, e2, e3⟩ := hst rfl
        simp only [tailVerdict, hht, Bool.false_eq_true, if_false] at h1
        injection h1 with h1
        have hf := fieldLoop_final ((st1.prevHdr ++ y).length + 1) s1 { st1 with prevHdr := [] } (!st1.fieldSeen) 0 (st1.prevHdr ++ y) hgood.1
        have hm1 : msgSt { st1 with prevHdr := [] } = m1 := h1
        simp only [specC_prep, hl]
        rw [hf, hm1, k3, e1, e2, e3]
        exact congrArg _ (decRun_congr _ _ _ _ _ _ _ (by cases st.fieldSeen <;> cases fs1 <;> simp))

/-! ## any number of pieces -/

/-- the loop of `handleHeaderFrame` over the frames of one block (after the frame-level preamble): every piece is decoded
together with what the previous piece left over (`prevHdr`), `blockStart` is `!fieldSeen`; END_HEADERS on the last piece -/
def feedBlock (s : Srv) (st : Strm) : List Bytes → Srv × Strm × Option SErr
  | [] => (s, st, none)
  | [p] => fieldLoop ((st.prevHdr ++ p).length + 1) s { st with prevHdr := [] } (!st.fieldSeen) true 0 (st.prevHdr ++ p)
  | p :: q :: ps =>
    match (fieldLoop ((st.prevHdr ++ p).length + 1) s { st with prevHdr := [] } (!st.fieldSeen) false 0 (st.prevHdr ++ p)).2.2 with
    | none =>
      feedBlock (fieldLoop ((st.prevHdr ++ p).length + 1) s { st with prevHdr := [] } (!st.fieldSeen) false 0 (st.prevHdr ++ p)).1
        (fieldLoop ((st.prevHdr ++ p).length + 1) s { st with prevHdr := [] } (!st.fieldSeen) false 0 (st.prevHdr ++ p)).2.1 (q :: ps)
    | some _ => fieldLoop ((st.prevHdr ++ p).length + 1) s { st with prevHdr := [] } (!st.fieldSeen) false 0 (st.prevHdr ++ p)

theorem feedBlock_cons (s : Srv) (st : Strm) (p q : Bytes) (ps : List Bytes) :
    feedBlock s st (p :: q :: ps) =
      match (feedPiece s st false p).2.2 with
      | none => feedBlock (feedPiece s st false p).1 (feedPiece s st false p).2.1 (q :: ps)
      | some _ => feedPiece s st false p := rfl

/-- at every cut the octets carried over stay within the bound of F68 (`HeldOK`) -/
def cutsOK (s : Srv) (st : Strm) : List Bytes → Prop
  | [] => True
  | [_] => True
  | p :: q :: ps =>
    HeldOK s.cfg (decRun ((st.prevHdr ++ p).length + 1) s.dec (!st.fieldSeen) 0 (st.prevHdr ++ p)) ∧
    ((fieldLoop ((st.prevHdr ++ p).length + 1) s { st with prevHdr := [] } (!st.fieldSeen) false 0 (st.prevHdr ++ p)).2.2 = none →
      cutsOK (fieldLoop ((st.prevHdr ++ p).length + 1) s { st with prevHdr := [] } (!st.fieldSeen) false 0 (st.prevHdr ++ p)).1
        (fieldLoop ((st.prevHdr ++ p).length + 1) s { st with prevHdr := [] } (!st.fieldSeen) false 0 (st.prevHdr ++ p)).2.1 (q :: ps))

theorem cutsOK_cons (s : Srv) (st : Strm) (p q : Bytes) (ps : List Bytes) :
    cutsOK s st (p :: q :: ps) =
      (HeldOK s.cfg (decRun ((st.prevHdr ++ p).length + 1) s.dec (!st.fieldSeen) 0 (st.prevHdr ++ p)) ∧
       ((feedPiece s st false p).2.2 = none → cutsOK (feedPiece s st false p).1 (feedPiece s st false p).2.1 (q :: ps))) := rfl

/-- **across frames**: a block cut into any number of pieces (HEADERS, CONTINUATION, …; empty pieces allowed; cuts anywhere),
fed piece by piece through the `prevHdr` carry-over, ends with the verdict of the whole block in one frame — and, when it is
accepted, with the same `msgSt` and the same decoder state -/
theorem feedBlock_whole : ∀ (ps : List Bytes) (s : Srv) (st : Strm), ps ≠ [] → st.Good → cutsOK s st ps →
    absFin (feedBlock s st ps) = absFin (feedBlock s st [ps.flatten]) := by
  intro ps
  induction ps with
  | nil => intro s st h; exact absurd rfl h
  | cons p ps ih =>
    intro s st _ hg hc
    cases ps with
    | nil => simp [feedBlock]
    | cons q qs =>
      rw [cutsOK_cons] at hc
      have k2 := (fieldLoop_ctl ((st.prevHdr ++ p).length + 1) s { st with prevHdr := [] } (!st.fieldSeen) false 0 (st.prevHdr ++ p)).2.1 hg
      rw [feedBlock_cons, show feedBlock s st [(p :: q :: qs).flatten] = feedPiece s st true (p ++ (q :: qs).flatten) from rfl,
        feedPiece_split s st p _ hg hc.1]
      cases he : (feedPiece s st false p).2.2 with
      | some e => simp only [absFin, he]
      | none => exact ih _ _ (by simp) k2 (hc.2 he)

theorem heldOK_unlimited (cfg : Server.Cfg) (h : cfg.maxHeaderList ≤ 0) (run : List Hpack.Field × Tail) : HeldOK cfg run := by
  intro d r _
  have : ¬ cfg.maxHeaderList > 0 := by omega
  simp [heldTooLong, this]

end H2.Server.Lock
