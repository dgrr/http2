import H2.Client.Queue
/-! Lemmas about the control-frame queue / request lock model (`H2.Client.Queue`). -/
namespace H2.Client.Queue

/-- who holds the request's lock, in terms of the program counters -/
structure Inv (s : S) : Prop where
  rd : s.holder = some .rd ↔ (s.rd = .holding ∨ s.rd = .creditHeld ∨ s.rd = .releasing)
  wl : s.holder = some .wl ↔ s.wl = .sending

theorem inv {k : Cfg} {s : S} (h : Reach k s) : Inv s := by
  induction h with
  | init => constructor <;> simp
  | step _ st ih =>
    obtain ⟨h1, h2⟩ := ih
    cases st <;> constructor <;> simp_all

theorem Steps.trans {k : Cfg} {a b c : S} (h1 : Steps k a b) (h2 : Steps k b c) : Steps k a c := by
  induction h2 with
  | refl => exact h1
  | tail _ st ih => exact Steps.tail ih st

theorem Steps.one {k : Cfg} {a b : S} (h : Step k a b) : Steps k a b := Steps.tail (Steps.refl a) h

theorem Reach.steps {k : Cfg} {a b : S} (ha : Reach k a) (h : Steps k a b) : Reach k b := by
  induction h with
  | refl => exact ha
  | tail _ st ih => exact Reach.step ih st

theorem reach_fill (k : Cfg) : ∀ n, n ≤ k.cap → Reach k { q := n }
  | 0, _ => Reach.init
  | n + 1, h => by
    have := Reach.step (reach_fill k n (by omega)) (Step.rdReply { q := n } rfl (by simp; omega))
    simpa using this

/-- in the repaired code nobody is ever about to queue a frame in a position where the write loop could
not make room: the read loop not with the request held, the write loop not at all -/
theorem inv_fixed {cap : Nat} {s : S} (h : Reach (Cfg.fixed cap) s) : s.rd ≠ .creditHeld ∧ s.wl ≠ .queueRst := by
  induction h with
  | init => simp
  | step _ st ih =>
    obtain ⟨h1, h2⟩ := ih
    cases st <;> simp_all [Cfg.fixed]

/-- the read loop, holding the request, lets go of it without needing room in the queue -/
theorem rd_releases {cap : Nat} {s : S} (h : Reach (Cfg.fixed cap) s) (hh : s.holder = some .rd) :
    ∃ s', Steps (Cfg.fixed cap) s s' ∧ s'.holder = none ∧ s'.wl = s.wl ∧ s'.q = s.q := by
  have i := inv h
  have j := inv_fixed h
  rcases i.rd.mp hh with hr | hr | hr
  · exact ⟨_, Steps.tail (Steps.one (Step.rdPlain s hr)) (Step.rdRelease _ rfl (by simpa using hh)), rfl, rfl, rfl⟩
  · exact absurd hr j.1
  · exact ⟨_, Steps.one (Step.rdRelease s hr hh), rfl, rfl, rfl⟩

end H2.Client.Queue
