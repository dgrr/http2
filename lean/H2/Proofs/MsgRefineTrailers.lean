import H2.Proofs.MsgRefineReq
/-!
# C20 — refinement, the long shape with trailers: `HEADERS(END_HEADERS), DATA*, trailers HEADERS(END_HEADERS|END_STREAM)`

* `field_regular_keeps`, `loop_regular_keeps`, `pseudoOK_trailers` — a field accepted from a `regularSeen` state keeps the
  pseudo-header flags and `:path`: `validateRequestPseudoHeaders`, run again after the trailer block, still passes
* `long_request_trailers` — the whole request against `Msg.validate hs trailers dataLen`
-/
namespace H2.Server.Lock
open H2.Server H2.Frame

/-! ## the trailer block cannot touch the pseudo-header bookkeeping -/

theorem field_regular_keeps (cfg : Msg.Cfg) (m m' : Msg.St) (f : MsgSpec.Field) (h : Msg.field cfg m f = .ok m')
    (hr : m.regularSeen = true) :
    m'.regularSeen = true ∧ m'.pMethod = m.pMethod ∧ m'.pScheme = m.pScheme ∧ m'.pPath = m.pPath ∧ m'.path = m.path := by
  have hu := Msg.field_ok_upd h
  by_cases hp : Msg.isPseudo f.1 = true
  · exfalso
    simp only [Msg.field, hp, hr, if_true] at h
    repeat' split at h
    all_goals cases h
  · subst hu
    simp only [Msg.upd, hp, Msg.bump, Bool.false_eq_true, if_false]
    repeat' split
    all_goals exact ⟨rfl, rfl, rfl, rfl, rfl⟩

theorem loop_regular_keeps (cfg : Msg.Cfg) (fs : List MsgSpec.Field) : ∀ (m m' : Msg.St), Msg.loop cfg m fs = .ok m' →
    m.regularSeen = true →
    m'.pMethod = m.pMethod ∧ m'.pScheme = m.pScheme ∧ m'.pPath = m.pPath ∧ m'.path = m.path := by
  induction fs with
  | nil => intro m m' h _; simp only [Msg.loop] at h; cases h; exact ⟨rfl, rfl, rfl, rfl⟩
  | cons f fs ih =>
    intro m m' h hr
    rw [loop_cons] at h
    cases hf : Msg.field cfg m f with
    | error e => rw [hf] at h; cases h
    | ok m1 =>
      rw [hf] at h
      obtain ⟨a, b, c, d, e⟩ := field_regular_keeps cfg m m1 f hf hr
      obtain ⟨b', c', d', e'⟩ := ih m1 m' h a
      exact ⟨b'.trans b, c'.trans c, d'.trans d, e'.trans e⟩

/-- **the pseudo-header test after the trailer block is the one after the request block** -/
theorem pseudoOK_trailers (cfg : Msg.Cfg) (tr : List MsgSpec.Field) (m mt : Msg.St)
    (h : Msg.loop cfg (Msg.startTrailers m) tr = .ok mt) : Msg.pseudoOK mt = Msg.pseudoOK m := by
  obtain ⟨a, b, c, d⟩ := loop_regular_keeps cfg tr _ mt h rfl
  simp only [Msg.pseudoOK, a, b, c, d, Msg.startTrailers]

/-- **the long shape with trailers**: `HEADERS(END_HEADERS), DATA*, trailers HEADERS(END_HEADERS | END_STREAM)` on a fresh stream,
frame after frame through the body of the stream loop: exactly one answer besides WINDOW_UPDATEs, the one
`Msg.validate hs trailers dataLen` calls for -/
theorem long_request_trailers (r : R) (uid : Nat) (frH frT : Frame) (ds : List Frame) (st : Strm) (es esT : Bool)
    (prio prioT : Option (Nat × Nat)) (frag fragT : Bytes)
    (ht : Tbl r uid st (Settled st.id)) (hf : Fresh st) (htyp : frH.typ = Gen.c_FrameHeaders)
    (hb : frH.body = .headers es true prio frag) (heh : Frame.hasFlag frH.flags Gen.c_FlagEndHeaders = true)
    (hes : Frame.hasFlag frH.flags Gen.c_FlagEndStream = false)
    (hprio : ∀ dep w, prio = some (dep, w) → (dep == st.id) = false)
    (hp : headersPrelude r frH = (r, true))
    (fs : List Hpack.Field) (d : Hpack.DecState) (hdec : decRun (frag.length + 1) r.s.dec true 0 frag = (fs, .clean d))
    (hds : ∀ fr ∈ ds, PlainData fr)
    (hTt : frT.typ = Gen.c_FrameHeaders) (hTs : frT.stream = st.id) (hTb : frT.body = .headers esT true prioT fragT)
    (hTeh : Frame.hasFlag frT.flags Gen.c_FlagEndHeaders = true) (hTes : Frame.hasFlag frT.flags Gen.c_FlagEndStream = true)
    (hTprio : ∀ dep w, prioT = some (dep, w) → (dep == st.id) = false)
    (fsT : List Hpack.Field) (d2 : Hpack.DecState) (hdecT : decRun (fragT.length + 1) d true 0 fragT = (fsT, .clean d2)) :
    ∃ o body, sig (runReq r uid (frH :: (ds ++ [frT]))).out = sig r.out ++ [o] ∧
      Verdicted (cfgOf r.s.cfg) (fs.map kv) (fsT.map kv) (tot ds) st.id body o := by
  rcases request_prefix r uid frH ds [frT] st _ es prio frag ht hf htyp hb heh hes hprio hp fs d hdec hds with
    ⟨o, h1, h2⟩ | ⟨m, r2, st2, hl, hps, hnov, h1, t2, hB, hrecv, hsig, hd2, hcfg⟩
  · exact ⟨o, {}, h1, h2 _ _ _ (Nat.le_refl _)⟩
  · have hp2 := prelude_ok r2 uid st2 frT (hTs ▸ t2) hB.fin (hB.id.trans hTs.symm)
    have hE := headers_end_stream r2 uid frT st2 esT prioT fragT t2.get hp2 hTt (.inr hB.state) hB.resp hTb hTeh hTes
      (hB.id ▸ hTprio) hB.prev hB.good fsT d2 (by rw [hd2]; exact hdecT)
    rw [hB.fin, hB.msg, hcfg, hrecv, hB.id] at hE
    simp only [if_true] at hE
    cases hlt : Msg.loop (cfgOf r.s.cfg) (Msg.startTrailers m) (fsT.map kv) with
    | error v =>
      rw [hlt] at hE
      obtain ⟨_, _, _, o, ho, ha⟩ := hE
      exact ⟨o, {}, by rw [h1, runReq_answered r2 uid frT [] _ o ho rfl ha.notWU, hsig],
        .refused (validate_tr_error _ _ _ _ m v hl hps hnov hlt) ha⟩
    | ok mt =>
      rw [hlt] at hE
      simp only [(pseudoOK_trailers _ _ _ _ hlt).trans hps, if_true] at hE
      exact ⟨_, st2.body, by rw [h1, runReq_answered r2 uid frT [] _ _ hE rfl (decision_notWU ..), hsig],
        .decided (validate_end _ _ _ _ m mt hl hps hnov hlt)⟩

end H2.Server.Lock
