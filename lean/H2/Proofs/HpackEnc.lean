import H2.Proofs.HpackDec
/-! The encoder model `Enc.append` (mirror of `AppendHeader`) against the specification decoder. -/
namespace H2.Hpack
open H2

theorem evict_fits : ∀ (t : List (Bytes × Bytes)) (max : Nat), tableSize (evict t max) ≤ max := by
  intro t max
  induction h : t.length using Nat.strongRecOn generalizing t with
  | _ n ih =>
    cases t with
    | nil => simp [evict, tableSize]
    | cons e t' =>
      unfold evict
      split
      · assumption
      · exact ih _ (by subst h; simp [List.length_dropLast]) _ rfl

theorem evict_of_fits (t : List (Bytes × Bytes)) (max : Nat) (h : tableSize t ≤ max) : evict t max = t := by
  cases t with
  | nil => simp [evict]
  | cons e t' => unfold evict; simp [h]

theorem lookup_static (t : List (Bytes × Bytes)) (j : Nat) (h : j < Gen.staticTable.length) :
    lookup t (j + 1) = some Gen.staticTable[j] := by
  have := static_len
  rw [lookup, if_neg (Nat.succ_ne_zero j), if_pos (by omega), Nat.add_sub_cancel]
  exact List.getElem?_eq_getElem h

/-- what `search` returns: 0, or the index of an entry with the field's name (and value when `full`);
a name-only match is always a static entry -/
theorem search_spec (st : EncState) (f : Field) :
    ((search st f).1 = 0 ∧ (search st f).2 = false) ∨
    (0 < (search st f).1 ∧ ∃ e, lookup st.dyn (search st f).1 = some e ∧ e.1 = f.name ∧
      ((search st f).2 = true → e.2 = f.value) ∧ ((search st f).2 = false → (search st f).1 < Gen.maxIndex)) := by
  have hmax : Gen.maxIndex = Gen.staticTable.length + 1 := static_len.symm
  unfold search
  simp only
  cases hd : st.dyn.reverse.findIdx? (fun e => e.1 == f.name && e.2 == f.value) with
  | some j =>
    -- the `j`-th oldest dynamic entry is entry `n - 1 - j` of the newest-first table
    obtain ⟨hlt, hp, _⟩ := List.findIdx?_eq_some_iff_getElem.mp hd
    simp only [List.length_reverse] at hlt
    rw [List.getElem_reverse] at hp
    simp only [Bool.and_eq_true, beq_iff_eq] at hp
    refine .inr ⟨by simp only; omega, st.dyn[st.dyn.length - 1 - j], ?_, hp.1, fun _ => hp.2, fun h => by cases h⟩
    simp only
    rw [lookup, if_neg (by omega), if_neg (by omega), Nat.add_sub_cancel_left]
    exact List.getElem?_eq_getElem (by omega)
  | none =>
    simp only
    cases hs : Gen.staticTable.findIdx? (fun e => e.1 == f.name && e.2 == f.value) with
    | some j =>
      obtain ⟨hlt, hp, _⟩ := List.findIdx?_eq_some_iff_getElem.mp hs
      simp only [Bool.and_eq_true, beq_iff_eq] at hp
      exact .inr ⟨Nat.succ_pos j, _, lookup_static _ j hlt, hp.1, fun _ => hp.2, fun h => by cases h⟩
    | none =>
      simp only
      cases hn : Gen.staticTable.findIdx? (fun e => e.1 == f.name) with
      | some j =>
        obtain ⟨hlt, hp, _⟩ := List.findIdx?_eq_some_iff_getElem.mp hn
        simp only [beq_iff_eq] at hp
        exact .inr ⟨Nat.succ_pos j, _, lookup_static _ j hlt, hp, fun h => absurd h (by simp), fun _ => by simp only; omega⟩
      | none => exact .inl ⟨rfl, rfl⟩

/-- the representation `AppendHeader` chooses -/
def encRepr (st : EncState) (f : Field) (store : Bool) : Spec.Repr :=
  let huff := !st.disableCompression
  if f.sens then
    if (search st f).1 > 0 then .literal .never (.idx (search st f).1) f.value false
    else .literal .never (.lit f.name false) f.value false
  else if (search st f).1 > 0 then
    if (search st f).2 then .indexed (search st f).1
    else if !store then .literal .without (.idx (search st f).1) f.value huff
    else .literal .incremental (.idx (search st f).1) f.value huff
  else if !store || st.disableDynamic then .literal .without (.lit f.name huff) f.value huff
  else .literal .incremental (.lit f.name huff) f.value huff

/-- the size updates `AppendHeader` puts in front when a change is pending -/
def encPre (st : EncState) : List Spec.Repr :=
  if st.pending then
    (if st.minPending < st.maxSize then [.sizeUpdate st.minPending] else []) ++ [.sizeUpdate st.maxSize]
  else []

def isIncremental : Spec.Repr → Bool
  | .literal .incremental _ _ _ => true
  | _ => false

def serAll (rs : List Spec.Repr) : Bytes := rs.flatMap Spec.ser

theorem search_pending (st : EncState) (f : Field) : search { st with pending := false } f = search st f := rfl

theorem encRepr_cases {P : Spec.Repr → Prop} (st : EncState) (f : Field) (store : Bool)
    (indexed : f.sens = false → 0 < (search st f).1 → (search st f).2 = true → P (.indexed (search st f).1))
    (byIndex : ∀ m vh, 0 < (search st f).1 → (m = .never ↔ f.sens = true) →
      P (.literal m (.idx (search st f).1) f.value vh))
    (byName : ∀ m nh vh, (m = .never ↔ f.sens = true) → P (.literal m (.lit f.name nh) f.value vh)) :
    P (encRepr st f store) := by
  unfold encRepr
  simp only
  by_cases hs : f.sens = true
  · rw [if_pos hs]
    by_cases hi : (search st f).1 > 0
    · rw [if_pos hi]; exact byIndex _ _ hi (by simp [hs])
    · rw [if_neg hi]; exact byName _ _ _ (by simp [hs])
  · rw [if_neg hs]
    have hs' : f.sens = false := Bool.eq_false_iff.mpr hs
    by_cases hi : (search st f).1 > 0
    · rw [if_pos hi]
      by_cases hf : (search st f).2 = true
      · rw [if_pos hf]; exact indexed hs' hi hf
      · rw [if_neg hf]
        split <;> exact byIndex _ _ hi (by simp [hs'])
    · rw [if_neg hi]
      split <;> exact byName _ _ _ (by simp [hs'])

theorem writeInt_zero (n fl : Nat) (hn : 0 < n) : writeInt n fl 0 = [fl] := by
  have hp := two_le_pow hn
  unfold writeInt
  have : 0 < 2 ^ n - 1 := by omega
  simp [this]

theorem append_out (st : EncState) (f : Field) (store : Bool) :
    (Enc.append st f store).2 = serAll (encPre st) ++ Spec.ser (encRepr st f store) := by
  have hpre : serAll (encPre st) = (if st.pending then
      (if st.minPending < st.maxSize then writeInt 5 32 st.minPending else []) ++ writeInt 5 32 st.maxSize
    else []) := by
    unfold serAll encPre
    by_cases hp : st.pending
    · by_cases hm : st.minPending < st.maxSize
      · simp [hp, hm, Spec.ser, writeInt_eq_encInt]
      · simp [hp, hm, Spec.ser, writeInt_eq_encInt]
    · simp [hp]
  rw [hpre]
  unfold Enc.append encRepr
  simp only [search_pending]
  have z4 := writeInt_zero 4 0 (by decide)
  have z16 := writeInt_zero 4 16 (by decide)
  have z64 := writeInt_zero 6 64 (by decide)
  by_cases hs : f.sens
  · by_cases hi : (search st f).1 > 0
    · simp [hs, hi, ser_eq, Spec.Mode.prefixBits, Spec.Mode.flags]
    · simp [hs, hi, ser_eq, Spec.Mode.prefixBits, Spec.Mode.flags, z16]
  · by_cases hi : (search st f).1 > 0
    · by_cases hf : (search st f).2
      · simp [hs, hi, hf, ser_eq]
      · by_cases hst : store
        · simp [hs, hi, hf, hst, ser_eq, Spec.Mode.prefixBits, Spec.Mode.flags]
        · simp [hs, hi, hf, hst, ser_eq, Spec.Mode.prefixBits, Spec.Mode.flags]
    · by_cases hst : (!store || st.disableDynamic)
      · simp [hs, hi, hst, ser_eq, Spec.Mode.prefixBits, Spec.Mode.flags, z4]
      · simp [hs, hi, hst, ser_eq, Spec.Mode.prefixBits, Spec.Mode.flags, z64]

theorem append_state (st : EncState) (f : Field) (store : Bool)
    (hidx : (search st f).2 = false → (search st f).1 < Gen.maxIndex) :
    (Enc.append st f store).1 =
      { st with pending := false,
                dyn := if isIncremental (encRepr st f store) then insert st.dyn (f.name, f.value) st.maxSize else st.dyn } := by
  unfold Enc.append encRepr
  simp only [search_pending]
  by_cases hs : f.sens
  · by_cases hi : (search st f).1 > 0
    · simp [hs, hi, isIncremental]
    · simp [hs, hi, isIncremental]
  · by_cases hi : (search st f).1 > 0
    · by_cases hf : (search st f).2
      · simp [hs, hi, hf, isIncremental]
      · by_cases hst : store
        · have := hidx (by simpa using hf)
          simp [hs, hi, hf, hst, isIncremental, this]
        · simp [hs, hi, hf, hst, isIncremental]
    · by_cases hst : (!store || st.disableDynamic)
      · simp [hs, hi, hst, isIncremental]
      · simp [hs, hi, hst, isIncremental]

/-- a field the encoder can be given: octet strings whose encoded lengths fit the wire integers -/
def FieldOK (f : Field) : Prop :=
  WF f.name ∧ WF f.value ∧ ∀ h, Spec.strLen f.name h < 2 ^ 64 ∧ Spec.strLen f.value h < 2 ^ 64

theorem tableSize_ge (t : List (Bytes × Bytes)) : 32 * t.length ≤ tableSize t := by
  induction t with
  | nil => simp [tableSize]
  | cons e t ih =>
    have : 32 ≤ entrySize e := by unfold entrySize; omega
    simp only [tableSize, List.map_cons, List.sum_cons, List.length_cons] at ih ⊢
    omega

theorem search_lt (st : EncState) (f : Field) (h : tableSize st.dyn < 2 ^ 32) : (search st f).1 < 2 ^ 64 := by
  rcases search_spec st f with ⟨h0, _⟩ | ⟨_, e, hl, _⟩
  · omega
  · unfold lookup at hl
    have := tableSize_ge st.dyn
    by_cases h0 : (search st f).1 = 0
    · omega
    · simp only [h0, if_false] at hl
      by_cases h1 : (search st f).1 < Gen.maxIndex
      · have : Gen.maxIndex = 62 := by decide
        omega
      · simp only [h1, if_false] at hl
        have := (List.getElem?_eq_some_iff.mp hl).1
        have : Gen.maxIndex = 62 := by decide
        omega

theorem encRepr_wf (st : EncState) (f : Field) (store : Bool) (hf : FieldOK f) (h : tableSize st.dyn < 2 ^ 32) :
    (encRepr st f store).WF := by
  obtain ⟨hn, hv, hl⟩ := hf
  have hlt := search_lt st f h
  exact encRepr_cases st f store (fun _ _ _ => hlt) (fun _ vh hi _ => ⟨hi, hlt, hv, (hl vh).2⟩)
    (fun _ nh vh _ => ⟨hn, hv, (hl nh).1, (hl vh).2⟩)

theorem apply_encRepr (st : EncState) (D : DecState) (f : Field) (store : Bool) (fp : Nat)
    (hd : D.dyn = st.dyn) (hm : D.maxSize = st.maxSize) :
    Spec.apply D fp (encRepr st f store) =
      some ({ D with dyn := if isIncremental (encRepr st f store) then insert st.dyn (f.name, f.value) st.maxSize else st.dyn },
        some f) := by
  obtain ⟨dd, dm, dl⟩ := D
  simp only at hd hm
  subst hd hm
  -- a positive index `search` returns names an entry with the field's name, and its value on a full match
  have entry : 0 < (search st f).1 → ∃ e, Spec.lookup st.dyn (search st f).1 = some e ∧ e.1 = f.name ∧
      ((search st f).2 = true → e.2 = f.value) := fun hi => by
    rcases search_spec st f with ⟨h0, _⟩ | ⟨_, e, hl, hn, hfull, _⟩
    · omega
    · exact ⟨e, lookup_eq _ _ ▸ hl, hn, hfull⟩
  refine encRepr_cases (P := fun r => Spec.apply ⟨st.dyn, st.maxSize, dl⟩ fp r =
    some (⟨if isIncremental r then insert st.dyn (f.name, f.value) st.maxSize else st.dyn, st.maxSize, dl⟩, some f))
    st f store ?_ ?_ ?_
  · intro hs hi hfull
    obtain ⟨e, hl, hn, hv⟩ := entry hi
    simp only [Spec.apply, hl, Option.map_some, isIncremental]
    cases f; simp_all
  · intro m vh hi hs
    obtain ⟨e, hl, hn, _⟩ := entry hi
    rw [apply_literal]
    simp only [hl, Option.map_some]
    cases m <;> cases f <;> simp_all [isIncremental, insert_eq]
  · intro m nh vh hs
    rw [apply_literal]
    simp only [Option.map_some]
    cases m <;> cases f <;> simp_all [isIncremental, insert_eq]

/-- encoder and peer decoder are in step. While a size change is pending the peer still has the table as
of the last block; the encoder's is that table cut down to the smallest size set since. -/
structure Synced (E : EncState) (D : DecState) : Prop where
  lim : E.maxSize = D.limit
  u32 : E.maxSize < 2 ^ 32
  fits : tableSize E.dyn ≤ E.maxSize
  tbl : if E.pending then E.dyn = evict D.dyn E.minPending ∧ E.minPending ≤ E.maxSize
        else E.dyn = D.dyn ∧ E.maxSize = D.maxSize

theorem evict_evict : ∀ (t : List (Bytes × Bytes)) (a b : Nat), evict (evict t a) b = evict t (min a b) := by
  intro t a b
  induction h : t.length using Nat.strongRecOn generalizing t with
  | _ n ih =>
    by_cases hfit : tableSize t ≤ a
    · rw [evict_of_fits t a hfit]
      by_cases hab : a ≤ b
      · rw [Nat.min_eq_left hab, evict_of_fits t a hfit, evict_of_fits t b (by omega)]
      · rw [Nat.min_eq_right (by omega)]
    · cases t with
      | nil => simp [evict]
      | cons e t' =>
        have e1 : evict (e :: t') a = evict (e :: t').dropLast a := by
          conv => lhs; unfold evict
          simp [hfit]
        have hm : ¬ tableSize (e :: t') ≤ min a b := by
          have := Nat.min_le_left a b; omega
        have e2 : evict (e :: t') (min a b) = evict (e :: t').dropLast (min a b) := by
          conv => lhs; unfold evict
          simp [hm]
        rw [e1, e2]
        exact ih _ (by subst h; simp [List.length_dropLast]) _ rfl

/-- `SetMaxTableSize(n)` on the encoder while the peer's SETTINGS limit becomes `n` -/
theorem synced_setMax (E : EncState) (D : DecState) (n : Nat) (hn : n < 2 ^ 32) (hs : Synced E D) :
    Synced (E.setMax n) (Spec.setLimit D n) := by
  obtain ⟨lim, u32, fits, tbl⟩ := hs
  unfold EncState.setMax Spec.setLimit
  by_cases he : E.maxSize = n
  · simp only [he, if_true]
    exact ⟨he, by omega, fits, tbl⟩
  · simp only [he, if_false]
    refine ⟨rfl, hn, evict_fits _ _, ?_⟩
    simp only [if_true]
    by_cases hp : E.pending
    · simp only [hp, if_true] at tbl
      obtain ⟨hd, hmin⟩ := tbl
      by_cases hlt : n < E.minPending
      · simp only [hp, Bool.not_true, Bool.false_or, hlt, decide_true, if_true]
        refine ⟨?_, Nat.le_refl _⟩
        rw [hd, evict_evict, Nat.min_eq_right (by omega)]
      · simp only [hp, Bool.not_true, Bool.false_or, hlt, decide_false, Bool.false_eq_true, if_false]
        refine ⟨?_, ?_⟩
        · rw [hd, evict_evict, Nat.min_eq_left (by omega)]
        · omega
    · simp only [hp] at tbl
      simp only [hp, Bool.not_false, Bool.true_or, if_true]
      exact ⟨by rw [tbl.1], Nat.le_refl _⟩

/-- the size updates in front of a block bring the peer's table to the encoder's -/
theorem step_pre (E : EncState) (D : DecState) (tail : Bytes) (hs : Synced E D) :
    Spec.step D true 0 (serAll (encPre E) ++ tail) =
      Spec.step { D with maxSize := E.maxSize, dyn := E.dyn } true 0 tail := by
  obtain ⟨lim, u32, fits, tbl⟩ := hs
  unfold encPre serAll
  by_cases hp : E.pending
  · simp only [hp, if_true] at tbl ⊢
    obtain ⟨hd, hmin⟩ := tbl
    have hfin : ∀ D1 : DecState, D1.limit = D.limit → D1.dyn = E.dyn →
        Spec.step D1 true 0 (Spec.ser (.sizeUpdate E.maxSize) ++ tail) =
          Spec.step { D with maxSize := E.maxSize, dyn := E.dyn } true 0 tail := by
      intro D1 hl hdyn
      have ha : Spec.apply D1 (if true then 0 else 0 + 1) (.sizeUpdate E.maxSize) =
          some ({ D1 with maxSize := E.maxSize, dyn := Spec.evict D1.dyn E.maxSize }, none) := by
        simp [Spec.apply, hl, ← lim]
      rw [step_ser D1 true 0 _ tail (show (Spec.Repr.sizeUpdate E.maxSize).WF by show E.maxSize < 2 ^ 64; omega) _ _ ha]
      simp only
      rw [← evict_eq, hdyn, evict_of_fits _ _ fits]
      obtain ⟨d1, m1, l1⟩ := D1
      obtain ⟨d, m, l⟩ := D
      simp only at hl
      subst hl
      rfl
    by_cases hm : E.minPending < E.maxSize
    · simp only [hm, if_true, List.cons_append, List.nil_append, List.flatMap_cons, List.flatMap_nil, List.append_nil,
        List.append_assoc]
      have ha : Spec.apply D (if true then 0 else 0 + 1) (.sizeUpdate E.minPending) =
          some ({ D with maxSize := E.minPending, dyn := Spec.evict D.dyn E.minPending }, none) := by
        have : E.minPending ≤ D.limit := by omega
        simp [Spec.apply, this]
      rw [step_ser D true 0 _ _ (show (Spec.Repr.sizeUpdate E.minPending).WF by show E.minPending < 2 ^ 64; omega) _ _ ha]
      simp only
      exact hfin _ rfl (by simp only [← evict_eq]; exact hd.symm)
    · simp only [hm, if_false, List.nil_append, List.flatMap_cons, List.flatMap_nil, List.append_nil]
      have heq : E.minPending = E.maxSize := by omega
      have ha : Spec.apply D (if true then 0 else 0 + 1) (.sizeUpdate E.maxSize) =
          some ({ D with maxSize := E.maxSize, dyn := Spec.evict D.dyn E.maxSize }, none) := by
        simp [Spec.apply, ← lim]
      rw [step_ser D true 0 _ tail (show (Spec.Repr.sizeUpdate E.maxSize).WF by show E.maxSize < 2 ^ 64; omega) _ _ ha]
      simp only
      rw [← evict_eq, ← heq, ← hd]
  · simp only [hp] at tbl ⊢
    obtain ⟨d, m, l⟩ := D
    simp only at tbl
    obtain ⟨h1, h2⟩ := tbl
    subst h1 h2
    rfl

/-- **one `AppendHeader` call**: the specification decoder, in step with the encoder, reads the emitted
octets as exactly the field given (name, value, never-indexed mark), and is in step again afterwards.
`fp` is the number of fields already decoded in the block; a pending size change is announced by the
first field of a block only. -/
theorem enc_step (E : EncState) (D : DecState) (f : Field) (store : Bool) (fp : Nat) (rest : Bytes)
    (hs : Synced E D) (hf : FieldOK f) (hp : E.pending = true → fp = 0) :
    ∃ D', Spec.step D true fp ((Enc.append E f store).2 ++ rest) = .ok D' (some f) rest ∧
      Synced (Enc.append E f store).1 D' ∧ (Enc.append E f store).1.pending = false := by
  have hss := search_spec E f
  have hidx : (search E f).2 = false → (search E f).1 < Gen.maxIndex := by
    intro h
    rcases hss with ⟨h0, _⟩ | ⟨_, _, _, _, _, h2⟩
    · have : 0 < Gen.maxIndex := by decide
      omega
    · exact h2 h
  have hsz : tableSize E.dyn < 2 ^ 32 := by have := hs.fits; have := hs.u32; omega
  rw [append_out, append_state E f store hidx, List.append_assoc]
  let D2 : DecState := { D with maxSize := E.maxSize, dyn := E.dyn }
  have ha := apply_encRepr E D2 f store fp rfl rfl
  have hwf := encRepr_wf E f store hf hsz
  have hstep : Spec.step D2 true fp (Spec.ser (encRepr E f store) ++ rest) =
      .ok { D2 with dyn := if isIncremental (encRepr E f store) then insert E.dyn (f.name, f.value) E.maxSize else E.dyn }
        (some f) rest := by
    rw [step_ser D2 true fp _ rest hwf _ _ (by simpa using ha)]
  refine ⟨{ D2 with dyn := if isIncremental (encRepr E f store) then insert E.dyn (f.name, f.value) E.maxSize else E.dyn },
    ?_, ?_, rfl⟩
  · by_cases hpe : E.pending
    · have := hp hpe
      subst this
      rw [step_pre E D _ hs]
      exact hstep
    · have : serAll (encPre E) = [] := by simp [encPre, serAll, hpe]
      rw [this, List.nil_append]
      have hD : D2 = D := by
        have := hs.tbl
        simp only [hpe] at this
        obtain ⟨d, m, l⟩ := D
        simp only at this
        obtain ⟨h1, h2⟩ := this
        show ({ dyn := E.dyn, maxSize := E.maxSize, limit := l } : DecState) = _
        rw [h1, h2]
      rw [← hD]
      exact hstep
  · refine ⟨hs.lim, hs.u32, ?_, ?_⟩
    · simp only
      split
      · exact evict_fits _ _
      · exact hs.fits
    · simp
      rfl

/-- a header block as the encoder produces it: one `AppendHeader` per field -/
def encBlock (E : EncState) : List (Field × Bool) → EncState × Bytes
  | [] => (E, [])
  | (f, s) :: fs => ((encBlock (Enc.append E f s).1 fs).1, (Enc.append E f s).2 ++ (encBlock (Enc.append E f s).1 fs).2)

/-- decoding a block field by field with the specification step -/
def specFields : Nat → DecState → Nat → Bytes → Option (DecState × List Field)
  | 0, st, _, b => if b = [] then some (st, []) else none
  | n + 1, st, fp, b =>
    match Spec.step st true fp b with
    | .ok st' (some f) rest => (specFields n st' (fp + 1) rest).map fun (s, fs) => (s, f :: fs)
    | _ => none

theorem enc_block : ∀ (fs : List (Field × Bool)) (E : EncState) (D : DecState) (fp : Nat),
    Synced E D → (∀ p ∈ fs, FieldOK p.1) → (E.pending = true → fp = 0) →
    ∃ D', specFields fs.length D fp (encBlock E fs).2 = some (D', fs.map (·.1)) ∧ Synced (encBlock E fs).1 D' ∧
      (fs ≠ [] → (encBlock E fs).1.pending = false) := by
  intro fs
  induction fs with
  | nil => intro E D fp hs _ _; exact ⟨D, by simp [specFields, encBlock], hs, by simp⟩
  | cons p fs ih =>
    intro E D fp hs hok hp
    obtain ⟨f, s⟩ := p
    obtain ⟨D1, hstep, hs1, hpend⟩ := enc_step E D f s fp (encBlock (Enc.append E f s).1 fs).2 hs
      (hok (f, s) (by simp)) hp
    obtain ⟨D', hrest, hs', hp'⟩ := ih (Enc.append E f s).1 D1 (fp + 1) hs1
      (fun q hq => hok q (by simp [hq])) (by rw [hpend]; intro h; cases h)
    refine ⟨D', ?_, hs', ?_⟩
    · simp only [encBlock, List.length_cons, specFields, hstep, hrest, Option.map_some, List.map_cons]
    · intro _
      cases fs with
      | nil => simpa [encBlock] using hpend
      | cons q qs => exact hp' (by simp)

/-- a connection as the encoder sees it -/
inductive EncEvent where
  | setMax (n : Nat)                       -- the peer's SETTINGS_HEADER_TABLE_SIZE arrives
  | block (fs : List (Field × Bool))       -- a header list is encoded

def EncEvent.ok : EncEvent → Prop
  | .setMax n => n < 2 ^ 32
  | .block fs => fs ≠ [] ∧ ∀ p ∈ fs, FieldOK p.1

/-- run encoder and specification decoder side by side; `none` as soon as the decoder does not get back
the header list that went in -/
def runHistory (E : EncState) (D : DecState) : List EncEvent → Option (EncState × DecState)
  | [] => some (E, D)
  | .setMax n :: es => runHistory (E.setMax n) (Spec.setLimit D n) es
  | .block fs :: es =>
    if D.maxSize > D.limit && !Spec.startsWithUpdateOctet (encBlock E fs).2 then none else
    match specFields fs.length D 0 (encBlock E fs).2 with
    | some (D', out) => if out = fs.map (·.1) then runHistory (encBlock E fs).1 D' es else none
    | none => none

theorem encPre_head (E : EncState) (tail : Bytes) (hp : E.pending = true) :
    Spec.startsWithUpdateOctet (serAll (encPre E) ++ tail) = true := by
  unfold encPre serAll
  simp only [hp, if_true]
  by_cases hm : E.minPending < E.maxSize
  · obtain ⟨x, tl, hx, hlt⟩ := writeInt_head 5 32 E.minPending
    simp only [hm, if_true, List.cons_append, List.flatMap_cons, Spec.ser, ← writeInt_eq_encInt, hx, Spec.startsWithUpdateOctet]
    simp; omega
  · obtain ⟨x, tl, hx, hlt⟩ := writeInt_head 5 32 E.maxSize
    simp only [hm, if_false, List.nil_append, List.flatMap_cons, Spec.ser, ← writeInt_eq_encInt, hx, List.cons_append,
      Spec.startsWithUpdateOctet]
    simp; omega

theorem enc_history_aux : ∀ (es : List EncEvent) (E : EncState) (D : DecState), Synced E D → (∀ e ∈ es, e.ok) →
    ∃ E' D', runHistory E D es = some (E', D') ∧ Synced E' D' := by
  intro es
  induction es with
  | nil => intro E D hs _; exact ⟨E, D, rfl, hs⟩
  | cons e es ih =>
    intro E D hs hok
    cases e with
    | setMax n =>
      have hn : n < 2 ^ 32 := hok (.setMax n) (by simp)
      exact ih _ _ (synced_setMax E D n hn hs) (fun e he => hok e (by simp [he]))
    | block fs =>
      obtain ⟨hne, hf⟩ := hok (.block fs) (by simp)
      have hpend : D.maxSize > D.limit → E.pending = true := by
        intro h
        cases hp : E.pending with
        | true => rfl
        | false =>
          have := hs.tbl
          simp only [hp, Bool.false_eq_true, if_false] at this
          have := hs.lim
          omega
      obtain ⟨D', hdec, hs', _⟩ := enc_block fs E D 0 hs hf (fun _ => rfl)
      have hstart : (D.maxSize > D.limit && !Spec.startsWithUpdateOctet (encBlock E fs).2) = false := by
        by_cases h : D.maxSize > D.limit
        · have hp := hpend h
          cases fs with
          | nil => exact absurd rfl hne
          | cons p ps =>
            obtain ⟨f, s⟩ := p
            simp only [encBlock, append_out, List.append_assoc]
            rw [encPre_head E _ hp]; simp
        · simp [h]
      obtain ⟨E2, D2, hrun, hs2⟩ := ih _ _ hs' (fun e he => hok e (by simp [he]))
      refine ⟨E2, D2, ?_, hs2⟩
      simp only [runHistory, hstart, Bool.false_eq_true, if_false, hdec, if_true, hrun]

end H2.Hpack
