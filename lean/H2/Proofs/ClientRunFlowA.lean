import H2.Proofs.ClientRunHdr
import H2.Proofs.ClientFlow
import H2.Proofs.Frame
/-!
# C07 on the full serial client model — groundwork

* `int32` arithmetic of the send windows: `WOK m w iws` ties a window `m` held in an `int32` (with the wrap-around of
  `addWindow` and `applyInitialWindow`) to the window `w` of RFC 9113 6.9 computed in the integers. The range of `wrap32`
  and the bounds of `spendN` are in `ClientFlow.lean`.
* association lists kept in ascending key order (`pending`).
* what `ReadFrameFrom` guarantees about a SETTINGS frame it accepts (`SettingsOK`).
-/
namespace H2.Client

/-! ## `int32` -/

def Rng (m : Int) : Prop := -2147483648 ≤ m ∧ m < 2147483648

theorem wrap32_mul (x : Int) : ∃ j : Int, wrap32 x = x - 4294967296 * j ∧
    (-2147483648 ≤ x → 0 ≤ j) ∧ (x < 2147483648 → j ≤ 0) := by
  refine ⟨(x + 2147483648) / 4294967296, ?_, ?_, ?_⟩
  · unfold wrap32; omega
  · intro h; omega
  · intro h; omega

/-- the window `m` the client holds for a stream against the window `w` of the RFC (current INITIAL_WINDOW_SIZE plus
increments received minus octets sent): `m` is `w` less a multiple of 2^32 (each overflow of the `int32` loses one) or
less; while none was lost, `m` has not fallen more than 2^31-1 below INITIAL_WINDOW_SIZE, so that lowering
INITIAL_WINDOW_SIZE cannot wrap it upwards -/
def WOK (m w iws : Int) : Prop := ∃ k : Nat, m + 4294967296 * (k : Int) ≤ w ∧ (k = 0 → -2147483647 ≤ m - iws)

theorem WOK.le {m w iws : Int} (h : WOK m w iws) : m ≤ w := by
  obtain ⟨k, h1, _⟩ := h; omega

theorem WOK.mono {m w w' iws : Int} (h : WOK m w iws) (hw : w ≤ w') : WOK m w' iws := by
  obtain ⟨k, h1, h2⟩ := h; exact ⟨k, by omega, h2⟩

theorem wok_new (iws : Int) (inc : Nat) : WOK iws (iws + inc - 0) iws := ⟨0, by omega, fun _ => by omega⟩

/-- WINDOW_UPDATE -/
theorem wok_wu {m w iws : Int} (h : WOK m w iws) (hr : Rng m) (inc : Nat) : WOK (wrap32 (m + inc)) (w + inc) iws := by
  obtain ⟨k, h1, h2⟩ := h
  obtain ⟨j, e, hj, hj2⟩ := wrap32_mul (m + inc)
  have hj0 : 0 ≤ j := hj (by unfold Rng at hr; omega)
  refine ⟨k + j.toNat, ?_, ?_⟩
  · rw [e]; omega
  · intro hk
    have hk0 : k = 0 := by omega
    have hj1 : j = 0 := by omega
    rw [e, hj1]
    have := h2 hk0
    omega

/-- a change of SETTINGS_INITIAL_WINDOW_SIZE from `old` to `new` (both at most 2^31-1, as `Settings.Read` checks) -/
theorem wok_settings {m w old new : Int} (h : WOK m w old) (hr : Rng m) (ho : 0 ≤ old ∧ old ≤ 2147483647)
    (hn : 0 ≤ new ∧ new ≤ 2147483647) : WOK (wrap32 (m + wrap32 (new - old))) (w + new - old) new := by
  obtain ⟨k, h1, h2⟩ := h
  obtain ⟨a, ea, _, _⟩ := wrap32_mul (new - old)
  obtain ⟨b, eb, _, _⟩ := wrap32_mul (m + wrap32 (new - old))
  have r1 : Rng _ := Flow.wrap32_range (m + wrap32 (new - old))
  unfold Rng at hr r1
  -- the new window is m + (new - old) - 2^32 (a + b)
  have e : wrap32 (m + wrap32 (new - old)) = m + (new - old) - 4294967296 * (a + b) := by rw [eb, ea]; omega
  rw [e] at r1 ⊢
  have hab : -1 ≤ a + b := by omega
  by_cases hk : k = 0
  · have := h2 hk
    have hab0 : 0 ≤ a + b := by omega
    refine ⟨(a + b).toNat, by omega, ?_⟩
    intro hz
    have : a + b = 0 := by omega
    rw [this]; omega
  · refine ⟨(k + (a + b)).toNat, by omega, ?_⟩
    intro hz
    have : a + b = -1 ∧ k = 1 := by omega
    rw [this.1]; omega

/-- `n` octets leave the window (`n` at most the window when that is positive, else 0); the ledger moves by `n` when the
frames reach the transport and by nothing when they do not -/
theorem wok_spend {m w w' iws : Int} (h : WOK m w iws) (n : Nat) (hn : (n : Int) ≤ max m 0) (hi : iws ≤ 2147483647)
    (hw : w - n ≤ w') : WOK (m - n) w' iws := by
  obtain ⟨k, h1, h2⟩ := h
  refine ⟨k, by omega, ?_⟩
  intro hk
  have := h2 hk
  by_cases h0 : n = 0
  · omega
  · have : (n : Int) ≤ m := by omega
    omega

theorem rng_spend {m : Int} (hr : Rng m) (n : Nat) (hn : (n : Int) ≤ max m 0) : Rng (m - n) := by
  unfold Rng at *; omega

/-! ## association lists in ascending key order -/

def SortedA {α} (l : List (Nat × α)) : Prop := l.Pairwise fun a b => a.1 < b.1

theorem sortedA_nil {α} : SortedA ([] : List (Nat × α)) := List.Pairwise.nil

theorem sortedA_eraseA {α} {l : List (Nat × α)} (h : SortedA l) (k : Nat) : SortedA (eraseA l k) :=
  List.Pairwise.filter _ h

theorem mem_insertA {α} {l : List (Nat × α)} (h : SortedA l) (k : Nat) (v : α) (p : Nat × α) :
    p ∈ insertA l k v ↔ p = (k, v) ∨ (p ∈ l ∧ p.1 ≠ k) := by
  induction l with
  | nil => simp [insertA]
  | cons x xs ih =>
    obtain ⟨k', v'⟩ := x
    have hx : ∀ q ∈ xs, k' < q.1 := (List.pairwise_cons.mp h).1
    have hs : SortedA xs := (List.pairwise_cons.mp h).2
    simp only [insertA]
    split
    · rename_i hlt
      simp only [List.mem_cons]
      constructor
      · rintro (h1 | h1 | h1)
        · exact .inl h1
        · right; rw [h1]; exact ⟨.inl rfl, by simp; omega⟩
        · right; exact ⟨.inr h1, by have := hx p h1; omega⟩
      · rintro (h1 | ⟨h1 | h1, _⟩)
        · exact .inl h1
        · exact .inr (.inl h1)
        · exact .inr (.inr h1)
    · rename_i hnlt
      split
      · rename_i heq
        have heq' : k = k' := by simpa using heq
        subst heq'
        simp only [List.mem_cons]
        constructor
        · rintro (h1 | h1)
          · exact .inl h1
          · right; exact ⟨.inr h1, by have := hx p h1; omega⟩
        · rintro (h1 | ⟨h1 | h1, h2⟩)
          · exact .inl h1
          · rw [h1] at h2; exact absurd rfl h2
          · exact .inr h1
      · rename_i hne
        have hne' : k ≠ k' := by simpa using hne
        simp only [List.mem_cons, ih hs]
        constructor
        · rintro (h1 | h1 | ⟨h1, h2⟩)
          · right; rw [h1]; exact ⟨.inl rfl, fun e => hne' e.symm⟩
          · exact .inl h1
          · exact .inr ⟨.inr h1, h2⟩
        · rintro (h1 | ⟨h1 | h1, h2⟩)
          · exact .inr (.inl h1)
          · exact .inl h1
          · exact .inr (.inr ⟨h1, h2⟩)

theorem sortedA_insertA {α} {l : List (Nat × α)} (h : SortedA l) (k : Nat) (v : α) : SortedA (insertA l k v) := by
  induction l with
  | nil => exact List.pairwise_singleton _ _
  | cons x xs ih =>
    obtain ⟨k', v'⟩ := x
    have hx : ∀ q ∈ xs, k' < q.1 := (List.pairwise_cons.mp h).1
    have hs : SortedA xs := (List.pairwise_cons.mp h).2
    simp only [insertA]
    split
    · rename_i hlt
      refine List.pairwise_cons.mpr ⟨?_, h⟩
      intro q hq
      simp only [List.mem_cons] at hq
      rcases hq with rfl | hq
      · exact hlt
      · have := hx q hq; simp only; omega
    · split
      · rename_i heq
        have heq' : k = k' := by simpa using heq
        subst heq'
        exact List.pairwise_cons.mpr ⟨hx, hs⟩
      · rename_i hnlt hne
        have hne' : k ≠ k' := by simpa using hne
        refine List.pairwise_cons.mpr ⟨?_, ih hs⟩
        intro q hq
        rcases (mem_insertA hs k v q).mp hq with rfl | ⟨hq, _⟩
        · simp only; omega
        · exact hx q hq

theorem sortedA_keys {α} {l : List (Nat × α)} (h : SortedA l) : (l.map (·.1)).Nodup := by
  unfold SortedA at h
  rw [List.Nodup, List.pairwise_map]
  exact h.imp (fun hab => by omega)

theorem lookupA_iff {α} {l : List (Nat × α)} (h : SortedA l) (k : Nat) (v : α) : lookupA l k = some v ↔ (k, v) ∈ l := by
  constructor
  · exact lookupA_mem
  · intro hm
    cases hl : lookupA l k with
    | none =>
      simp only [lookupA, Option.map_eq_none_iff, List.find?_eq_none] at hl
      have := hl (k, v) hm
      simp at this
    | some v' =>
      rw [keys_unique (sortedA_keys h) (lookupA_mem hl) hm]

theorem sortedA_map {α} {l : List (Nat × α)} (h : SortedA l) (f : Nat × α → Nat × α) (hf : ∀ p, (f p).1 = p.1) :
    SortedA (l.map f) := by
  unfold SortedA
  rw [List.pairwise_map]
  exact h.imp (fun hab => by rw [hf, hf]; exact hab)

/-! ## SETTINGS frames that `ReadFrameFrom` accepts -/

/-- INITIAL_WINDOW_SIZE at most 2^31-1, MAX_FRAME_SIZE within 2^14 … 2^24-1: the recorded values and every pair -/
structure SettingsOK (s : Frame.SettingsVal) : Prop where
  win : s.windowSize ≤ 2147483647
  frame : 16384 ≤ s.frameSize ∧ s.frameSize ≤ 16777215
  pairs : ∀ p ∈ s.pairs, p.1 = Gen.c_MaxFrameSize → 16384 ≤ p.2 ∧ p.2 ≤ 16777215

open Frame.Spec in
/-- the two values of RFC 9113 6.5.2 that flow control and framing rely on, for a pair that is no connection error -/
theorem pairBad_none {p : Nat × Nat} (h : pairBad p = none) :
    (p.1 = 4 → p.2 ≤ 2147483647) ∧ (p.1 = 5 → 16384 ≤ p.2 ∧ p.2 ≤ 16777215) := by
  unfold pairBad at h
  constructor
  · intro hk
    rw [if_neg (by omega), if_pos hk] at h
    split at h
    · cases h
    · omega
  · intro hk
    rw [if_neg (by omega), if_neg (by omega), if_pos hk] at h
    split at h
    · cases h
    · omega

open Frame.Spec in
theorem firstBad_none {ps : List (Nat × Nat)} (h : firstBad ps = none) : ∀ p ∈ ps, pairBad p = none := by
  induction ps with
  | nil => intro p hp; cases hp
  | cons q qs ih =>
    unfold firstBad at h
    cases hq : pairBad q with
    | some c => rw [hq] at h; cases h
    | none =>
      rw [hq] at h
      intro p hp
      rcases List.mem_cons.mp hp with rfl | hp
      · exact hq
      · exact ih h p hp

open Frame.Spec in
theorem applyPair_ok {s : Frame.SettingsVal} {p : Nat × Nat} (hp : pairBad p = none) (hw : s.windowSize ≤ 2147483647)
    (hf : 16384 ≤ s.frameSize ∧ s.frameSize ≤ 16777215) :
    (applyPair s p).windowSize ≤ 2147483647 ∧ (16384 ≤ (applyPair s p).frameSize ∧ (applyPair s p).frameSize ≤ 16777215) := by
  obtain ⟨b4, b5⟩ := pairBad_none hp
  unfold applyPair
  split
  · exact ⟨hw, hf⟩
  split
  · exact ⟨hw, hf⟩
  split
  · exact ⟨hw, hf⟩
  split
  · exact ⟨b4 ‹_›, hf⟩
  split
  · exact ⟨hw, b5 ‹_›⟩
  split <;> exact ⟨hw, hf⟩

open Frame.Spec in
theorem foldl_applyPair_ok (ps : List (Nat × Nat)) (hps : ∀ p ∈ ps, pairBad p = none) : ∀ s : Frame.SettingsVal,
    s.windowSize ≤ 2147483647 → (16384 ≤ s.frameSize ∧ s.frameSize ≤ 16777215) →
    (ps.foldl applyPair s).windowSize ≤ 2147483647 ∧
    (16384 ≤ (ps.foldl applyPair s).frameSize ∧ (ps.foldl applyPair s).frameSize ≤ 16777215) := by
  induction ps with
  | nil => intro s hw hf; exact ⟨hw, hf⟩
  | cons p ps ih =>
    intro s hw hf
    obtain ⟨hw', hf'⟩ := applyPair_ok (hps p (List.mem_cons_self ..)) hw hf
    exact ih (fun q hq => hps q (List.mem_cons_of_mem _ hq)) _ hw' hf'

theorem settingsRead_ok {p : Bytes} {s0 s : Frame.SettingsVal} (h0 : SettingsOK s0)
    (h : Frame.settingsRead p s0 = .inl (some s)) : SettingsOK s := by
  rw [Frame.settingsRead_spec] at h
  cases hb : Frame.Spec.firstBad (Frame.Spec.pairsOf p) with
  | some c => rw [hb] at h; cases h
  | none =>
    rw [hb] at h
    simp only [Sum.inl.injEq, Option.some.injEq] at h
    subst h
    have good := firstBad_none hb
    obtain ⟨hw, hf⟩ := foldl_applyPair_ok _ good s0 h0.win h0.frame
    refine ⟨hw, hf, ?_⟩
    intro q hq hk
    rcases List.mem_append.mp hq with hq | hq
    · exact h0.pairs q hq hk
    · exact (pairBad_none (good q hq)).2 hk

def FrameOK (f : Frame.Frame) : Prop := ∀ s, f.body = .settings s → SettingsOK s

theorem settingsOK_default (ack : Bool) : SettingsOK { ack := ack } :=
  ⟨by show Gen.c_defaultWindowSize ≤ _; decide, by show Gen.c_defaultDataFrameSize ≥ _ ∧ Gen.c_defaultDataFrameSize ≤ _; decide,
   fun p hp => by cases hp⟩

theorem readFrame_ok (max : Nat) (b : Bytes) (f : Frame.Frame) (n : Nat) (h : Frame.readFrame max b = .ok f n) :
    FrameOK f := by
  intro s hs
  obtain ⟨p, ack, hr⟩ := Frame.readFrame_settings h hs
  exact settingsRead_ok (settingsOK_default ack) hr

theorem splitFrames_frame (fuel : Nat) : ∀ (b : Bytes) (f : Frame.Frame), .frame f ∈ (splitFrames fuel b).1 →
    ∃ b' n, Frame.readFrame Gen.c_defaultMaxLen b' = .ok f n := by
  induction fuel with
  | zero => intro b f hf; cases hf
  | succ k ih =>
    intro b f hf
    simp only [splitFrames] at hf
    split at hf
    · cases hf
    split at hf
    · simp at hf
    split at hf
    · cases hf
    split at hf
    · rename_i g n hrf
      rcases List.mem_cons.mp hf with e | hf
      · cases e; exact ⟨b, n, hrf⟩
      · exact ih _ f hf
    · rcases List.mem_cons.mp hf with e | hf
      · cases e
      · exact ih _ f hf
    all_goals simp at hf

theorem splitFrames_ok (fuel : Nat) (b : Bytes) (f : Frame.Frame) (hf : .frame f ∈ (splitFrames fuel b).1) : FrameOK f := by
  obtain ⟨b', n, h⟩ := splitFrames_frame fuel b f hf
  exact readFrame_ok _ b' f n h

end H2.Client
