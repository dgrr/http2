import H2.Hpack.Spec
/-! Prefix integers (RFC 7541 §5.1): `readInt` inverts `writeInt`; what `readInt` accepts. -/
namespace H2.Hpack
open H2

theorem contBytes_eq_digits (v : Nat) : contBytes v = Spec.digits v := by
  induction v using Nat.strongRecOn with
  | _ v ih =>
    unfold contBytes Spec.digits
    by_cases h : v < 128
    · simp [h]
    · simp only [h, dite_false]
      rw [ih (v / 128) (by omega)]
      congr 1; omega

theorem writeInt_eq_encInt (n flags v : Nat) : writeInt n flags v = Spec.encInt n flags v := by
  unfold writeInt Spec.encInt
  simp only [contBytes_eq_digits]

theorem two_le_pow {n : Nat} (hn : 0 < n) : 2 ≤ 2 ^ n := by
  have := Nat.pow_le_pow_right (show 0 < 2 by decide) hn; simpa using this

theorem pow7_lt {i : Nat} (h : 2 ^ (7 * i) < 2 ^ 64) : 7 * i < 64 :=
  (Nat.pow_lt_pow_iff_right (by decide)).1 h

theorem readCont_contBytes (m x : Nat) : ∀ (i acc : Nat) (rest : Bytes),
    acc + x * 2 ^ (7 * i) + m < 2 ^ 64 → (i = 0 ∨ 1 ≤ x) →
    readCont m (contBytes x ++ rest) i acc = .ok (acc + x * 2 ^ (7 * i) + m) rest := by
  induction x using Nat.strongRecOn with
  | _ x ih =>
    intro i acc rest h hi
    have h7 : ¬ 7 * i ≥ 64 := by
      rcases hi with rfl | hx
      · omega
      · have : 2 ^ (7 * i) ≤ x * 2 ^ (7 * i) := Nat.le_mul_of_pos_left _ hx
        have : 2 ^ (7 * i) < 2 ^ 64 := by omega
        have := pow7_lt this
        omega
    unfold contBytes
    by_cases hx : x < 128
    · simp only [hx, dite_true, List.cons_append, List.nil_append]
      unfold readCont
      simp only [h7, if_false, Nat.mod_eq_of_lt hx]
      have : ¬ acc + x * 2 ^ (7 * i) + m ≥ 2 ^ 64 := by omega
      simp only [this, if_false, hx, if_true]
    · simp only [hx, dite_false, List.cons_append]
      unfold readCont
      have hmod : (128 + x % 128) % 128 = x % 128 := by omega
      have hsplit : x * 2 ^ (7 * i) = x % 128 * 2 ^ (7 * i) + x / 128 * 2 ^ (7 * (i + 1)) := by
        have e : 2 ^ (7 * (i + 1)) = 128 * 2 ^ (7 * i) := by
          rw [show 7 * (i + 1) = 7 + 7 * i by omega, Nat.pow_add]
        rw [e, ← Nat.mul_assoc, ← Nat.add_mul]
        congr 1; omega
      simp only [h7, if_false, hmod]
      have h1 : ¬ acc + x % 128 * 2 ^ (7 * i) + m ≥ 2 ^ 64 := by
        rw [hsplit] at h; omega
      have h2 : ¬ 128 + x % 128 < 128 := by omega
      simp only [h1, if_false, h2]
      rw [ih (x / 128) (by omega) (i + 1) (acc + x % 128 * 2 ^ (7 * i)) rest (by rw [hsplit] at h; omega)
        (Or.inr (by omega))]
      rw [hsplit]; simp only [Nat.add_assoc]

theorem writeInt_head (n fl v : Nat) : ∃ x tl, writeInt n fl v = (fl + x) :: tl ∧ x < 2 ^ n := by
  unfold writeInt
  have : 0 < 2 ^ n := Nat.pow_pos (by decide)
  by_cases h : v < 2 ^ n - 1
  · exact ⟨v, [], by simp [h], by omega⟩
  · exact ⟨2 ^ n - 1, contBytes (v - (2 ^ n - 1)), by simp [h], by omega⟩

theorem readInt_writeInt (n flags v : Nat) (rest : Bytes) (hn : 0 < n) (hf : flags % 2 ^ n = 0)
    (hv : v < 2 ^ 64) : readInt n (writeInt n flags v ++ rest) = .ok v rest := by
  have hp := two_le_pow hn
  unfold writeInt
  by_cases h : v < 2 ^ n - 1
  · simp only [h, if_true, List.cons_append, List.nil_append]
    unfold readInt
    have e : (flags + v) % 2 ^ n = v := by
      rw [Nat.add_mod, hf, Nat.zero_add, Nat.mod_mod, Nat.mod_eq_of_lt (by omega)]
    simp only [e]
    have : v ≠ 2 ^ n - 1 := by omega
    simp [this]
  · simp only [h, if_false, List.cons_append]
    unfold readInt
    have e : (flags + (2 ^ n - 1)) % 2 ^ n = 2 ^ n - 1 := by
      rw [Nat.add_mod, hf, Nat.zero_add, Nat.mod_mod, Nat.mod_eq_of_lt (by omega)]
    simp only [e, ne_eq, not_true_eq_false, if_false]
    rw [readCont_contBytes (2 ^ n - 1) (v - (2 ^ n - 1)) 0 0 rest (by simp; omega) (Or.inl rfl)]
    congr 1; simp; omega

/-! ### what `readInt` accepts -/

/-- how every "consumes input" follows from a "leaves a suffix" -/
theorem length_lt_of_suffix {w r b : Bytes} (hw : w ≠ []) (hb : b = w ++ r) : r.length < b.length := by
  have : 0 < w.length := List.length_pos_iff.mpr hw
  rw [hb, List.length_append]; omega

theorem readCont_suffix (m : Nat) : ∀ (b : Bytes) (i acc v : Nat) (r : Bytes),
    readCont m b i acc = .ok v r → ∃ w, w ≠ [] ∧ b = w ++ r ∧ m ≤ v ∧ v < 2 ^ 64 := by
  intro b
  induction b with
  | nil => intro i acc v r h; simp [readCont] at h
  | cons c cs ih =>
    intro i acc v r h
    unfold readCont at h
    by_cases h1 : 7 * i ≥ 64
    · simp [h1] at h
    · by_cases h2 : acc + c % 128 * 2 ^ (7 * i) + m ≥ 2 ^ 64
      · simp [h1, h2] at h
      · by_cases h3 : c < 128
        · simp only [h1, h2, h3, if_false, if_true] at h
          injection h with h4 h5
          subst h5
          exact ⟨[c], by simp, by simp, by omega, by omega⟩
        · simp only [h1, h2, h3, if_false] at h
          obtain ⟨w, _, hw, hm, hv⟩ := ih _ _ _ _ h
          exact ⟨c :: w, by simp, by simp [hw], hm, hv⟩

theorem readInt_suffix (n : Nat) (b : Bytes) (v : Nat) (r : Bytes) (h : readInt n b = .ok v r) :
    ∃ w, w ≠ [] ∧ b = w ++ r ∧ (0 < n → n ≤ 8 → v < 2 ^ 64) := by
  cases b with
  | nil => simp [readInt] at h
  | cons b0 rest =>
    unfold readInt at h
    simp only at h
    split at h
    · injection h with h1 h2
      subst h1 h2
      refine ⟨[b0], by simp, by simp, ?_⟩
      intro hn h8
      have : b0 % 2 ^ n < 2 ^ n := Nat.mod_lt _ (Nat.pow_pos (by decide))
      have : 2 ^ n ≤ 2 ^ 8 := Nat.pow_le_pow_right (by decide) h8
      omega
    · obtain ⟨w, _, hw, _, hv⟩ := readCont_suffix _ _ _ _ _ _ h
      exact ⟨b0 :: w, by simp, by simp [hw], fun _ _ => hv⟩

theorem readInt_progress (n : Nat) (b : Bytes) (v : Nat) (r : Bytes) (h : readInt n b = .ok v r) :
    r.length < b.length := by
  obtain ⟨w, hw, hb, _⟩ := readInt_suffix n b v r h
  exact length_lt_of_suffix hw hb

theorem readInt_zero (n b0 : Nat) (rest : Bytes) (hn : 0 < n) (h : b0 % 2 ^ n = 0) :
    readInt n (b0 :: rest) = .ok 0 rest := by
  have hp := two_le_pow hn
  unfold readInt
  have : ¬ (0 = 2 ^ n - 1) := by omega
  simp [this, h]

theorem readInt_nonzero (n b0 : Nat) (rest : Bytes) (hn : 0 < n) (h : b0 % 2 ^ n ≠ 0) (v : Nat) (r : Bytes)
    (hr : readInt n (b0 :: rest) = .ok v r) : v ≠ 0 := by
  have hp := two_le_pow hn
  unfold readInt at hr
  simp only at hr
  split at hr
  · injection hr with h1 _; omega
  · obtain ⟨_, _, _, hm, _⟩ := readCont_suffix _ _ _ _ _ _ hr
    omega

end H2.Hpack
