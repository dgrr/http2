import H2.Proofs.StreamSMRefine.Known
/-!
# C08 refinement — the loop body on a stream of the table, given `HFspec`; the step theorems at `slStreamFrame`
-/
namespace H2.Server.Lock.Refine
open H2.Frame (Frame Body)
open H2.Server
open H2.Server.StreamSM (Pos Fr Ctx Reaction Code TSt Cmp Inc Blk BlockOn)

theorem handleState_abs (s : Srv) (fr : Frame) (st : Strm) (hwf : FrWF fr) (hres : st.state ≠ .reserved) :
    absT (handleState fr st) = StreamSM.handleState (absFrame s fr) (absT st) := by
  rw [handleState_after]
  unfold StState.after StreamSM.handleState
  rw [isRst_abs s fr hwf, isHeaders_abs s fr hwf, endStream_abs s fr hwf]
  -- the same program on both sides: RST_STREAM closes the stream, otherwise the state decides
  cases (fr.typ == Gen.c_FrameResetStream)
  case true => rfl
  generalize (fr.typ == Gen.c_FrameHeaders) = hdr
  generalize (fr.typ == Gen.c_FrameData) = dat
  generalize Frame.hasFlag fr.flags Gen.c_FlagEndStream = es
  unfold absT
  cases hst : st.state <;> first | exact absurd hst hres | skip
  · cases hdr
    · rfl
    · cases dat <;> cases es <;> rfl
  · cases (dat || hdr) && es <;> rfl
  · rfl
  · rfl

theorem code_ne0 (c : Code) : (c.num != Gen.c_NoError) = true := by cases c <;> decide

/-- **a frame on a stream that is in the table**, once the previous-block check of `headersPrelude` has let it through:
the class of the full model's outputs is the abstract model's reaction, and unless that is a connection error the
stream's place afterwards is the abstract model's. `HFspec` is the statement about `handleFrame` alone (`hf_simple`,
`hf_wu`, `hf_data` in `Known.lean`, `hf_headers`, `hf_cont` in `Hdr2.lean`; every frame type: `hf_all`). -/
theorem known_refines {r : R} {u sid : Nat} {st : Strm} (fr : Frame) (wc : Bool)
    (hwf : FrWF fr) (hodd : sid % 2 = 1) (hres : st.state ≠ .reserved)
    (hout : fm (pX sid) r.out = []) (hnr : resume st = false) (hnb : r.s.resetByUs.contains sid = false)
    (hpre : headersPrelude r fr = (r, true))
    (c : Ctx) (hpu : (StreamSM.isHeaders (absFrame r.s fr) && c.prevUnfinished) = false)
    (hlast : c.isLast = (sid == r.s.lastID))
    (hf : HFspec r u sid st fr (absFrame r.s fr) c.clMismatch) :
    rcOf (fm (pX sid) (knownStream r u fr wc).out) = absRC (StreamSM.afterLookup (absT st) (absFrame r.s fr) c).1 ∧
    (isConn (StreamSM.afterLookup (absT st) (absFrame r.s fr) c).1 = false →
      absPos (knownStream r u fr wc).s sid = (StreamSM.afterLookup (absT st) (absFrame r.s fr) c).2) := by
  obtain ⟨o1, o2, o3, o4, o5, st', tb', hst', hres', hm⟩ := hf
  have hlast' : c.isLast = (sid == (handleFrame r u fr).1.s.lastID) := by rw [o2]; exact hlast
  rw [knownStream_of_pre u wc hpre]
  simp only [StreamSM.afterLookup, hpu, Bool.false_eq_true, if_false]
  cases hh : StreamSM.handleFrame (absT st) (absFrame r.s fr) with
  | error e =>
    rw [hh] at hm
    cases he : (handleFrame r u fr).2 with
    | none => rw [he] at hm; cases hm
    | some e' =>
      rw [he] at hm
      have hm := Option.some.inj hm
      cases e with
      | conn code =>
        -- GOAWAY, and the loop is left
        cases e' with
        | reset n => cases hm
        | goAway n tag =>
          obtain rfl : n = code.num := RC.conn.inj hm
          simp only [onFrameError, code_ne0, if_true, writeError_of tb'.g]
          simp [pX, o1, hout, absRC, isConn]
      | strm code =>
        -- RST_STREAM; the stream is closed, and the end of the loop body takes it out of the table
        cases e' with
        | goAway n tag => cases hm
        | reset n =>
          obtain rfl : n = code.num := RC.strm.inj hm
          simp only [onFrameError, Bool.false_eq_true, if_false, writeError_of tb'.g]
          have t2 := ((tb'.congr (r' := writeReset (handleFrame r u fr).1 st'.id code.num) rfl rfl).upd
            (fun s => { s with state := .closed }) rfl rfl).upd (fun s => { s with state := .closed }) rfl rfl
          obtain ⟨q1, q2⟩ := tail_spec t2 hodd fr wc
            (show resume _ = false from (by simpa [resume, hasMoreToSend] using hres'.trans hnr)) c hlast'
          rw [absTail_closed (congrArg (fun x : Strm => absTSt x.state) (handleState_closed fr _ rfl))] at q1 q2
          refine ⟨?_, fun _ => ?_⟩
          · rw [q1]; simp [pX, o1, hout, absRC, tb'.id, xeOf]
          · rw [q2, updStrm_rbu, updStrm_rbu, tb'.id, writeReset_contains]
  | ok t' =>
    rw [hh] at hm
    obtain ⟨m1, m2, m3⟩ := hm
    simp only [m1, onFrameError, Bool.false_eq_true, if_false]
    obtain ⟨q1, q2⟩ := tail_spec tb' hodd fr wc (hres'.trans hnr) c hlast'
    rw [handleState_abs r.s fr st' hwf (by rw [hst']; exact hres), m2, clm_handleState, m3, o5, hnb] at q1 q2
    exact ⟨by rw [q1, o1, hout]; exact rcOf_xeOf _, fun _ => q2⟩

/-! ## at the level of `slStreamFrame`: exactly what the lockstep adapter compares -/

theorem TB.of_lookup {r : R} {sid : Nat} {st : Strm} (hl : lookup r.s sid = some st)
    (hun : (r.s.strms.map (·.uid)).Nodup) (hidn : (r.s.strms.map (·.id)).Nodup) : TB r st.uid sid st := by
  have hm : st ∈ r.s.strms := by
    simp only [lookup] at hl
    split at hl
    · exact List.mem_of_find?_eq_some hl
    · cases hl
  exact ⟨find_uid_of_mem _ _ hun hm, hl, hun, hidn⟩

theorem slStreamFrame_known {r : R} {fr : Frame} {st : Strm} (hl : lookup r.s fr.stream = some st) :
    slStreamFrame r fr = knownStream r st.uid fr r.s.closing := by
  have : (if fr.stream ≤ r.s.lastID then r.s.strms.find? (·.id == fr.stream) else none) = some st := hl
  simp only [slStreamFrame, this]

theorem slStreamFrame_unknown {r : R} {fr : Frame} (hl : lookup r.s fr.stream = none) (hu : (unknownStream r fr r.s.closing).2 = none) :
    slStreamFrame r fr = (unknownStream r fr r.s.closing).1 := by
  have : (if fr.stream ≤ r.s.lastID then r.s.strms.find? (·.id == fr.stream) else none) = none := hl
  simp only [slStreamFrame, this, hu]

/-- **Step refinement, stream in the table.** For a state whose table holds each stream object and each id once, a parsed
frame on a stream `st` of the table (not `reserved`, not reset by this side, no response data waiting to go out, the
previous-block check passed): the reaction string the adapter computes from the abstract model equals the one it
computes from the full model's outputs, and unless the reaction is a connection error the abstract next place is
`absPos` of the state after. `c` is the adapter's context (`absCtx`) in the three fields the stream loop reads. -/
theorem known_frame_refines {r : R} {fr : Frame} {st : Strm} (hl : lookup r.s fr.stream = some st)
    (hun : (r.s.strms.map (·.uid)).Nodup) (hidn : (r.s.strms.map (·.id)).Nodup)
    (hwf : FrWF fr) (hodd : fr.stream % 2 = 1) (hres : st.state ≠ .reserved) (hout : r.out = [])
    (hnr : resume st = false) (hnb : r.s.resetByUs.contains fr.stream = false)
    (hpre : headersPrelude r fr = (r, true))
    (c : Ctx) (hpu : (StreamSM.isHeaders (absFrame r.s fr) && c.prevUnfinished) = false)
    (hlast : c.isLast = (fr.stream == r.s.lastID))
    (hf : HFspec r st.uid fr.stream st fr (absFrame r.s fr) c.clMismatch) :
    absReaction (reactSL (absPos r.s fr.stream) (absFrame r.s fr) c).1 = fullReaction (slStreamFrame r fr).out fr.stream ∧
    (isConn (reactSL (absPos r.s fr.stream) (absFrame r.s fr) c).1 = false →
      absPos (slStreamFrame r fr).s fr.stream = (reactSL (absPos r.s fr.stream) (absFrame r.s fr) c).2) := by
  have tb := TB.of_lookup hl hun hidn
  have hk := known_refines fr r.s.closing hwf hodd hres (by rw [hout]; rfl) hnr hnb hpre c hpu hlast hf
  rw [slStreamFrame_known hl, tb.pos hodd]
  refine ⟨reaction_str ?_, hk.2⟩
  rw [fullRC_eq]; exact hk.1.symm

/-- **Step refinement, stream not in the table, no stream created** (idle / closed-in-ring / reset-by-us / below lastID /
refused): the same two equalities. -/
theorem unknown_frame_refines {r : R} {fr : Frame} (hl : lookup r.s fr.stream = none) (hwf : FrWF fr)
    (hodd : fr.stream % 2 = 1) (hout : r.out = [])
    (c : Ctx) (hrefuse : c.refuse = (decide (r.s.openStreams ≥ (r.s.cfg.maxStreams : Int)) || r.s.closing))
    (hu : (unknownStream r fr r.s.closing).2 = none) :
    absReaction (reactSL (absPos r.s fr.stream) (absFrame r.s fr) c).1 = fullReaction (slStreamFrame r fr).out fr.stream ∧
    (isConn (reactSL (absPos r.s fr.stream) (absFrame r.s fr) c).1 = false →
      absPos (slStreamFrame r fr).s fr.stream = (reactSL (absPos r.s fr.stream) (absFrame r.s fr) c).2) := by
  rw [slStreamFrame_unknown hl hu, absPos_out hodd hl]
  rcases unknown_refines r fr r.s.closing hwf hl hodd (by rw [hout]; rfl) c hrefuse with ⟨_, h2, h3⟩ | ⟨h1, _⟩
  · exact ⟨reaction_str (by rw [fullRC_eq]; exact h2.symm), h3⟩
  · rw [hu] at h1; cases h1

theorem absCtx_refuse (s : Srv) (sid : Nat) (fr? : Option Frame) :
    (absCtx s sid fr?).refuse = (decide (s.openStreams ≥ (s.cfg.maxStreams : Int)) || s.closing) := rfl

theorem absCtx_isLast (s : Srv) (sid : Nat) (fr? : Option Frame) : (absCtx s sid fr?).isLast = (sid == s.lastID) := rfl

end H2.Server.Lock.Refine
