import H2.Proofs.ServerOnce
import H2.Proofs.Frame
/-!
# Slot accounting (C13) and GOAWAY truth (C10), proved directly on the full server model

Everything here is about `H2.Server.step` (`H2/Server/Model.lean`), for every configuration and every event list
(`run cfg evs` / `runOuts cfg evs` of `ServerOnce.lean`): no abstract model, no lockstep check in between.

The walk through the functions of the model is made once, for any predicate `I` on the state. The invariants of this
file and of `ServerHdrLimitFull.lean` read of a stream only `Strm.acct`, of the connection only `Srv.rest`, of the
outputs only GOAWAY frames and dispatch records. For such an invariant most of the model is made of a few moves that
keep it (`Kept`): an output of another kind, a change to what it does not read, `writeReset`, `writeGoAway`, closing a
stream, `closeStream`. A few places do more (`Steps`): `handleFrame` with the error handling after it, `handleState`,
the dispatch, a new stream, a handler reporting back. Whoever provides those gets `Steps.stepR`.

The invariant `SF cfg G L r` is on the state and the outputs of the current step. `G` is the list of last-stream-ids of
the GOAWAY frames written in earlier steps, `L` the value of `lastID` when the step began. It has three parts, each a
predicate on what it reads (`Objs`: stream objects and slots; `Tab`: the table; `Said`: what has been written), with the
few ways each of them changes. It is self-contained (it carries its own "one object per uid", "one table entry per
id", "uid < nextUid", "id ≤ lastID" clauses), so it does not need the invariant `Inv` of `ServerOnce.lean`; only the
run-level GOAWAY theorems use `dispatched_le_lastID` from there.

From `run_sfs` follow the slot theorems (`open_slots_are_table_plus_abandoned`, `open_slots_within_limit`,
`handlers_within_limit`, `ring_bounded`, `stream_objects_distinct`, `dispatched_body_within_limit`,
`buffered_body_within_limit`) and the GOAWAY theorems (`goaway_covers_dispatched`,
`no_dispatch_after_goaway_above_last`, `goaway_ge_every_dispatch`, `goaway_ge_lastID`, `closing_is_permanent`,
`closing_iff_goaway`, `no_new_stream_after_goaway`); `Ex.gaRun`, `Ex.slotRun`, `Ex.bodyRun` are concrete runs on which
they are not vacuous.

A new clause goes into the part that reads the same things, and is then proved for the ways that part changes; a
clause about one stream's fields goes into `Sl`/`GoodT`. A clause that is broken between two functions (as the
header-list limit is between `handleFrame` and `onFrameError`) is better kept in an invariant of its own that rides on
the same walk: see `ServerHdrLimitFull.lean` (`HL`/`HLw`).
-/
namespace H2.Server

/-- the last-stream-id of a GOAWAY frame -/
def pG : Out → Option Nat
  | .goAway l _ _ => some l
  | _ => none

theorem pG_only : Only pG [.goAway] := by
  intro o h; cases o <;> simp_all [Out.kind, pG]

/-! ## the walk: what an accounting invariant reads, and the moves that keep it -/

/-- what the accounting of slots, request bodies and header lists reads of a stream -/
structure Strm.Acct where
  uid : Nat
  id : Nat
  origType : Nat
  state : StState
  recvBody : Nat
  body : Digest
  hdrListSize : Nat
  headersFinished : Bool
  handlerRunning : Bool
  prevHdr : Bytes

def Strm.acct (st : Strm) : Strm.Acct :=
  ⟨st.uid, st.id, st.origType, st.state, st.recvBody, st.body, st.hdrListSize, st.headersFinished, st.handlerRunning,
   st.prevHdr⟩

/-- … and of the connection, besides the table -/
def Srv.rest (s : Srv) : List Strm × Int × Nat × List Nat × List Nat × Cfg × Nat × Bool :=
  (s.abandoned, s.openStreams, s.nextUid, s.ring, s.resetByUs, s.cfg, s.lastID, s.closing)

theorem map_of_accts {β : Type} (π : Strm.Acct → β) {l l' : List Strm} (h : l'.map Strm.acct = l.map Strm.acct) :
    (l'.map fun x => π x.acct) = l.map fun x => π x.acct := by
  have := congrArg (List.map π) h
  rwa [List.map_map, List.map_map] at this

theorem refillRead_acct (st : Strm) (bs : BodyStream) : (refillRead st bs).acct = st.acct := by
  unfold refillRead
  exact ite_ind (P := fun x : Strm => x.acct = st.acct) (fun _ => rfl) fun _ => rfl

theorem applyDelta_acct (d : Int) (l : List Strm) : (applyDelta d l).1.map Strm.acct = l.map Strm.acct := by
  induction l with
  | nil => rfl
  | cons a l ih =>
    unfold applyDelta
    dsimp only
    split
    · rfl
    · exact congrArg (a.acct :: ·) ih

theorem getStrm_mem {r : R} {uid : Nat} {st : Strm} (hg : r.getStrm uid = some st) : st ∈ r.s.strms ∧ st.uid = uid := by
  refine ⟨List.mem_of_find?_eq_some hg, ?_⟩
  have := List.find?_some hg
  simpa using this

/-- The moves that keep an invariant `I` which reads `Strm.acct`, `Srv.rest`, GOAWAY frames and dispatch records.
`the`: it knows the table has one entry per uid, with 31-bit ids (so that `writeGoAway` for a stream of the table
does not truncate). -/
structure Kept (I : R → Prop) : Prop where
  same : ∀ {r r' : R}, I r → r'.s.strms.map Strm.acct = r.s.strms.map Strm.acct → r'.s.rest = r.s.rest →
    r'.out = r.out → I r'
  emit : ∀ {r : R} (o : Out), pG o = none → o.isDispatch = false → I r → I (r.emit o)
  reset : ∀ {r : R} (sid code : Nat), I r → I (writeReset r sid code)
  goAway : ∀ {r : R} (sid code : Nat) (tag : String), sid < 2 ^ 31 → I r → I (writeGoAway r sid code tag)
  close : ∀ {r : R} (uid : Nat), I r → I (r.updStrm uid fun s => { s with state := .closed })
  the : ∀ {r : R} {uid : Nat} {st : Strm}, I r → r.getStrm uid = some st →
    (∀ x ∈ r.s.strms, x.uid = uid → x = st) ∧ st.id < 2 ^ 31
  closeStream : ∀ {r : R} (uid : Nat), I r → I (closeStream r uid)

section Walk
variable {I : R → Prop} {r : R}

theorem Kept.upd (k : Kept I) (uid : Nat) (f : Strm → Strm) (hf : ∀ x, (f x).acct = x.acct) (h : I r) :
    I (r.updStrm uid f) :=
  k.same h (map_keep_pi Strm.acct _ uid f hf) rfl rfl

theorem Kept.set (k : Kept I) {uid : Nat} {st : Strm} (st' : Strm) (hg : r.getStrm uid = some st)
    (hs : st'.acct = st.acct) (h : I r) : I (r.updStrm uid fun _ => st') :=
  k.same h (map_const_pi Strm.acct _ uid st' fun x hx hu => by rw [hs, (k.the h hg).1 x hx hu]) rfl rfl

theorem Kept.writeError (k : Kept I) (uid : Nat) (e : SErr) (h : I r) : I (writeError r uid e) :=
  writeError_cases r uid e (fun _ => h) (fun _ _ _ hg _ => k.close uid (k.goAway _ _ _ (k.the h hg).2 h))
    (fun _ _ _ _ => k.close uid (k.reset _ _ h))

/-! sending the response -/

theorem Kept.closeBody (k : Kept I) (uid : Nat) (h : I r) : I (closeBody r uid) := k.upd uid _ (fun _ => rfl) h

theorem Kept.refill (k : Kept I) (uid : Nat) (st : Strm) (hg : r.getStrm uid = some st) (h : I r) :
    I (refill r uid st).1 :=
  refill_cases (P := fun x => I x.1) r uid st
    (fun _ => h)
    (fun _ _ _ => k.reset _ _ (k.set _ hg rfl h))
    (fun bs _ _ _ => k.emit _ rfl rfl (k.set _ hg (refillRead_acct st bs) h))
    (fun bs _ _ _ => k.set _ hg (refillRead_acct st bs) h)

theorem Kept.sendFrame (k : Kept I) (uid : Nat) (st : Strm) (step : Nat) (h : I r) : I (sendFrame r uid st step).1 := by
  rw [sendFrame_eq]
  have h1 := k.emit (.data st.id (st.pendingEnd && st.pendLen - step == 0) step (st.src.digest st.pendOff step)) rfl rfl
    (k.upd uid (fun s => { s with pendOff := s.pendOff + step, pendLen := st.pendLen - step, window := s.window - step })
      (fun _ => rfl) h)
  exact k.same h1 rfl rfl rfl

theorem Kept.sendDataFuel (k : Kept I) (fuel : Nat) (uid : Nat) (h : I r) : I (sendDataFuel fuel r uid).1 := by
  induction fuel generalizing r with
  | zero => exact h
  | succ n ih =>
    rw [sendDataFuel_succ]
    cases hg : r.getStrm uid with
    | none => exact h
    | some st0 =>
      have h1 := k.refill uid st0 hg h
      exact ite_ind (P := fun x : R × Bool => I x.1) (fun _ => k.closeBody _ h1) fun _ =>
        ite_ind (P := fun x : R × Bool => I x.1) (fun _ => h1) fun _ =>
          ite_ind (P := fun x : R × Bool => I x.1) (fun _ => k.closeBody _ (k.sendFrame _ _ _ h1)) fun _ => ih (k.sendFrame _ _ _ h1)

theorem Kept.sendData (k : Kept I) (uid : Nat) (h : I r) : I (sendData r uid).1 :=
  sendData_cases (P := fun x => I x.1) r uid (fun _ => h) fun _ => k.sendDataFuel _ _ h

theorem Kept.flushOne (k : Kept I) (acc : R × List Nat) (uid : Nat) (h : I acc.1) : I (flushOne acc uid).1 :=
  flushOne_cases (P := fun x => I x.1) acc uid h fun _ _ => k.sendData _ h

theorem Kept.closeDone (k : Kept I) (uid : Nat) (h : I r) : I (closeDone r uid) :=
  k.closeStream _ (k.close _ h)

theorem Kept.flushStreams (k : Kept I) (h : I r) : I (flushStreams r) :=
  flushStreams_ind r (fun b a hb => k.flushOne b a hb) (fun _ a hb => k.closeDone a hb) h

theorem Kept.responseHeaders (k : Kept I) (st : Strm) (resp : Resp) (hb : Bool) (h : I r) :
    I (responseHeaders r st resp hb) := by
  have hstep : ∀ (r : R) (o : Out), I r → o.isBlock = true → I (r.emit o) := by
    intro r o h ho
    cases o <;> first | exact k.emit _ rfl rfl h | cases ho
  exact responseHeaders_cases r st resp hb fun _ _ _ _ _ =>
    emits_inv I _ hstep _ _ (blockOuts_isBlock _ _ _ _ _) (k.same h rfl rfl rfl)

theorem bodyStart_acct (resp : Resp) (s : Strm) : (bodyStart resp s).acct = s.acct :=
  ite_ind (P := fun x : Strm => x.acct = s.acct) (fun _ => rfl) fun _ => rfl

theorem Kept.finishRequest (k : Kept I) (uid : Nat) (resp : Resp) (h : I r) : I (finishRequest r uid resp).1 :=
  finishRequest_outcomes (P := fun x => I x.1) r uid resp (fun _ => h) (fun _ _ => k.responseHeaders _ _ _ h)
    fun _ _ => k.sendData _ (k.upd uid _ (bodyStart_acct _) (k.responseHeaders _ _ _ h))

/-! receiving -/

theorem Kept.consumeConnWindow (k : Kept I) (n : Nat) (h : I r) : I (consumeConnWindow r n) :=
  consumeConnWindow_cases r n (fun _ => k.same h rfl rfl rfl) fun _ _ => k.same (k.emit (.wu 0 _) rfl rfl h) rfl rfl rfl

theorem Kept.consumeRecvWindow (k : Kept I) (st : Strm) (fr : Frame.Frame) (n : Nat) (h : I r) :
    I (consumeRecvWindow r st fr n) :=
  consumeRecvWindow_cases r st fr n h (k.consumeConnWindow n h) (k.consumeConnWindow n (k.emit _ rfl rfl h))

/-! the stream loop -/

theorem Kept.closeIdleBelow (k : Kept I) (fuel : Nat) (id : Nat) (h : I r) : I (closeIdleBelow fuel r id) := by
  induction fuel generalizing r with
  | zero => exact h
  | succ n ih =>
    rw [closeIdleBelow_succ]
    cases r.s.strms with
    | nil => exact h
    | cons a _ => exact ite_ind (fun _ => ih (k.reset _ _ (k.closeStream _ (k.close _ h)))) fun _ => h

theorem Kept.stopLoop (k : Kept I) (h : I r) : I (stopLoop r) := k.same h rfl rfl rfl
theorem Kept.rlStop (k : Kept I) (h : I r) : I (rlStop r) := k.same h rfl rfl rfl

theorem Kept.closeIfDone (k : Kept I) (h : I r) : I (closeIfDone r) := closeIfDone_cases r (fun _ => k.stopLoop h) h

theorem Kept.closeIfClosing (k : Kept I) (h : I r) : I (closeIfClosing r) := closeIfClosing_cases r (fun _ _ => k.stopLoop h) h

theorem Kept.unknownStream (k : Kept I) (fr : Frame.Frame) (wc : Bool) (hfs : fr.stream < 2 ^ 31)
    (new : fr.typ = Gen.c_FrameHeaders → r.s.openStreams < (r.s.cfg.maxStreams : Int) → wc = false →
      r.s.lastID < fr.stream → I (withNew r fr))
    (h : I r) : I (unknownStream r fr wc).1 :=
  unknownStream_cases (P := fun x => I x.1) r fr wc h (k.consumeConnWindow _ h)
    (fun _ _ => k.closeIfDone (k.goAway _ _ _ hfs h)) (fun _ _ => k.stopLoop (k.goAway _ _ _ hfs h))
    (k.reset _ _ (k.same h rfl rfl rfl)) (fun ht hl hw hid _ => new ht hl hw hid)

theorem Kept.headersPrelude (k : Kept I) (fr : Frame.Frame) (h : I r) : I (headersPrelude r fr).1 :=
  headersPrelude_cases (P := fun x => I x.1) r fr h (fun n _ _ _ => k.writeError n.uid (.goAway Gen.c_ProtocolError "previous stream headers not ended") h)
    fun _ => k.closeIdleBelow _ _ h

theorem Kept.onFrameError (k : Kept I) (uid : Nat) (e : Option SErr) (h : I r) : I (onFrameError r uid e).1 :=
  onFrameError_cases (P := fun x => I x.1) r uid e (fun _ => h) fun _ _ _ => k.close _ (k.writeError _ _ h)

theorem Kept.closeIfClosed (k : Kept I) (uid : Nat) (h : I r) : I (closeIfClosed r uid) :=
  closeIfClosed_cases r uid (fun _ => h) fun _ _ _ => k.closeStream _ h

/-! the read loop -/

theorem Kept.contCheck (k : Kept I) (fr : Frame.Frame) (h : I r) : I (contCheck r fr).1 :=
  contCheck_cases (P := fun x => I x.1) r fr (fun _ => k.goAway _ _ _ (by decide) h) fun _ => k.same h rfl rfl rfl

theorem Kept.handleSettings (k : Kept I) (st : Frame.SettingsVal) (h : I r) : I (handleSettings r st) :=
  k.emit _ rfl rfl (k.same h rfl rfl rfl)

theorem Kept.settle (k : Kept I) (h : I r) : I (settle r) :=
  settle_cases r h (k.same (k.emit .returned rfl rfl h) rfl rfl rfl)

/-- the places where the model does more than the moves of `Kept`: `handleFrame` with the error handling after it,
`handleState`, the dispatch of a complete request, a new stream, a handler that reports back for a stream of the
table, or for an abandoned one (whose slot is given back) -/
structure Steps (I : R → Prop) : Prop extends Kept I where
  frame : ∀ {r : R} (uid : Nat) (fr : Frame.Frame), I r →
    I (onFrameError (handleFrame r uid fr).1 uid (handleFrame r uid fr).2).1
  handleState : ∀ {r : R} (uid : Nat) (fr : Frame.Frame), I r → I (r.updStrm uid (handleState fr))
  dispatch : ∀ {r : R} (uid : Nat) (st : Strm), r.getStrm uid = some st → st.state = .halfClosed →
    st.headersFinished = true → I r → I (dispatch (r.updStrm uid fun s => { s with responded := true }) uid st)
  withNew : ∀ {r : R} (fr : Frame.Frame), fr.typ = Gen.c_FrameHeaders → r.s.openStreams < (r.s.cfg.maxStreams : Int) →
    r.s.closing = false → r.s.lastID < fr.stream → fr.stream < 2 ^ 31 → I r → I (withNew r fr)
  handlerDone : ∀ {r : R} (uid : Nat), I r → I (r.updStrm uid fun s => { s with handlerRunning := false })
  release : ∀ {r : R} (st : Strm), st ∈ r.s.abandoned → I r →
    I (releaseStream { r with s := { r.s with abandoned := r.s.abandoned.filter (·.uid != st.uid) } } st)

theorem Steps.dispatchOrSend (k : Steps I) (uid : Nat) (st : Strm) (hg : r.getStrm uid = some st) (h : I r) :
    I (dispatchOrSend r uid st) :=
  dispatchOrSend_cases r uid st h (fun _ _ _ => k.close uid (k.reset _ _ (k.upd uid _ (fun _ => rfl) h)))
    (fun hc => k.dispatch uid st hg hc.1 hc.2.1 h)
    fun _ _ => ite_ind (fun _ => k.close uid (k.sendData uid h)) fun _ => k.sendData uid h

theorem Steps.knownStream (k : Steps I) (uid : Nat) (fr : Frame.Frame) (wc : Bool) (h : I r) :
    I (knownStream r uid fr wc) :=
  have h1 := k.headersPrelude fr h
  have h2 : I (afterFrame r uid fr).1 := k.frame uid fr h1
  have h3 := k.handleState uid fr h2
  knownStream_cases r uid fr wc (fun _ => h1) (k.stopLoop h2) h3 fun st hg _ =>
    have h4 := k.closeIfClosed uid (k.dispatchOrSend uid st hg h3)
    ite_ind (fun _ => k.stopLoop h4) fun _ => h4

theorem Steps.slStreamFrame (k : Steps I) (fr : Frame.Frame) (hfs : fr.stream < 2 ^ 31) (h : I r) :
    I (slStreamFrame r fr) :=
  have hu : I (unknownStream r fr r.s.closing).1 :=
    k.unknownStream fr _ hfs (fun ht hl hc hid => k.withNew fr ht hl hc hid hfs h) h
  slStreamFrame_cases r fr (fun _ _ => k.knownStream _ _ _ h) (fun _ _ => hu) fun _ _ _ => k.knownStream _ _ _ hu

theorem Steps.slFrame (k : Steps I) (fr : Frame.Frame) (hfs : fr.stream < 2 ^ 31) (h : I r) : I (slFrame r fr) :=
  have hf : I ({ r with fwd := r.fwd ++ [fr] } : R) := k.same h rfl rfl rfl
  have hw : ∀ st, I (withInitWin (applyTableSize { r with fwd := r.fwd ++ [fr] } st) st) :=
    fun st => k.same hf (applyDelta_acct _ _) rfl rfl
  have hc : ∀ inc, I ({ r with fwd := r.fwd ++ [fr], s := { r.s with clientWindow := r.s.clientWindow + inc } } : R) :=
    fun _ => k.same h rfl rfl rfl
  slFrame_cases r fr (fun _ => h)
    (fun st _ => k.stopLoop (k.goAway _ _ _ (by decide) (hw st)))
    (fun st _ => k.closeIfClosing (k.flushStreams (hw st)))
    (fun _ _ => k.closeIfClosing (k.same hf rfl rfl rfl))
    (fun inc _ => k.stopLoop (k.goAway _ _ _ (by decide) (hc inc)))
    (fun inc _ => k.closeIfClosing (k.flushStreams (hc inc)))
    (k.closeIfClosing hf) fun _ => k.slStreamFrame fr hfs hf

theorem Steps.slHandlerDone (k : Steps I) (sid : Nat) (resp : Resp) (h : I r) : I (slHandlerDone r sid resp) :=
  have h0 : ∀ r0, r0 = r ∨ r0 = r.emit .handlerPanicLogged → I r0 := fun r0 e => by
    rcases e with rfl | rfl
    · exact h
    · exact k.emit _ rfl rfl h
  slHandlerDone_cases r sid resp h0 (fun r0 st e hf => k.release st (List.mem_of_find?_eq_some hf) (h0 r0 e))
    fun r0 st e _ _ =>
      have h2 := k.finishRequest st.uid resp (k.handlerDone st.uid (h0 r0 e))
      have h3 : I (answered r0 st.uid resp) := answered_cases r0 st.uid resp (k.closeDone _ h2) h2
      ite_ind (fun _ => k.stopLoop h3) fun _ => h3

theorem Steps.rlFrame (k : Steps I) (fr : Frame.Frame) (hfs : fr.stream < 2 ^ 31) (h : I r) : I (rlFrame r fr) :=
  have hc := k.contCheck fr h
  rlFrame_cases r fr (fun _ => k.rlStop hc) (fun _ _ _ => k.rlStop (k.goAway _ _ _ (by decide) hc))
    (fun _ => k.slFrame fr hfs hc) (fun _ st _ => k.slFrame fr hfs (k.handleSettings st hc))
    (fun _ _ => k.emit _ rfl rfl hc) (fun _ => hc)

theorem Steps.rlDrain (k : Steps I) (fuel : Nat) (h : I r) : I (rlDrain fuel r) := by
  induction fuel generalizing r with
  | zero => exact h
  | succ n ih =>
    have hd : ∀ n, I ({ r with s := { r.s with inbuf := r.s.inbuf.drop n } } : R) := fun _ => k.same h rfl rfl rfl
    exact rlDrain_cases n r h (fun fr _ hrf => ih (k.rlFrame fr (Frame.readFrame_ok_inv hrf).2.1 (hd _)))
      (fun _ => ih (hd _)) (fun _ _ _ => k.rlStop (k.goAway _ _ _ (by decide) (hd _))) (k.rlStop h)

theorem Steps.stepR (k : Steps I) (s : Srv) (ev : Event) (h : I { s := s }) : I (stepR s ev) := by
  unfold H2.Server.stepR
  apply k.settle
  cases ev with
  | bytes b => exact k.rlDrain _ (k.same h rfl rfl rfl)
  | done sid resp => exact k.slHandlerDone sid resp h
  | cut => exact k.rlStop h
  | idle => exact k.stopLoop (k.goAway _ _ _ (by decide) h)

end Walk
/-! ## the invariant -/

/-- what the slot accounting needs of a stream: uid, id, the type of the frame that opened it, octets of body
buffered, octets of DATA received -/
structure Sl where
  uid : Nat
  id : Nat
  ot : Nat
  blen : Nat
  recv : Nat

def Strm.Acct.sl (a : Strm.Acct) : Sl := ⟨a.uid, a.id, a.origType, a.body.len, a.recvBody⟩

def Strm.sl (st : Strm) : Sl := st.acct.sl

def sls (r : R) : List Sl := r.s.strms.map Strm.sl

/-- header-block processing leaves the slot skeleton alone -/
theorem Strm.sl_of_core {a b : Strm} (h : a.core = b.core) : a.sl = b.sl :=
  congrArg (fun c : Strm.Core => (⟨c.uid, c.id, c.origType, c.body.len, c.recvBody⟩ : Sl)) h

/-- a table entry is in order: opened by HEADERS (so it holds a slot), and its buffered body is no longer than
what was received and within MaxRequestBodySize when a limit is set -/
def GoodT (cfg : Cfg) (t : Sl) : Prop :=
  t.ot = Gen.c_FrameHeaders ∧ t.blen ≤ t.recv ∧ (cfg.maxBody > 0 → t.blen ≤ cfg.maxBody)

/-- an output is in order: a dispatch record carries a body within MaxRequestBodySize when a limit is set -/
def OutOK (cfg : Cfg) : Out → Prop
  | .dispatch _ _ _ _ _ b => cfg.maxBody > 0 → b.len ≤ cfg.maxBody
  | _ => True

theorem OutOK.of_not_dispatch {cfg : Cfg} {o : Out} (h : o.isDispatch = false) : OutOK cfg o := by
  cases o <;> first | trivial | cases h

/-! ### its three parts, each about what it reads only -/

/-- the uids of the stream objects alive: the table, then the streams closed while their handler runs -/
def liveUids (T : List Sl) (A : List Strm) : List Nat := T.map (·.uid) ++ A.map (·.uid)

/-- stream objects and slots: each object once, with a uid handed out before; abandoned streams were opened by
HEADERS and their handler still runs; `openStreams` counts the objects -/
structure Objs (T : List Sl) (A : List Strm) (next : Nat) (opn : Int) : Prop where
  nodup : (liveUids T A).Nodup
  ult : ∀ u ∈ liveUids T A, u < next
  ab : ∀ a ∈ A, a.origType = Gen.c_FrameHeaders ∧ a.handlerRunning = true
  cnt : opn = ((T.length + A.length : Nat) : Int)

/-- the table: one entry per id, ids at most `lastID`, every entry in order -/
structure Tab (cfg : Cfg) (T : List Sl) (last : Nat) : Prop where
  tid : (T.map (·.id)).Nodup
  ile : ∀ t ∈ T, t.id ≤ last
  good : ∀ t ∈ T, GoodT cfg t

/-- what has been written, `G` in earlier steps and `out` in this one: dispatch records are in order; `lastID` is
a 31-bit stream id (so `writeGoAway` does not truncate it); every GOAWAY names at least `lastID`; `closing` is set
exactly when there is one; once there is one from an earlier step `lastID` stays what it was (`L`) -/
structure Said (cfg : Cfg) (G : List Nat) (L : Nat) (out : List Out) (last : Nat) (closing : Bool) : Prop where
  bo : ∀ o ∈ out, OutOK cfg o
  llt : last < 2 ^ 31
  gge : ∀ l ∈ G ++ fm pG out, last ≤ l
  gcl : G ++ fm pG out ≠ [] ↔ closing = true
  fro : G ≠ [] → last = L

section Parts
variable {cfg : Cfg} {G : List Nat} {L : Nat} {T T' : List Sl} {A : List Strm} {next last : Nat} {opn : Int}
  {out : List Out} {closing : Bool}

theorem Objs.congr (h : Objs T A next opn) (hu : T'.map (·.uid) = T.map (·.uid)) : Objs T' A next opn := by
  have hl : T'.length = T.length := by simpa using congrArg List.length hu
  exact ⟨by rw [liveUids, hu]; exact h.nodup, by rw [liveUids, hu]; exact h.ult, h.ab, by rw [hl]; exact h.cnt⟩

/-- an object `u` leaves the table … -/
theorem Objs.del (A : List Strm) {u : Nat} (hp : (u :: T'.map (·.uid)).Perm (T.map (·.uid))) :
    (u :: liveUids T' A).Perm (liveUids T A) ∧ T'.length + 1 = T.length :=
  ⟨hp.append_right _, by simpa using hp.length_eq⟩

/-- … and gives its slot back -/
theorem Objs.free (h : Objs T A next opn) {u : Nat} (hp : (u :: T'.map (·.uid)).Perm (T.map (·.uid))) :
    Objs T' A next (opn - 1) := by
  obtain ⟨p, hl⟩ := Objs.del A hp
  refine ⟨(p.nodup_iff.mpr h.nodup).of_cons, fun v hv => h.ult v (p.subset (List.mem_cons_of_mem _ hv)), h.ab, ?_⟩
  have := h.cnt
  omega

/-- … or keeps it, its handler still running -/
theorem Objs.abandon (h : Objs T A next opn) {st : Strm} (hp : (st.uid :: T'.map (·.uid)).Perm (T.map (·.uid)))
    (hot : st.origType = Gen.c_FrameHeaders) (hrun : st.handlerRunning = true) : Objs T' (A ++ [st]) next opn := by
  obtain ⟨p, hl⟩ := Objs.del A hp
  have p' : (liveUids T' (A ++ [st])).Perm (liveUids T A) := by
    refine List.Perm.trans ?_ p
    simp only [liveUids, List.map_append, List.map_cons, List.map_nil, ← List.append_assoc]
    exact List.perm_append_singleton _ _
  refine ⟨p'.nodup_iff.mpr h.nodup, fun v hv => h.ult v (p'.subset hv), ?_, ?_⟩
  · intro a ha
    rcases List.mem_append.mp ha with ha | ha
    · exact h.ab a ha
    · rw [List.mem_singleton.mp ha]; exact ⟨hot, hrun⟩
  · have := h.cnt
    simp only [List.length_append, List.length_singleton]
    omega

/-- an abandoned stream's handler reports back -/
theorem Objs.release (h : Objs T A next opn) {st : Strm} (hm : st ∈ A) :
    Objs T (A.filter (·.uid != st.uid)) next (opn - 1) := by
  have hs : (liveUids T (A.filter (·.uid != st.uid))).Sublist (liveUids T A) :=
    (List.Sublist.refl _).append (List.filter_sublist.map _)
  have han : (A.map (·.uid)).Nodup := (List.nodup_append.mp h.nodup).2.1
  have hlen : (A.filter (·.uid != st.uid)).length + 1 = A.length := by
    clear h hs
    induction A with
    | nil => cases hm
    | cons a A ih =>
      simp only [List.map_cons, List.nodup_cons] at han
      by_cases ha : a.uid = st.uid
      · have hall : A.filter (·.uid != st.uid) = A :=
          List.filter_eq_self.mpr fun x hx => by
            have : x.uid ≠ st.uid := fun e => han.1 (List.mem_map.mpr ⟨x, hx, by rw [e, ha]⟩)
            simpa using this
        simp [ha, hall]
      · have hm' : st ∈ A := by
          rcases List.mem_cons.mp hm with rfl | hm'
          · exact absurd rfl ha
          · exact hm'
        have hb : (a.uid != st.uid) = true := by simpa using ha
        rw [List.filter_cons, if_pos hb, List.length_cons, ih hm' han.2, List.length_cons]
  refine ⟨h.nodup.sublist hs, fun v hv => h.ult v (hs.subset hv), fun a ha => h.ab a (List.mem_filter.mp ha).1, ?_⟩
  have := h.cnt
  omega

/-- a new object takes the next uid and a slot -/
theorem Objs.new (h : Objs T A next opn) (t : Sl) (ht : t.uid = next) : Objs (T ++ [t]) A (next + 1) (opn + 1) := by
  have p : (liveUids (T ++ [t]) A).Perm (next :: liveUids T A) := by
    simp only [liveUids, List.map_append, List.map_cons, List.map_nil, ht, List.append_assoc, List.singleton_append]
    exact List.perm_middle
  refine ⟨p.nodup_iff.mpr (List.nodup_cons.mpr ⟨fun hm => Nat.lt_irrefl _ (h.ult _ hm), h.nodup⟩), fun v hv => ?_, h.ab, ?_⟩
  · rcases List.mem_cons.mp (p.subset hv) with rfl | hv
    · exact Nat.lt_succ_self _
    · exact Nat.lt_succ_of_lt (h.ult v hv)
  · have := h.cnt
    simp only [List.length_append, List.length_singleton]
    omega

theorem Tab.sub (h : Tab cfg T last) (hs : T'.Sublist T) : Tab cfg T' last :=
  ⟨h.tid.sublist (hs.map _), fun t ht => h.ile t (hs.subset ht), fun t ht => h.good t (hs.subset ht)⟩

theorem Tab.new (h : Tab cfg T last) (t : Sl) (hid : last < t.id) (hg : GoodT cfg t) : Tab cfg (T ++ [t]) t.id := by
  refine ⟨?_, fun x hx => ?_, fun x hx => ?_⟩
  · rw [List.map_append, List.nodup_append]
    refine ⟨h.tid, List.nodup_cons.mpr ⟨List.not_mem_nil, List.nodup_nil⟩, fun a ha b hb => ?_⟩
    obtain ⟨x, hx, rfl⟩ := List.mem_map.mp ha
    rw [List.mem_singleton.mp hb]
    exact Nat.ne_of_lt (Nat.lt_of_le_of_lt (h.ile x hx) hid)
  · rcases List.mem_append.mp hx with hx | hx
    · exact Nat.le_of_lt (Nat.lt_of_le_of_lt (h.ile x hx) hid)
    · rw [List.mem_singleton.mp hx]; exact Nat.le_refl _
  · rcases List.mem_append.mp hx with hx | hx
    · exact h.good x hx
    · rw [List.mem_singleton.mp hx]; exact hg

theorem Said.emit (h : Said cfg G L out last closing) (o : Out) (hg : pG o = none) (hk : OutOK cfg o) :
    Said cfg G L (out ++ [o]) last closing := by
  have e : fm pG (out ++ [o]) = fm pG out := by rw [fm_append, fm_single, hg]; exact List.append_nil _
  refine ⟨fun x hx => ?_, h.llt, by rw [e]; exact h.gge, by rw [e]; exact h.gcl, h.fro⟩
  rcases List.mem_append.mp hx with hx | hx
  · exact h.bo x hx
  · rw [List.mem_singleton.mp hx]; exact hk

theorem Said.goAway (h : Said cfg G L out last closing) (l code : Nat) (tag : String) (hl : last ≤ l) :
    Said cfg G L (out ++ [.goAway l code tag]) last true := by
  have e : G ++ fm pG (out ++ [.goAway l code tag]) = (G ++ fm pG out) ++ [l] := by
    rw [fm_append, fm_single, List.append_assoc]; rfl
  refine ⟨fun x hx => ?_, h.llt, fun x hx => ?_, by rw [e]; simp, h.fro⟩
  · rcases List.mem_append.mp hx with hx | hx
    · exact h.bo x hx
    · rw [List.mem_singleton.mp hx]; trivial
  · rw [e] at hx
    rcases List.mem_append.mp hx with hx | hx
    · exact h.gge x hx
    · rw [List.mem_singleton.mp hx]; exact hl

/-- while no GOAWAY has been written `lastID` may move on -/
theorem Said.new (h : Said cfg G L out last false) (id : Nat) (hlt : id < 2 ^ 31) : Said cfg G L out id false := by
  have hnil : G ++ fm pG out = [] := Classical.byContradiction fun hne => Bool.noConfusion (h.gcl.mp hne)
  refine ⟨h.bo, hlt, by rw [hnil]; exact fun _ hl => (nomatch hl), h.gcl, fun hne => ?_⟩
  exact absurd (List.append_eq_nil_iff.mp hnil).1 hne

end Parts

structure SF (cfg : Cfg) (G : List Nat) (L : Nat) (r : R) : Prop where
  /-- the configuration never changes -/
  cf : r.s.cfg = cfg
  objs : Objs (sls r) r.s.abandoned r.s.nextUid r.s.openStreams
  tab : Tab cfg (sls r) r.s.lastID
  lim : r.s.openStreams ≤ (cfg.maxStreams : Int)
  ring : r.s.ring.length ≤ Gen.c_closedStrmsCap
  rbu : r.s.resetByUs.length ≤ Gen.c_closedStrmsCap
  said : Said cfg G L r.out r.s.lastID r.s.closing

section
variable {cfg : Cfg} {G : List Nat} {L : Nat} {r r' : R}

def Srv.rest2 (s : Srv) : List Strm × Int × Nat × Cfg × Nat × Bool :=
  (s.abandoned, s.openStreams, s.nextUid, s.cfg, s.lastID, s.closing)

/-- the state may differ in the ring / the reset list (bounds given) and in what the invariant does not look at -/
theorem SF.congrB (h : SF cfg G L r) (hs : sls r' = sls r) (hr : r'.s.rest2 = r.s.rest2) (ho : r'.out = r.out)
    (hring : r'.s.ring.length ≤ Gen.c_closedStrmsCap) (hrbu : r'.s.resetByUs.length ≤ Gen.c_closedStrmsCap) :
    SF cfg G L r' := by
  simp only [Srv.rest2, Prod.mk.injEq] at hr
  obtain ⟨h1, h2, h3, h6, h7, h8⟩ := hr
  exact ⟨by rw [h6]; exact h.cf, by rw [hs, h1, h2, h3]; exact h.objs, by rw [hs, h7]; exact h.tab,
    by rw [h2]; exact h.lim, hring, hrbu, by rw [ho, h7, h8]; exact h.said⟩

theorem SF.congr (h : SF cfg G L r) (hs : sls r' = sls r) (hr : r'.s.rest = r.s.rest) (ho : r'.out = r.out) :
    SF cfg G L r' := by
  simp only [Srv.rest, Prod.mk.injEq] at hr
  obtain ⟨h1, h2, h3, h4, h5, h6, h7, h8⟩ := hr
  exact h.congrB hs (by simp only [Srv.rest2, h1, h2, h3, h6, h7, h8]) ho (by rw [h4]; exact h.ring) (by rw [h5]; exact h.rbu)

theorem SF.emit (h : SF cfg G L r) (o : Out) (hg : pG o = none) (hk : OutOK cfg o) : SF cfg G L (r.emit o) :=
  { h with said := h.said.emit o hg hk }

theorem SF.uidNodup (h : SF cfg G L r) : (r.s.strms.map (·.uid)).Nodup := by
  have := (List.nodup_append.mp h.objs.nodup).1
  rwa [sls, List.map_map] at this

theorem SF.idNodup (h : SF cfg G L r) : (r.s.strms.map (·.id)).Nodup := by
  have := h.tab.tid
  rwa [sls, List.map_map] at this

theorem SF.the (h : SF cfg G L r) {uid : Nat} {st : Strm} (hg : r.getStrm uid = some st) :
    ∀ x ∈ r.s.strms, x.uid = uid → x = st :=
  find_uid_unique _ _ _ h.uidNodup hg

theorem SF.good_of (h : SF cfg G L r) {uid : Nat} {st : Strm} (hg : r.getStrm uid = some st) : GoodT cfg st.sl :=
  h.tab.good _ (List.mem_map_of_mem (getStrm_mem hg).1)

theorem SF.id_le (h : SF cfg G L r) {uid : Nat} : ∀ st, r.getStrm uid = some st → st.id ≤ r.s.lastID :=
  fun st hg => h.tab.ile st.sl (List.mem_map_of_mem (getStrm_mem hg).1)

/-- in-place update: the entries with uid `uid` are replaced by entries with the same uid and id that are in order -/
theorem SF.upd (h : SF cfg G L r) (uid : Nat) (f : Strm → Strm)
    (hf : ∀ x ∈ r.s.strms, x.uid = uid → (f x).uid = x.uid ∧ (f x).id = x.id ∧ GoodT cfg (f x).sl) :
    SF cfg G L (r.updStrm uid f) := by
  -- entry by entry: the new skeleton has the uid and id of the old one, and is in order if the old one was
  have hk : ∀ x ∈ r.s.strms, ((if x.uid == uid then f x else x).sl.uid = x.sl.uid ∧
      (if x.uid == uid then f x else x).sl.id = x.sl.id) ∧ (GoodT cfg x.sl → GoodT cfg (if x.uid == uid then f x else x).sl) := by
    intro x hx
    by_cases hu : x.uid = uid
    · rw [if_pos (by simpa using hu)]
      exact ⟨⟨(hf x hx hu).1, (hf x hx hu).2.1⟩, fun _ => (hf x hx hu).2.2⟩
    · rw [if_neg (by simpa using hu)]
      exact ⟨⟨rfl, rfl⟩, id⟩
  have hmap : ∀ π : Sl → Nat, (∀ x ∈ r.s.strms, π (if x.uid == uid then f x else x).sl = π x.sl) →
      (sls (r.updStrm uid f)).map π = (sls r).map π := by
    intro π hπ
    simp only [sls, R.updStrm, List.map_map]
    exact List.map_congr_left hπ
  have hmem : ∀ t ∈ sls (r.updStrm uid f), ∃ x ∈ r.s.strms, t = (if x.uid == uid then f x else x).sl := by
    intro t ht
    simp only [sls, R.updStrm, List.map_map] at ht
    obtain ⟨x, hx, rfl⟩ := List.mem_map.mp ht
    exact ⟨x, hx, rfl⟩
  refine { h with objs := h.objs.congr (hmap (·.uid) fun x hx => (hk x hx).1.1), tab := ⟨?_, ?_, ?_⟩ }
  · rw [hmap (·.id) fun x hx => (hk x hx).1.2]; exact h.tab.tid
  · intro t ht
    obtain ⟨x, hx, rfl⟩ := hmem t ht
    rw [(hk x hx).1.2]; exact h.tab.ile _ (List.mem_map_of_mem hx)
  · intro t ht
    obtain ⟨x, hx, rfl⟩ := hmem t ht
    exact (hk x hx).2 (h.tab.good _ (List.mem_map_of_mem hx))

/-- an update that keeps uid, id, opening frame type, body and DATA count -/
theorem SF.updK (h : SF cfg G L r) (uid : Nat) (f : Strm → Strm) (hf : ∀ x, (f x).sl = x.sl) : SF cfg G L (r.updStrm uid f) :=
  h.upd uid f fun x hx _ => by
    rw [hf x]
    exact ⟨congrArg Sl.uid (hf x), congrArg Sl.id (hf x), h.tab.good _ (List.mem_map_of_mem hx)⟩

/-- replacing the stream `getStrm uid` returns by a stream with the same uid and id that is in order -/
theorem SF.updG (h : SF cfg G L r) (uid : Nat) (st st' : Strm) (hg : r.getStrm uid = some st)
    (h1 : st'.uid = st.uid) (h2 : st'.id = st.id) (h3 : GoodT cfg st'.sl) : SF cfg G L (r.updStrm uid fun _ => st') := by
  refine h.upd uid _ fun x hx hu => ?_
  rw [h.the hg x hx hu]
  exact ⟨h1, h2, h3⟩

/-- replacing the stream `getStrm uid` returns by a stream with the same slot skeleton -/
theorem SF.updC (h : SF cfg G L r) (uid : Nat) (st st' : Strm) (hg : r.getStrm uid = some st) (hs : st'.sl = st.sl) :
    SF cfg G L (r.updStrm uid fun _ => st') :=
  h.updG uid st st' hg (congrArg Sl.uid hs) (congrArg Sl.id hs) (by rw [hs]; exact h.good_of hg)

end

/-! ### the moves -/

section Pres
variable {cfg : Cfg} {G : List Nat} {L : Nat} {r : R}

theorem rbu_len (l : List Nat) (sid : Nat) (h : l.length ≤ Gen.c_closedStrmsCap) :
    (if (if l.length ≥ Gen.c_closedStrmsCap then [] else l).contains sid
      then (if l.length ≥ Gen.c_closedStrmsCap then [] else l)
      else (if l.length ≥ Gen.c_closedStrmsCap then [] else l) ++ [sid]).length ≤ Gen.c_closedStrmsCap := by
  by_cases hc : l.length ≥ Gen.c_closedStrmsCap
  · rw [if_pos hc]; simp [Gen.c_closedStrmsCap]
  · rw [if_neg hc]
    split
    · exact h
    · simp only [List.length_append, List.length_singleton]; omega

theorem writeReset_sf (sid code : Nat) (h : SF cfg G L r) : SF cfg G L (writeReset r sid code) :=
  (h.emit (.rst sid code) rfl trivial).congrB (r' := writeReset r sid code) rfl rfl rfl h.ring (rbu_len _ _ h.rbu)

theorem writeGoAway_keeps (r : R) (sid code : Nat) (tag : String) :
    (writeGoAway r sid code tag).s.strms = r.s.strms ∧ (writeGoAway r sid code tag).s.abandoned = r.s.abandoned ∧
    (writeGoAway r sid code tag).s.openStreams = r.s.openStreams ∧ (writeGoAway r sid code tag).s.nextUid = r.s.nextUid ∧
    (writeGoAway r sid code tag).s.ring = r.s.ring ∧ (writeGoAway r sid code tag).s.resetByUs = r.s.resetByUs ∧
    (writeGoAway r sid code tag).s.cfg = r.s.cfg ∧ (writeGoAway r sid code tag).s.lastID = r.s.lastID ∧
    (writeGoAway r sid code tag).s.closing = true := by
  rw [writeGoAway_eq]
  exact ⟨rfl, rfl, rfl, rfl, rfl, rfl, rfl, rfl, rfl⟩

/-- a GOAWAY names `max(sid, lastID)`, which is at least `lastID` (both are 31-bit ids), and sets `closing` -/
theorem writeGoAway_sf (sid code : Nat) (tag : String) (hs : sid < 2 ^ 31) (h : SF cfg G L r) :
    SF cfg G L (writeGoAway r sid code tag) := by
  obtain ⟨k1, k2, k3, k4, k5, k6, k7, k8, k9⟩ := writeGoAway_keeps r sid code tag
  have hge : r.s.lastID ≤ (if sid > r.s.lastID then sid else r.s.lastID) % 2 ^ 31 := by
    split
    · rw [Nat.mod_eq_of_lt hs]; omega
    · rw [Nat.mod_eq_of_lt h.said.llt]; exact Nat.le_refl _
  have hk : sls (writeGoAway r sid code tag) = sls r := by rw [sls, k1]; rfl
  exact ⟨by rw [k7]; exact h.cf, by rw [hk, k2, k3, k4]; exact h.objs, by rw [hk, k8]; exact h.tab, by rw [k3]; exact h.lim,
    by rw [k5]; exact h.ring, by rw [k6]; exact h.rbu, by rw [k8, k9, writeGoAway_out]; exact h.said.goAway _ _ _ hge⟩

theorem markClosed_len (ring : List Nat) (id : Nat) (h : ring.length ≤ Gen.c_closedStrmsCap) :
    (markClosed ring id).length ≤ Gen.c_closedStrmsCap := by
  unfold markClosed
  split
  · exact h
  · split
    · simp only [List.length_append, List.length_singleton]; omega
    · simp only [List.length_append, List.length_singleton, List.length_drop]
      simp only [Gen.c_closedStrmsCap] at *; omega

/-- with one table entry per id, `Streams.Del(st.id)` removes `st` and nothing else -/
theorem delFirst_perm (l : List Strm) (st : Strm) (hm : st ∈ l) (hn : (l.map (·.id)).Nodup) :
    (st :: delFirst l st.id).Perm l := by
  induction l with
  | nil => cases hm
  | cons a l ih =>
    simp only [List.map_cons, List.nodup_cons] at hn
    unfold delFirst
    by_cases ha : a.id = st.id
    · rw [if_pos (by simpa using ha)]
      rcases List.mem_cons.mp hm with rfl | hm'
      · exact List.Perm.refl _
      · exact absurd (List.mem_map.mpr ⟨st, hm', ha.symm⟩) hn.1
    · rw [if_neg (by simpa using ha)]
      have hm' : st ∈ l := by
        rcases List.mem_cons.mp hm with rfl | hm'
        · exact absurd rfl ha
        · exact hm'
      exact (List.Perm.swap a st _).trans ((ih hm' hn.2).cons a)

theorem delFirst_spec (l : List Strm) (st : Strm) (hm : st ∈ l) (hn : (l.map (·.id)).Nodup) :
    (delFirst l st.id).length + 1 = l.length ∧ ∀ x ∈ delFirst l st.id, x ∈ l ∧ x.id ≠ st.id := by
  have p := delFirst_perm l st hm hn
  refine ⟨p.length_eq, fun x hx => ⟨p.subset (List.mem_cons_of_mem _ hx), fun e => ?_⟩⟩
  have := (List.nodup_cons.mp ((p.map (·.id)).nodup_iff.mpr hn)).1
  exact this (List.mem_map.mpr ⟨x, hx, e⟩)

/-- `closeStream`: the entry leaves the table; it gives its slot back at once, or — its handler still running —
moves to `abandoned` and keeps it -/
theorem closeStream_sf (uid : Nat) (h : SF cfg G L r) : SF cfg G L (closeStream r uid) := by
  have key : ∀ st, r.getStrm uid = some st →
      (st.uid :: ((delFirst r.s.strms st.id).map Strm.sl).map (·.uid)).Perm ((sls r).map (·.uid)) ∧
      Tab cfg ((delFirst r.s.strms st.id).map Strm.sl) r.s.lastID := fun st hg =>
    ⟨by simp only [sls, List.map_map]; exact (delFirst_perm r.s.strms st (getStrm_mem hg).1 h.idNodup).map _,
     h.tab.sub ((delFirst_sublist _ _).map _)⟩
  refine closeStream_outcomes r uid (fun _ => h)
    (fun st hg hrun => ⟨h.cf, h.objs.abandon (key st hg).1 (h.good_of hg).1 hrun, (key st hg).2, h.lim,
      markClosed_len r.s.ring st.id h.ring, h.rbu, h.said⟩)
    fun st hg _ => releaseStream_cases _ st (absurd (h.good_of hg).1) fun _ => ?_
  exact ⟨h.cf, h.objs.free (key st hg).1, (key st hg).2, by have := h.lim; show r.s.openStreams - 1 ≤ _; omega,
    markClosed_len r.s.ring st.id h.ring, h.rbu, h.said⟩

theorem SF.kept : Kept (SF cfg G L) where
  same h ha hr ho := h.congr (map_of_accts Strm.Acct.sl ha) hr ho
  emit o hg hd h := h.emit o hg (.of_not_dispatch hd)
  reset := writeReset_sf
  goAway := writeGoAway_sf
  close uid h := h.updK uid _ fun _ => rfl
  the h hg := ⟨h.the hg, Nat.lt_of_le_of_lt (h.id_le _ hg) h.said.llt⟩
  closeStream := closeStream_sf

/-! ### the steps -/

theorem hhf_sf (uid : Nat) (st : Strm) (fr : Frame.Frame) (hg : r.getStrm uid = some st) (h : SF cfg G L r) :
    SF cfg G L (hdrUpd r uid st fr) := by
  obtain ⟨k1, k2⟩ := handleHeaderFrame_keeps r.s st fr
  have h0 : SF cfg G L ({ r with s := (handleHeaderFrame r.s st fr).1 } : R) := by
    rw [k1]; exact h.congr rfl rfl rfl
  exact h0.updC uid st _ (by rw [k1]; exact hg) (Strm.sl_of_core k2)

theorem Digest.add_len (d : Digest) (b : Bytes) : (d.add b).len = d.len + b.length := by
  unfold Digest.add
  induction b generalizing d with
  | nil => rfl
  | cons c cs ih => simp only [List.foldl_cons, List.length_cons]; rw [ih]; simp only []; omega

/-- the DATA case of `handleFrame`: the octets are counted first; they are added to the body only when the count
stays within MaxRequestBodySize -/
theorem data_sf (uid : Nat) (st : Strm) (fr : Frame.Frame) (hg : r.getStrm uid = some st) (h : SF cfg G L r) :
    SF cfg G L (r.updStrm uid fun _ => recvd st fr) ∧
    (¬(r.s.cfg.maxBody > 0 && (recvd st fr).recvBody > r.s.cfg.maxBody) = true →
      SF cfg G L ((r.updStrm uid fun _ => recvd st fr).updStrm uid fun s => { s with body := s.body.add (dataOf fr) })) := by
  obtain ⟨g1, g2, g3⟩ := h.good_of hg
  have h1 : SF cfg G L (r.updStrm uid fun _ => recvd st fr) :=
    h.updG uid st _ hg rfl rfl ⟨g1, Nat.le_trans g2 (Nat.le_add_right _ _), g3⟩
  refine ⟨h1, fun hc => ?_⟩
  have hg1 := getStrm_upd r uid (fun _ => recvd st fr) st (fun _ _ => (getStrm_mem hg).2) hg
  refine h1.upd uid _ fun x hx hxu => ?_
  rw [h1.the hg1 x hx hxu]
  simp only [Bool.and_eq_true, decide_eq_true_eq, h.cf] at hc
  have e : (recvd st fr).recvBody = st.recvBody + (dataOf fr).length := rfl
  have g2' : st.body.len ≤ st.recvBody := g2
  refine ⟨rfl, rfl, g1, ?_, fun hpos => ?_⟩
  · show ((recvd st fr).body.add (dataOf fr)).len ≤ (recvd st fr).recvBody
    rw [Digest.add_len, e]
    exact Nat.add_le_add_right g2' _
  · show ((recvd st fr).body.add (dataOf fr)).len ≤ cfg.maxBody
    rw [Digest.add_len]
    have : (recvd st fr).body.len = st.body.len := rfl
    omega

theorem handleFrame_sf (uid : Nat) (fr : Frame.Frame) (h : SF cfg G L r) : SF cfg G L (handleFrame r uid fr).1 :=
  handleFrame_cases (P := fun x => SF cfg G L x.1) r uid fr
    (fun _ => h)
    (fun st hg _ => hhf_sf uid st fr hg h)
    (fun st hg _ _ => (hhf_sf uid st fr hg h).updK _ _ fun _ => rfl)
    (fun st hg _ => SF.kept.consumeConnWindow _ (data_sf uid st fr hg h).1)
    (fun st hg hc => SF.kept.consumeRecvWindow _ _ _ ((data_sf uid st fr hg h).2 hc))
    (fun _ _ _ => h.updK _ _ fun _ => rfl)

/-- a new stream: only while no GOAWAY has been written and a slot is free; its id is above `lastID` -/
theorem new_sf (fr : Frame.Frame) (hid : r.s.lastID < fr.stream) (hlt : fr.stream < 2 ^ 31)
    (htyp : fr.typ = Gen.c_FrameHeaders) (hcl : r.s.closing = false) (hlim : r.s.openStreams < (r.s.cfg.maxStreams : Int))
    (h : SF cfg G L r) : SF cfg G L (withNew r fr) := by
  have hs : sls (withNew r fr) = sls r ++ [⟨r.s.nextUid, fr.stream, fr.typ, 0, 0⟩] := by
    simp only [sls, withNew, List.map_append]
    rfl
  have hsaid : Said cfg G L r.out r.s.lastID false := by rw [← hcl]; exact h.said
  refine ⟨h.cf, ?_, ?_, ?_, h.ring, h.rbu, ?_⟩
  · rw [hs]; exact h.objs.new _ rfl
  · rw [hs]; exact h.tab.new ⟨_, fr.stream, _, _, _⟩ hid ⟨htyp, Nat.le_refl _, fun _ => Nat.zero_le _⟩
  · have := h.cf
    show r.s.openStreams + 1 ≤ _
    rw [← this]; omega
  · show Said cfg G L r.out fr.stream r.s.closing
    rw [hcl]; exact hsaid.new _ hlt

/-- the dispatch: the record carries the body buffered for the stream -/
theorem dispatch_sf (uid : Nat) (st : Strm) (hb : cfg.maxBody > 0 → st.body.len ≤ cfg.maxBody) (h : SF cfg G L r) :
    SF cfg G L (dispatch r uid st) := by
  have h1 := h.updK uid (fun s => { s with handlerRunning := true }) fun _ => rfl
  exact h1.emit _ rfl hb

theorem release_sf (st : Strm) (hm : st ∈ r.s.abandoned) (h : SF cfg G L r) :
    SF cfg G L (releaseStream { r with s := { r.s with abandoned := r.s.abandoned.filter (·.uid != st.uid) } } st) := by
  refine releaseStream_cases _ st (absurd (h.objs.ab st hm).1) fun _ => ?_
  exact ⟨h.cf, h.objs.release hm, h.tab, by have := h.lim; show r.s.openStreams - 1 ≤ _; omega, h.ring, h.rbu, h.said⟩

theorem SF.steps : Steps (SF cfg G L) where
  toKept := SF.kept
  frame uid fr h := SF.kept.onFrameError uid _ (handleFrame_sf uid fr h)
  handleState uid fr h := h.updK uid _ fun x => by rw [handleState_after]; rfl
  dispatch uid st hg _ _ h := dispatch_sf uid st (h.good_of hg).2.2 (h.updK uid _ fun _ => rfl)
  withNew fr ht hl hc hid hfs h := new_sf fr hid hfs ht hc hl h
  handlerDone uid h := h.updK uid _ fun _ => rfl
  release := release_sf

theorem stepR_sf (s : Srv) (ev : Event) (h : SF cfg G L { s := s }) : SF cfg G L (stepR s ev) :=
  SF.steps.stepR s ev h

end Pres

/-! ## runs -/

/-- the last-stream-ids of the GOAWAY frames written, in order -/
def goAwayLasts (l : List Out) : List Nat := fm pG l

/-- the invariant between steps (`G`: the GOAWAYs written so far) -/
def SFS (cfg : Cfg) (G : List Nat) (s : Srv) : Prop := SF cfg G s.lastID { s := s }

section Runs
variable {cfg : Cfg} {G : List Nat} {s : Srv}

theorem SFS.closing_iff (h : SFS cfg G s) : s.closing = true ↔ G ≠ [] := by
  have := h.said.gcl
  simp only [fm_nil, List.append_nil] at this
  exact this.symm

/-- the invariant goes on, every output of the step is in order, and once `closing` is set the step
leaves `lastID` alone (no stream is created) -/
theorem step_sfs (ev : Event) (h : SFS cfg G s) :
    SFS cfg (G ++ goAwayLasts (step s ev).2) (step s ev).1 ∧ (∀ o ∈ (step s ev).2, OutOK cfg o) ∧
    (s.closing = true → (step s ev).1.lastID = s.lastID) := by
  have k := stepR_sf s ev h
  refine ⟨⟨k.cf, k.objs, k.tab, k.lim, k.ring, k.rbu, ?_⟩, k.said.bo, fun hc => k.said.fro (h.closing_iff.mp hc)⟩
  exact ⟨nofun, k.said.llt, by simpa [goAwayLasts, step] using k.said.gge, by simpa [goAwayLasts, step] using k.said.gcl,
    fun _ => rfl⟩

theorem step_closing (ev : Event) (h : SFS cfg G s) (hc : s.closing = true) : (step s ev).1.closing = true := by
  have h1 := (step_sfs ev h).1
  refine h1.closing_iff.mpr ?_
  have := h.closing_iff.mp hc
  intro he
  exact this (List.append_eq_nil_iff.mp he).1

theorem runFrom_sfs (evs : List Event) (h : SFS cfg G s) :
    SFS cfg (G ++ goAwayLasts (runFrom s evs).2) (runFrom s evs).1 ∧ (∀ o ∈ (runFrom s evs).2, OutOK cfg o) := by
  induction evs generalizing s G with
  | nil => exact ⟨by simpa [runFrom, goAwayLasts] using h, by intro o ho; cases ho⟩
  | cons ev evs ih =>
    obtain ⟨h1, h2, _⟩ := step_sfs ev h
    obtain ⟨i1, i2⟩ := ih h1
    refine ⟨by simpa [runFrom, goAwayLasts, List.append_assoc] using i1, ?_⟩
    intro o ho
    simp only [runFrom, List.mem_append] at ho
    rcases ho with ho | ho
    · exact h2 o ho
    · exact i2 o ho

theorem runFrom_closing (evs : List Event) (h : SFS cfg G s) (hc : s.closing = true) :
    (runFrom s evs).1.closing = true ∧ (runFrom s evs).1.lastID = s.lastID := by
  induction evs generalizing s G with
  | nil => exact ⟨hc, rfl⟩
  | cons ev evs ih =>
    obtain ⟨h1, _, h3⟩ := step_sfs ev h
    have := ih h1 (step_closing ev h hc)
    simp only [runFrom]
    exact ⟨this.1, by rw [this.2, h3 hc]⟩

theorem init_sfs (cfg : Cfg) : SFS cfg [] { cfg := cfg } where
  cf := rfl
  objs := ⟨List.nodup_nil, fun _ h => (nomatch h), fun _ h => (nomatch h), rfl⟩
  tab := ⟨List.nodup_nil, fun _ h => (nomatch h), fun _ h => (nomatch h)⟩
  lim := Int.natCast_nonneg _
  ring := Nat.zero_le _
  rbu := Nat.zero_le _
  said := ⟨fun _ h => (nomatch h), Nat.two_pow_pos 31, fun _ h => (nomatch h), ⟨fun h => absurd rfl h, fun h => (nomatch h)⟩,
    fun h => absurd rfl h⟩

end Runs

theorem run_sfs (cfg : Cfg) (evs : List Event) :
    SFS cfg (goAwayLasts (runOuts cfg evs)) (run cfg evs).1 ∧ (∀ o ∈ runOuts cfg evs, OutOK cfg o) := by
  simpa [run, runOuts] using runFrom_sfs evs (init_sfs cfg)

/-! ### C13: slots, handlers, memory -/

/-- the entries of a list of streams that hold a slot: those opened by a HEADERS frame (`releaseStream` gives the
slot back for exactly these) -/
def slotHolders (l : List Strm) : Nat := (l.filter fun st => st.origType == Gen.c_FrameHeaders).length

/-- handlers running for the connection: streams of the table with `handlerRunning`, plus the abandoned streams -/
def runningHandlers (s : Srv) : Nat := (s.strms.filter (·.handlerRunning)).length + s.abandoned.length

theorem slotHolders_all (l : List Strm) (h : ∀ st ∈ l, st.origType = Gen.c_FrameHeaders) : slotHolders l = l.length := by
  unfold slotHolders
  rw [List.filter_eq_self.mpr]
  intro st hst
  rw [h st hst]; rfl

/-- in every reachable state `openStreams` is the number of table entries that
hold a slot plus the number of abandoned streams (closed while their handler runs); every table entry and every
abandoned stream was opened by HEADERS and so does hold a slot; every abandoned stream's handler is still running. -/
theorem open_slots_are_table_plus_abandoned (cfg : Cfg) (evs : List Event) :
    (run cfg evs).1.openStreams = ((slotHolders (run cfg evs).1.strms + (run cfg evs).1.abandoned.length : Nat) : Int) ∧
    slotHolders (run cfg evs).1.strms = (run cfg evs).1.strms.length ∧
    slotHolders (run cfg evs).1.abandoned = (run cfg evs).1.abandoned.length ∧
    (∀ a ∈ (run cfg evs).1.abandoned, a.handlerRunning = true) := by
  have h := (run_sfs cfg evs).1
  have hall : ∀ st ∈ (run cfg evs).1.strms, st.origType = Gen.c_FrameHeaders :=
    fun st hst => (h.tab.good st.sl (List.mem_map_of_mem hst)).1
  have e1 := slotHolders_all _ hall
  refine ⟨?_, e1, slotHolders_all _ fun a ha => (h.objs.ab a ha).1, fun a ha => (h.objs.ab a ha).2⟩
  rw [e1]
  have := h.objs.cnt
  simpa [sls] using this

/-- `0 ≤ openStreams ≤ MaxConcurrentStreams`; in particular table plus abandoned streams
are at most MaxConcurrentStreams objects -/
theorem open_slots_within_limit (cfg : Cfg) (evs : List Event) :
    0 ≤ (run cfg evs).1.openStreams ∧ (run cfg evs).1.openStreams ≤ (cfg.maxStreams : Int) ∧
    (run cfg evs).1.strms.length + (run cfg evs).1.abandoned.length ≤ cfg.maxStreams := by
  have h := (run_sfs cfg evs).1
  have hc := h.objs.cnt
  have hl := h.lim
  simp only [sls, List.length_map] at hc
  refine ⟨by rw [hc]; exact Int.natCast_nonneg _, hl, ?_⟩
  rw [hc] at hl
  exact Int.ofNat_le.mp hl

/-- handlers running ≤ `openStreams` ≤ MaxConcurrentStreams -/
theorem handlers_within_limit (cfg : Cfg) (evs : List Event) :
    (runningHandlers (run cfg evs).1 : Int) ≤ (run cfg evs).1.openStreams ∧
    (run cfg evs).1.openStreams ≤ (cfg.maxStreams : Int) ∧
    runningHandlers (run cfg evs).1 ≤ cfg.maxStreams := by
  have h := (run_sfs cfg evs).1
  have hc := h.objs.cnt
  have hl := h.lim
  simp only [sls, List.length_map] at hc
  have hf : ((run cfg evs).1.strms.filter (·.handlerRunning)).length ≤ (run cfg evs).1.strms.length :=
    List.length_filter_le _ _
  have h1 : (runningHandlers (run cfg evs).1 : Int) ≤ (run cfg evs).1.openStreams := by
    rw [hc]; unfold runningHandlers; exact Int.ofNat_le.mpr (by omega)
  refine ⟨h1, hl, ?_⟩
  exact Int.ofNat_le.mp (Int.le_trans h1 hl)

/-- the ring of recently closed ids and the list of streams this side reset hold at most
`closedStrmsCap` (256) entries each -/
theorem ring_bounded (cfg : Cfg) (evs : List Event) :
    (run cfg evs).1.ring.length ≤ Gen.c_closedStrmsCap ∧ (run cfg evs).1.resetByUs.length ≤ Gen.c_closedStrmsCap :=
  ⟨(run_sfs cfg evs).1.ring, (run_sfs cfg evs).1.rbu⟩

/-- the table holds each stream object once and each id once, and abandoned stream objects are distinct from each
other and from those of the table (so `handlerDone` for an abandoned stream gives back exactly one slot) -/
theorem stream_objects_distinct (cfg : Cfg) (evs : List Event) :
    (((run cfg evs).1.strms ++ (run cfg evs).1.abandoned).map (·.uid)).Nodup ∧
    ((run cfg evs).1.strms.map (·.id)).Nodup := by
  have h := (run_sfs cfg evs).1
  refine ⟨?_, h.idNodup⟩
  rw [List.map_append]
  have := h.objs.nodup
  rwa [liveUids, sls, List.map_map] at this

/-- with a limit set, every request handed to a handler carries a body of at most
MaxRequestBodySize octets -/
theorem dispatched_body_within_limit (cfg : Cfg) (evs : List Event) (sid : Nat) (m p a : Bytes)
    (fields : List (Bytes × Bytes)) (body : Digest)
    (h : Out.dispatch sid m p a fields body ∈ runOuts cfg evs) (hpos : cfg.maxBody > 0) : body.len ≤ cfg.maxBody :=
  (run_sfs cfg evs).2 _ h hpos

/-- … and at every moment the body buffered for a stream of the table is within the limit (per connection:
at most MaxConcurrentStreams × MaxRequestBodySize octets of request bodies in the table) -/
theorem buffered_body_within_limit (cfg : Cfg) (evs : List Event) (hpos : cfg.maxBody > 0) :
    ∀ st ∈ (run cfg evs).1.strms, st.body.len ≤ cfg.maxBody ∧ st.body.len ≤ st.recvBody := by
  intro st hst
  have := (run_sfs cfg evs).1.tab.good st.sl (List.mem_map_of_mem hst)
  exact ⟨this.2.2 hpos, this.2.1⟩

/-! ### C10: what a GOAWAY promises -/

/-- `closing` is set exactly when a GOAWAY has been written -/
theorem closing_iff_goaway (cfg : Cfg) (evs : List Event) :
    (run cfg evs).1.closing = true ↔ goAwayLasts (runOuts cfg evs) ≠ [] :=
  (run_sfs cfg evs).1.closing_iff

theorem run_append (cfg : Cfg) (evs evs' : List Event) :
    run cfg (evs ++ evs') = ((runFrom (run cfg evs).1 evs').1, runOuts cfg evs ++ (runFrom (run cfg evs).1 evs').2) := by
  simp [run, runOuts, runFrom_append]

/-- once `closing` is set, it is set after any further events -/
theorem closing_is_permanent (cfg : Cfg) (evs evs' : List Event) (h : (run cfg evs).1.closing = true) :
    (run cfg (evs ++ evs')).1.closing = true := by
  rw [run_append]
  exact (runFrom_closing evs' (run_sfs cfg evs).1 h).1

/-- once `closing` is set, `lastID` never moves again: no stream is created -/
theorem no_new_stream_after_goaway (cfg : Cfg) (evs evs' : List Event) (h : (run cfg evs).1.closing = true) :
    (run cfg (evs ++ evs')).1.lastID = (run cfg evs).1.lastID := by
  rw [run_append]
  exact (runFrom_closing evs' (run_sfs cfg evs).1 h).2

/-- every GOAWAY of a run names at least the final `lastID`, and `lastID` is a 31-bit id -/
theorem goaway_ge_lastID (cfg : Cfg) (evs : List Event) :
    (∀ l ∈ goAwayLasts (runOuts cfg evs), (run cfg evs).1.lastID ≤ l) ∧ (run cfg evs).1.lastID < 2 ^ 31 := by
  have h := (run_sfs cfg evs).1
  refine ⟨?_, h.said.llt⟩
  have := h.said.gge
  simpa using this

/-- every GOAWAY of a run names at least every stream id handed to a handler in that run, before or after it -/
theorem goaway_ge_every_dispatch (cfg : Cfg) (evs : List Event) :
    ∀ l ∈ goAwayLasts (runOuts cfg evs), ∀ i ∈ dispatchedIds (runOuts cfg evs), i ≤ l :=
  fun l hl i hi => Nat.le_trans (dispatched_le_lastID cfg evs i hi) ((goaway_ge_lastID cfg evs).1 l hl)

theorem goAway_mem_lasts (pre post : List Out) (l c : Nat) (t : String) :
    l ∈ goAwayLasts (pre ++ .goAway l c t :: post) := by
  simp only [goAwayLasts, fm_append, fm_cons', pG, Option.toList]
  exact List.mem_append_right _ (List.mem_append_left _ (List.mem_singleton.mpr rfl))

/-- a last-stream-id that occurs in `goAwayLasts` belongs to a GOAWAY frame of the list: the list splits there -/
theorem split_at_goAway (outs : List Out) (l : Nat) (h : l ∈ goAwayLasts outs) :
    ∃ pre post c t, outs = pre ++ .goAway l c t :: post := by
  induction outs with
  | nil => cases h
  | cons o outs ih =>
    simp only [goAwayLasts, fm_cons'] at h
    rcases List.mem_append.mp h with h | h
    · cases o with
      | goAway l' c t =>
        simp only [pG, Option.toList, List.mem_singleton] at h
        subst h
        exact ⟨[], outs, c, t, rfl⟩
      | _ => simp [pG] at h
    · obtain ⟨pre, post, c, t, e⟩ := ih h
      exact ⟨o :: pre, post, c, t, by rw [e]; rfl⟩

/-- a GOAWAY names at least every stream id dispatched BEFORE it in the output order -/
theorem goaway_covers_dispatched (cfg : Cfg) (evs : List Event) (pre post : List Out) (l c : Nat) (t : String)
    (h : runOuts cfg evs = pre ++ .goAway l c t :: post) : ∀ i ∈ dispatchedIds pre, i ≤ l := by
  intro i hi
  refine goaway_ge_every_dispatch cfg evs l ?_ i ?_
  · rw [h]; exact goAway_mem_lasts _ _ _ _ _
  · rw [h]; simp only [dispatchedIds, fm_append]; exact List.mem_append_left _ hi

/-- no stream id above the one a GOAWAY names is dispatched AFTER it -/
theorem no_dispatch_after_goaway_above_last (cfg : Cfg) (evs : List Event) (pre post : List Out) (l c : Nat) (t : String)
    (h : runOuts cfg evs = pre ++ .goAway l c t :: post) : ∀ i ∈ dispatchedIds post, i ≤ l := by
  intro i hi
  refine goaway_ge_every_dispatch cfg evs l ?_ i ?_
  · rw [h]; exact goAway_mem_lasts _ _ _ _ _
  · rw [h]
    simp only [dispatchedIds, fm_append]
    refine List.mem_append_right _ ?_
    rw [fm_cons']
    exact List.mem_append_right _ hi

/-! ## non-vacuity: concrete runs of the full model

`gaRun`: SETTINGS; HEADERS(1) and HEADERS(3) (GET /, END_STREAM) — both dispatched; the handler of 3 answers (204) and
3 is closed; DATA on the closed stream 3 — GOAWAY(last = 3, STREAM_CLOSED) while the handler of 1 still runs, so the
connection stays up; HEADERS(5) — refused (RST_STREAM REFUSED_STREAM), `lastID` stays 3; the handler of 1 answers.

`slotRun` (MaxConcurrentStreams = 1): HEADERS(1) dispatched; HEADERS(3) refused; the peer resets 1 while its handler
runs — 1 leaves the table, is abandoned and keeps the slot; HEADERS(5) is still refused; after the handler of 1 reports
back the slot is free and HEADERS(7) is accepted.

`bodyRun` (MaxRequestBodySize = 2): POST on 1 with 2 octets is dispatched with a body of 2 octets; POST on 3 with 3 octets
is reset and never dispatched. -/
namespace Ex

def settings0 : Event := .bytes [0, 0, 0, 4, 0, 0, 0, 0, 0]
/-- HEADERS(sid, GET / http, END_STREAM | END_HEADERS) -/
def hdrs (sid : Nat) : Event := .bytes [0, 0, 3, 1, 5, 0, 0, 0, sid, 0x82, 0x86, 0x84]
/-- HEADERS(sid, POST / http, END_HEADERS) -/
def post (sid : Nat) : Event := .bytes [0, 0, 3, 1, 4, 0, 0, 0, sid, 0x83, 0x86, 0x84]
/-- RST_STREAM(sid, CANCEL) -/
def rst (sid : Nat) : Event := .bytes [0, 0, 4, 3, 0, 0, 0, 0, sid, 0, 0, 0, 8]

def gaRun : List Event :=
  [settings0, hdrs 1, hdrs 3, .done 3 { status := 204 },
   .bytes [0, 0, 1, 0, 0, 0, 0, 0, 3, 0x61], hdrs 5, .done 1 { status := 204 }]

def slotRun : List Event := [settings0, hdrs 1, hdrs 3, rst 1, hdrs 5]

def bodyRun : List Event :=
  [settings0, post 1, .bytes [0, 0, 2, 0, 1, 0, 0, 0, 1, 0x68, 0x69],
   post 3, .bytes [0, 0, 3, 0, 1, 0, 0, 0, 3, 0x68, 0x69, 0x6a]]

/-- kind and stream id / last-stream-id of the outputs that matter here -/
def tag : Out → Option (String × Nat)
  | .dispatch sid .. => some ("dispatch", sid)
  | .goAway l .. => some ("goaway", l)
  | .rst sid _ => some ("rst", sid)
  | _ => none

example : fm tag (runOuts {} gaRun) = [("dispatch", 1), ("dispatch", 3), ("goaway", 3), ("rst", 5)] := by decide +kernel
example : dispatchedIds (runOuts {} gaRun) = [1, 3] ∧ goAwayLasts (runOuts {} gaRun) = [3] := by decide +kernel
example : (run {} gaRun).1.closing = true ∧ (run {} gaRun).1.lastID = 3 := by decide +kernel
example : (run {} (gaRun.take 4)).1.closing = false := by decide +kernel

example : fm tag (runOuts { maxStreams := 1 } slotRun) = [("dispatch", 1), ("rst", 3), ("rst", 5)] := by decide +kernel
example : (run { maxStreams := 1 } slotRun).1.openStreams = 1 ∧ (run { maxStreams := 1 } slotRun).1.strms.length = 0 ∧
    (run { maxStreams := 1 } slotRun).1.abandoned.length = 1 ∧ runningHandlers (run { maxStreams := 1 } slotRun).1 = 1 ∧
    (run { maxStreams := 1 } slotRun).1.ring = [1] ∧ (run { maxStreams := 1 } slotRun).1.resetByUs = [3, 5] := by
  decide +kernel
example : (run { maxStreams := 1 } (slotRun ++ [.done 1 {}])).1.openStreams = 0 := by decide +kernel
example : dispatchedIds (runOuts { maxStreams := 1 } (slotRun ++ [.done 1 {}, hdrs 7])) = [1, 7] := by decide +kernel

/-- the body lengths of the dispatch records -/
def bodyLens (l : List Out) : List (Nat × Nat) :=
  fm (fun o => match o with | .dispatch sid _ _ _ _ b => some (sid, b.len) | _ => none) l

example : bodyLens (runOuts { maxBody := 2 } bodyRun) = [(1, 2)] ∧
    fm tag (runOuts { maxBody := 2 } bodyRun) = [("dispatch", 1), ("rst", 3)] := by decide +kernel

end Ex

end H2.Server
