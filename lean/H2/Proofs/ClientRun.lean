import H2.Client.Drv
import H2.Proofs.ClientSerial
/-!
# Runs of the FULL serial client model (`H2.Client.step`, the model the correspondence check compares with `conn.go`)

`run c evs` folds `step` over an event list and collects the outputs. Everything in the files
`ClientRun*.lean` is about this function, for EVERY event list (no bound on its length or contents).

This file: `run`, `AllSteps` (a predicate holds of every step of a run), the connection as the driver creates
it (`Init`, `handshake_init`), what each function of the model can change ("shape" lemmas: a function's
result is its argument with a few named fields replaced, so every other field is untouched by `rfl`; for the
write loop they also say what is written and queued), and the relation `MapLe c c'`: the requests of `c'` are those of
`c`, each one evolved without its result being replaced (`Req.Le`). The case analysis of `sendPending` is
`sendPending_cases` (`ClientSerial.lean`), that of `flushPending` is `flushPending_induct`.
-/
namespace H2.Client

/-! ## runs -/

def run : Conn → List Event → Conn × List StepOut
  | c, [] => (c, [])
  | c, e :: es => ((run (step c e).1 es).1, (step c e).2 :: (run (step c e).1 es).2)

@[simp] theorem run_nil (c : Conn) : run c [] = (c, []) := rfl
@[simp] theorem run_cons (c : Conn) (e : Event) (es : List Event) :
    run c (e :: es) = ((run (step c e).1 es).1, (step c e).2 :: (run (step c e).1 es).2) := rfl

theorem run_append (es es' : List Event) : ∀ c : Conn,
    run c (es ++ es') = ((run (run c es).1 es').1, (run c es).2 ++ (run (run c es).1 es').2) := by
  induction es with
  | nil => intro c; rfl
  | cons e es ih => intro c; simp only [List.cons_append, run_cons, ih, List.cons_append]

/-- `P` holds of every step of the run of `evs` from `c`: state before, event, state after, output -/
def AllSteps (P : Conn → Event → Conn → StepOut → Prop) : Conn → List Event → Prop
  | _, [] => True
  | c, e :: es => P c e (step c e).1 (step c e).2 ∧ AllSteps P (step c e).1 es

/-- the way every run-level theorem is proved: an invariant of `step` that gives `P` at every step -/
theorem allSteps_of_inv {I : Conn → Prop} {P : Conn → Event → Conn → StepOut → Prop}
    (hstep : ∀ c e, I c → I (step c e).1) (hP : ∀ c e, I c → P c e (step c e).1 (step c e).2) :
    ∀ (evs : List Event) (c : Conn), I c → AllSteps P c evs := by
  intro evs
  induction evs with
  | nil => intro c _; trivial
  | cons e es ih => intro c hc; exact ⟨hP c e hc, ih _ (hstep c e hc)⟩

theorem run_inv {I : Conn → Prop} (hstep : ∀ c e, I c → I (step c e).1) :
    ∀ (evs : List Event) (c : Conn), I c → I (run c evs).1 := by
  intro evs
  induction evs with
  | nil => intro c h; exact h
  | cons e es ih => intro c hc; exact ih _ (hstep c e hc)

theorem AllSteps.at {P : Conn → Event → Conn → StepOut → Prop} :
    ∀ (pre : List Event) {c : Conn} {e : Event} {post : List Event}, AllSteps P c (pre ++ e :: post) →
      P (run c pre).1 e (step (run c pre).1 e).1 (step (run c pre).1 e).2 := by
  intro pre
  induction pre with
  | nil => intro c e post h; exact h.1
  | cons x xs ih => intro c e post h; exact ih h.2

/-! ## the connection as the driver creates it -/

/-- what `Drv.handshake` builds: nothing requested, nothing queued, alive, the windows of RFC 9113 6.9.2 -/
structure Init (c : Conn) : Prop where
  reqs : c.reqs = []
  nextID : c.nextID = 1
  openStreams : c.openStreams = 0
  connWindow : c.connWindow = 65535
  pending : c.pending = []
  reqQueued : c.reqQueued = []
  goAway : c.goAway = false
  stateClosed : c.stateClosed = false
  closeRef : c.closeRef = 0
  dead : c.dead = false
  stuck : c.stuck = false
  outQ : c.outQ = []
  winTok : c.winTok = false
  rdBuf : c.rdBuf = []
  hdrBlock : c.hdrBlock = []
  lastErr : c.lastErr = none
  wbudget : c.wbudget = none

theorem init_default : Init {} := by constructor <;> rfl

theorem handshake_cases {b : Bytes} {c : Conn} (h : Drv.handshake b = some c) :
    c = {} ∨ ∃ f s, .frame f ∈ (splitFrames 2 b).1 ∧ f.body = .settings s ∧
      c = { streamWindow := s.windowSize, maxStreams := s.maxStreams, maxFrameSize := s.frameSize
            srvTableSize := s.tableSize
            enc := if s.tableSize ≤ Gen.c_defaultHeaderTableSize then ({} : Hpack.EncState).setMax s.tableSize else {} } := by
  unfold Drv.handshake at h
  split at h
  · rename_i f hsp
    split at h
    · rename_i s hb
      split at h
      · exact .inl (Option.some.inj h).symm
      · exact .inr ⟨f, s, by rw [hsp]; exact List.mem_cons_self .., hb, (Option.some.inj h).symm⟩
    · cases h
  · cases h

theorem handshake_init {b : Bytes} {c : Conn} (h : Drv.handshake b = some c) : Init c := by
  rcases handshake_cases h with rfl | ⟨f, s, _, _, rfl⟩ <;> constructor <;> rfl

theorem nomem {α : Type} {P : Prop} {f : α} (h : f ∈ ([] : List α)) : P := by cases h

/-! ## kinds of frames the client writes -/

/-- the frame belongs to a header block: HEADERS (whole, or cut: `hfrag`) or CONTINUATION -/
def OutFrame.isHeaders : OutFrame → Bool
  | .headers _ _ _ => true
  | .hfrag _ _ _ => true
  | .cont _ _ _ _ => true
  | _ => false

def OutFrame.opens : OutFrame → Bool
  | .headers _ _ _ => true
  | .hfrag _ _ _ => true
  | _ => false

theorem OutFrame.opens_isHeaders {f : OutFrame} (h : f.opens = true) : f.isHeaders = true := by
  cases f <;> first | rfl | cases h

/-- a control frame: what the read loop queues for the write loop (neither HEADERS nor DATA) -/
def OutFrame.isCtl : OutFrame → Bool
  | .headers _ _ _ => false
  | .hfrag _ _ _ => false
  | .cont _ _ _ _ => false
  | .data _ _ _ => false
  | _ => true

theorem OutFrame.isCtl_notHeaders {f : OutFrame} (h : f.isCtl = true) : f.isHeaders = false := by
  cases f <;> first | rfl | cases h

def AllOn (sid : Nat) (fs : List OutFrame) : Prop := ∀ f ∈ fs, ∃ k b, f = .data sid k b

theorem AllOn.append {sid : Nat} {a b : List OutFrame} (ha : AllOn sid a) (hb : AllOn sid b) : AllOn sid (a ++ b) :=
  fun f hf => (List.mem_append.mp hf).elim (ha f) (hb f)

/-! ## shapes: which fields a function can change -/

theorem skipHeaders_shape (c : Conn) (f : Frame.Frame) :
    ∃ d b e, skipHeaders c f = { c with dec := d, hdrBlock := b, hdrEndStream := e } := by
  unfold skipHeaders
  split
  · simp only; split
    · exact ⟨_, _, _, rfl⟩
    · exact ⟨c.dec, _, c.hdrEndStream, rfl⟩
  · simp only; split
    · exact ⟨_, _, _, rfl⟩
    · exact ⟨c.dec, _, c.hdrEndStream, rfl⟩
  · exact ⟨c.dec, c.hdrBlock, c.hdrEndStream, rfl⟩

theorem dataFrames_data (sid step : Nat) : ∀ (fuel n : Nat) (e : Bool), AllOn sid (dataFrames sid step fuel n e) := by
  intro fuel
  induction fuel with
  | zero => intro n e f hf; exact nomem hf
  | succ k ih =>
    intro n e f hf
    simp only [dataFrames] at hf
    split at hf
    · exact ⟨_, _, List.mem_singleton.mp hf⟩
    · rcases List.mem_cons.mp hf with hf | hf
      · exact ⟨_, _, hf⟩
      · exact ih _ _ f hf

theorem writeData_data (c : Conn) (sid n : Nat) (e : Bool) : AllOn sid (writeData c sid n e) := by
  intro f hf
  simp only [writeData] at hf
  split at hf
  · split at hf
    · exact ⟨_, _, List.mem_singleton.mp hf⟩
    · exact nomem hf
  · exact dataFrames_data _ _ _ _ _ f hf

theorem sendPending_shape (fuel : Nat) (c : Conn) (sid : Nat) :
    ∃ p w q, (sendPending fuel c sid).1 = { c with pending := p, connWindow := w, outQ := c.outQ ++ q } ∧
      (∀ f ∈ q, f.isCtl = true) ∧ AllOn sid (sendPending fuel c sid).2 := by
  refine sendPending_cases sid (fun c res => ∃ p w q,
    res.1 = { c with pending := p, connWindow := w, outQ := c.outQ ++ q } ∧ (∀ f ∈ q, f.isCtl = true) ∧ AllOn sid res.2)
    ?_ ?_ ?_ ?_ ?_ ?_ ?_ fuel c
  · intro c; exact ⟨c.pending, c.connWindow, [], by rw [List.append_nil], fun _ => nomem, fun _ => nomem⟩
  · intro c pb _ _
    refine ⟨_, c.connWindow, _, rfl, ?_, fun _ => nomem⟩
    intro f hf; rw [List.mem_singleton.mp hf]; rfl
  · intro c pb pb' res _ _ ⟨p, w, q, h⟩; exact ⟨p, w, q, h⟩
  · intro c pb n _ _; exact ⟨_, _, [], by rw [List.append_nil]; rfl, fun _ => nomem, fun _ => nomem⟩
  · intro c pb n _ _; exact ⟨_, _, [], by rw [List.append_nil]; rfl, fun _ => nomem, fun _ => nomem⟩
  · intro c pb n _ _ _; exact ⟨_, _, [], by rw [List.append_nil]; rfl, fun _ => nomem, writeData_data _ _ _ _⟩
  · intro c pb n res _ _ _ ⟨p, w, q, h, hq, hd⟩; exact ⟨p, w, q, h, hq, (writeData_data _ _ _ _).append hd⟩

/-- `flushPending` written with projections (the model uses a destructuring `let`); `drain_eq` likewise -/
theorem flushPending_eq (c : Conn) :
    flushPending c = ((if flushAmbiguous c then { c with ambiguous := true } else c).pending.map (·.1)).foldl
      (fun (acc : Conn × List OutFrame) sid =>
        ((sendPending 100000 acc.1 sid).1, acc.2 ++ (sendPending 100000 acc.1 sid).2))
      (if flushAmbiguous c then { c with ambiguous := true } else c, []) := rfl

theorem flushPending_induct {Q : Conn × List OutFrame → Prop} (c : Conn)
    (start : ∀ a, Q ({ c with ambiguous := a }, []))
    (step : ∀ acc sid, Q acc → Q ((sendPending 100000 acc.1 sid).1, acc.2 ++ (sendPending 100000 acc.1 sid).2)) :
    Q (flushPending c) := by
  have fold : ∀ (l : List Nat) acc, Q acc → Q (l.foldl (fun (acc : Conn × List OutFrame) sid =>
      ((sendPending 100000 acc.1 sid).1, acc.2 ++ (sendPending 100000 acc.1 sid).2)) acc) := by
    intro l
    induction l with
    | nil => exact fun _ h => h
    | cons x xs ih => exact fun acc h => ih _ (step acc x h)
  rw [flushPending_eq]
  refine fold _ _ ?_
  split
  · exact start true
  · exact start c.ambiguous

theorem flushPending_shape (c : Conn) :
    ∃ p w q a, (flushPending c).1 = { c with pending := p, connWindow := w, outQ := c.outQ ++ q, ambiguous := a } ∧
      (∀ f ∈ q, f.isCtl = true) ∧ ∀ f ∈ (flushPending c).2, ∃ s k b, f = .data s k b := by
  refine flushPending_induct (Q := fun res => ∃ p w q a,
    res.1 = { c with pending := p, connWindow := w, outQ := c.outQ ++ q, ambiguous := a } ∧ (∀ f ∈ q, f.isCtl = true) ∧
      ∀ f ∈ res.2, ∃ s k b, f = .data s k b) c ?_ ?_
  · intro a; exact ⟨c.pending, c.connWindow, [], a, by rw [List.append_nil], fun _ => nomem, fun _ => nomem⟩
  · intro acc sid ⟨p, w, q, a, h, hq, hd⟩
    obtain ⟨p', w', q', h', hq', hd'⟩ := sendPending_shape 100000 acc.1 sid
    refine ⟨p', w', q ++ q', a, by rw [h', h, ← List.append_assoc], ?_, ?_⟩
    · exact fun f hf => (List.mem_append.mp hf).elim (hq f) (hq' f)
    · intro f hf
      rcases List.mem_append.mp hf with hf | hf
      · exact hd f hf
      · obtain ⟨k, b, e⟩ := hd' f hf; exact ⟨sid, k, b, e⟩

theorem drain_eq (c : Conn) :
    drain c = (if c.winTok then
        ({ (flushPending { c with outQ := [], winTok := false }).1 with outQ := [] },
          c.outQ ++ (flushPending { c with outQ := [], winTok := false }).2 ++
            (flushPending { c with outQ := [], winTok := false }).1.outQ)
      else ({ c with outQ := [] }, c.outQ ++ [] ++ [])) := by
  cases h : c.winTok <;> simp [drain, h]

theorem drain_shape (c : Conn) :
    ∃ p w a ds rs, (drain c).1 = { c with pending := p, connWindow := w, outQ := [], ambiguous := a, winTok := false } ∧
      (drain c).2 = c.outQ ++ ds ++ rs ∧ (∀ f ∈ ds, ∃ s k b, f = .data s k b) ∧ ∀ f ∈ rs, f.isCtl = true := by
  rw [drain_eq]
  split
  · obtain ⟨p, w, q, a, h, hq, hd⟩ := flushPending_shape { c with outQ := [], winTok := false }
    exact ⟨p, w, a, _, q, by rw [h], by rw [h]; rfl, hd, hq⟩
  · rename_i h
    have : c.winTok = false := by simpa using h
    exact ⟨c.pending, c.connWindow, c.ambiguous, [], [], by simp only [← this], rfl, fun _ => nomem, fun _ => nomem⟩

theorem encodeHeaders_shape (c : Conn) (fields : List (Bytes × Bytes)) :
    ∃ e, (encodeHeaders c fields).1 = { c with enc := e, encTableSet := false } := ⟨_, rfl⟩

theorem wireBytes_shape (fs : List OutFrame) : ∀ c : Conn,
    ∃ e s, (wireBytes c fs).1 = { c with enc := e, encTableSet := s } := by
  induction fs with
  | nil => intro c; exact ⟨c.enc, c.encTableSet, rfl⟩
  | cons f fs ih =>
    intro c
    cases f with
    | headers sid es fields =>
      simp only [wireBytes]
      obtain ⟨e, s, h⟩ := ih (encodeHeaders c fields).1
      rw [h]; exact ⟨_, _, rfl⟩
    | _ => simp only [wireBytes]; exact ih c

theorem applyPairs_shape (ps : List (Nat × Nat)) : ∀ c : Conn,
    ∃ a b d, applyPairs c ps = { c with srvTableSize := a, maxStreams := b, maxFrameSize := d } := by
  induction ps with
  | nil => intro c; exact ⟨_, _, _, rfl⟩
  | cons p ps ih =>
    intro c
    obtain ⟨k, v⟩ := p
    simp only [applyPairs]
    split
    · obtain ⟨a, b, d, h⟩ := ih { c with srvTableSize := v }; rw [h]; exact ⟨_, _, _, rfl⟩
    · split
      · obtain ⟨a, b, d, h⟩ := ih { c with maxStreams := v }; rw [h]; exact ⟨_, _, _, rfl⟩
      · split
        · obtain ⟨a, b, d, h⟩ := ih { c with maxFrameSize := v }; rw [h]; exact ⟨_, _, _, rfl⟩
        · exact ih c

theorem noteTableSizes_shape (ps : List (Nat × Nat)) : ∀ c : Conn,
    ∃ a b d, noteTableSizes c ps = { c with encTableMin := a, encTableSize := b, encTableSet := d } := by
  induction ps with
  | nil => intro c; exact ⟨_, _, _, rfl⟩
  | cons p ps ih =>
    intro c
    obtain ⟨k, v⟩ := p
    simp only [noteTableSizes]
    split
    · obtain ⟨a, b, d, h⟩ := ih { c with encTableMin := _, encTableSize := v, encTableSet := true }
      rw [h]; exact ⟨_, _, _, rfl⟩
    · exact ih c

theorem handleSettings_eq (c : Conn) (s : Frame.SettingsVal) :
    handleSettings c s = queueOut (if s.hasWindowSize then
        applyInitialWindow (noteTableSizes (applyPairs c s.pairs) s.pairs) s.windowSize
      else noteTableSizes (applyPairs c s.pairs) s.pairs) .settingsAck := rfl

theorem handleSettings_shape (c : Conn) (s : Frame.SettingsVal) :
    ∃ a b d e f g sw p w, handleSettings c s =
      { c with srvTableSize := a, maxStreams := b, maxFrameSize := d, encTableMin := e, encTableSize := f,
               encTableSet := g, streamWindow := sw, pending := p, winTok := w, outQ := c.outQ ++ [.settingsAck] } := by
  rw [handleSettings_eq]
  obtain ⟨a, b, d, h1⟩ := applyPairs_shape s.pairs c
  rw [h1]
  obtain ⟨e, f, g, h2⟩ := noteTableSizes_shape s.pairs { c with srvTableSize := a, maxStreams := b, maxFrameSize := d }
  rw [h2]
  simp only [applyInitialWindow, queueOut]
  split
  · exact ⟨_, _, _, _, _, _, _, _, _, rfl⟩
  · exact ⟨_, _, _, _, _, _, c.streamWindow, c.pending, c.winTok, rfl⟩

/-! ## requests evolve, results are never replaced -/

/-- what anything but the caller's own `read` and `writeRequest` can do to a request. `keep`: a result that is waiting
(or was taken) is not replaced. -/
structure Req.Le (r r' : Req) : Prop where
  tag : r'.tag = r.tag
  read : r'.read = r.read
  done : r'.done = r.done
  keep : (r.done = true ∨ r.errBuf.isSome = true) → r'.errBuf = r.errBuf
  sid : r'.sid = r.sid
  hasConn : r'.hasConn = r.hasConn
  streamed : r'.streamed = r.streamed

theorem Req.Le.refl (r : Req) : Req.Le r r := ⟨rfl, rfl, rfl, fun _ => rfl, rfl, rfl, rfl⟩

/-- the part of `Req.Le` that also survives `writeRequest`, which binds the request to a stream -/
structure Req.Le0 (r r' : Req) : Prop where
  tag : r'.tag = r.tag
  read : r'.read = r.read
  done : r'.done = r.done
  keep : (r.done = true ∨ r.errBuf.isSome = true) → r'.errBuf = r.errBuf

theorem Req.Le.le0 {r r' : Req} (h : Req.Le r r') : Req.Le0 r r' := ⟨h.tag, h.read, h.done, h.keep⟩

theorem Req.Le0.refl (r : Req) : Req.Le0 r r := ⟨rfl, rfl, rfl, fun _ => rfl⟩

theorem Req.Le0.trans {a b c : Req} (h1 : Req.Le0 a b) (h2 : Req.Le0 b c) : Req.Le0 a c := by
  refine ⟨h2.tag.trans h1.tag, h2.read.trans h1.read, h2.done.trans h1.done, ?_⟩
  intro h
  have e1 := h1.keep h
  have : b.done = true ∨ b.errBuf.isSome = true := by
    rcases h with h | h
    · left; rw [h1.done]; exact h
    · right; rw [e1]; exact h
  exact (h2.keep this).trans e1

theorem Req.Le.trans {a b c : Req} (h1 : Req.Le a b) (h2 : Req.Le b c) : Req.Le a c :=
  let k := h1.le0.trans h2.le0
  ⟨k.tag, k.read, k.done, k.keep, h2.sid.trans h1.sid, h2.hasConn.trans h1.hasConn, h2.streamed.trans h1.streamed⟩

theorem Req.resolve_le (r : Req) (e : Err) : Req.Le r (r.resolve e) := by
  rcases r.resolve_cases e with ⟨_, h⟩ | ⟨hd, he, h⟩ <;> rw [h]
  · exact Req.Le.refl r
  · refine ⟨rfl, rfl, rfl, fun c => ?_, rfl, rfl, rfl⟩
    rw [hd, he] at c
    rcases c with c | c <;> cases c

def First (c : Conn) (r : Req) : Prop := getReq c r.tag = some r

theorem first_of_getReq {c : Conn} {t : String} {r : Req} (h : getReq c t = some r) : First c r := by
  unfold First; rw [getReq_tag h]; exact h

theorem getReq_congr {c c' : Conn} (h : c'.reqs = c.reqs) (t : String) : getReq c' t = getReq c t := by
  unfold getReq; rw [h]

def MapRel (R : Req → Req → Prop) (c c' : Conn) : Prop :=
  ∃ g : Req → Req, (∀ r, (g r).tag = r.tag) ∧ (∀ r, First c r → R r (g r)) ∧ c'.reqs = c.reqs.map g

/-- `MapRel Req.Le`: no result is replaced -/
def MapLe (c c' : Conn) : Prop :=
  ∃ g : Req → Req, (∀ r, (g r).tag = r.tag) ∧ (∀ r, First c r → Req.Le r (g r)) ∧ c'.reqs = c.reqs.map g

theorem MapRel.of_reqs {R : Req → Req → Prop} (hR : ∀ r, R r r) {c c' : Conn} (h : c'.reqs = c.reqs) : MapRel R c c' :=
  ⟨id, fun _ => rfl, fun r _ => hR r, by simpa using h⟩

theorem MapRel.imp {R S : Req → Req → Prop} (hRS : ∀ r r', R r r' → S r r') {c c' : Conn} (h : MapRel R c c') :
    MapRel S c c' := by
  obtain ⟨g, t, l, e⟩ := h
  exact ⟨g, t, fun r hr => hRS _ _ (l r hr), e⟩

theorem MapRel.trans {R : Req → Req → Prop} (hR : ∀ {x y z}, R x y → R y z → R x z) {a b c : Conn}
    (h1 : MapRel R a b) (h2 : MapRel R b c) : MapRel R a c := by
  obtain ⟨g1, t1, l1, e1⟩ := h1
  obtain ⟨g2, t2, l2, e2⟩ := h2
  refine ⟨g2 ∘ g1, fun r => (t2 _).trans (t1 r), ?_, by rw [e2, e1, List.map_map]⟩
  intro r hr
  have hb : First b (g1 r) := by
    unfold First
    rw [getReq_map t1 e1, t1 r]
    unfold First at hr
    rw [hr]; rfl
  exact hR (l1 r hr) (l2 _ hb)

theorem MapRel.tags {R : Req → Req → Prop} {c c' : Conn} (h : MapRel R c c') :
    c'.reqs.map (·.tag) = c.reqs.map (·.tag) := by
  obtain ⟨g, t, _, e⟩ := h
  rw [e, List.map_map]
  apply List.map_congr_left
  intro r _; exact t r

theorem MapRel.get {R : Req → Req → Prop} {c c' : Conn} (h : MapRel R c c') (t : String) :
    (getReq c t = none ∧ getReq c' t = none) ∨
    ∃ r r', getReq c t = some r ∧ getReq c' t = some r' ∧ R r r' := by
  obtain ⟨g, tg, l, e⟩ := h
  rw [getReq_map tg e]
  cases hq : getReq c t with
  | none => left; exact ⟨rfl, rfl⟩
  | some r => right; exact ⟨r, g r, rfl, rfl, l r (first_of_getReq hq)⟩

theorem MapLe.of_reqs {c c' : Conn} (h : c'.reqs = c.reqs) : MapLe c c' := MapRel.of_reqs Req.Le.refl h

theorem MapLe.refl (c : Conn) : MapLe c c := MapLe.of_reqs rfl

theorem MapLe.trans {a b c : Conn} (h1 : MapLe a b) (h2 : MapLe b c) : MapLe a c := MapRel.trans (R := Req.Le) Req.Le.trans h1 h2

theorem MapLe.tags {c c' : Conn} (h : MapLe c c') : c'.reqs.map (·.tag) = c.reqs.map (·.tag) := MapRel.tags h

theorem MapLe.get {c c' : Conn} (h : MapLe c c') (t : String) :
    (getReq c t = none ∧ getReq c' t = none) ∨
    ∃ r r', getReq c t = some r ∧ getReq c' t = some r' ∧ Req.Le r r' := MapRel.get h t

theorem mapRel_updReq {R : Req → Req → Prop} (hR : ∀ r, R r r) (c : Conn) (tag : String) (f : Req → Req)
    (hf : ∀ r, r.tag = tag → (f r).tag = tag) (hl : ∀ r, getReq c tag = some r → R r (f r)) :
    MapRel R c (updReq c tag f) := by
  refine ⟨fun r => if r.tag == tag then f r else r, updReq_tag hf, ?_, rfl⟩
  intro r hr
  by_cases h : r.tag = tag
  · simp only [h, beq_self_eq_true, if_true]
    apply hl; unfold First at hr; rw [h] at hr; exact hr
  · have : (r.tag == tag) = false := by simpa using h
    simp only [this]; exact hR r

theorem mapLe_updReq (c : Conn) (tag : String) (f : Req → Req) (hf : ∀ r, r.tag = tag → (f r).tag = tag)
    (hl : ∀ r, getReq c tag = some r → Req.Le r (f r)) : MapLe c (updReq c tag f) :=
  mapRel_updReq Req.Le.refl c tag f hf hl

theorem mapLe_resolve (c : Conn) (tag : String) (e : Err) : MapLe c (resolve c tag e) :=
  mapLe_updReq c tag _ (fun r h => (Req.resolve_le r e).tag.trans h) (fun r _ => Req.resolve_le r e)

@[simp] theorem takeReq_reqs (c : Conn) (sid : Nat) : (takeReq c sid).reqs = c.reqs := by
  rcases takeReq_cases c sid with ⟨_, _, h⟩ | ⟨_, h⟩ <;> rw [h]

theorem mapLe_finish (c : Conn) (tag : String) (sid : Nat) (e : Err) : MapLe c (finish c tag sid e) := by
  unfold finish
  exact (MapLe.of_reqs (c := c) (c' := deletePending (takeReq c sid) sid) (by simp [deletePending])).trans
    (mapLe_resolve _ tag e)

theorem fieldStep_le {r : Req} {a b : Bool} {k v : Bytes} {r' : Req} {rs ss : Bool}
    (h : fieldStep r a b k v = some (r', rs, ss)) : Req.Le r r' := by
  rcases fieldStep_some h with ⟨_, _, _, _, _, n, rfl⟩ | ⟨_, _, _, ⟨n, rfl⟩ | rfl | rfl⟩ <;>
    exact ⟨rfl, rfl, rfl, fun _ => rfl, rfl, rfl, rfl⟩

theorem readHeader_le (fuel : Nat) : ∀ (st : Hpack.DecState) (r : Req) (a b : Bool) (nf : Nat) (bs : Bytes),
    Req.Le r (readHeader fuel st r a b nf bs).2.1 :=
  readHeader_rel Req.Le.refl (fun h1 h2 => h1.trans h2) fieldStep_le fuel

end H2.Client
