import H2.Proofs.Huffman
/-!
# C15 — Huffman coding is the RFC 7541 code: lossless, canonical, strict on decode

Property theorems only. The code table is `H2.Gen.huffCodes/huffLens`, regenerated from
`huffman.go` on every run, so every theorem below is re-checked against the table the source has now.
The executable definitions `Huffman.encode`/`Huffman.decode` are the model that the correspondence
check runs against `HuffmanEncode`/`HuffmanDecode`.
-/
namespace H2.Props.C15
open H2 H2.Huffman

/-- The table in the source is the RFC 7541 Appendix B table: its lengths are the RFC's … -/
theorem rfc_table_lens : Gen.huffLens = rfcLens := fact_lens

/-- … its codes are the canonical assignment for those lengths … -/
theorem rfc_table_codes (s : Nat) (hs : s < 256) :
    Gen.huffCodes.getD s 0 = canonicalCodeOf rfcLensWithEos s :=
  (canonical_code s hs).symm

/-- … and EOS, which sorts last among the 30-bit codes, is 30 one-bits. -/
theorem rfc_table_eos : canonicalCodeOf rfcLensWithEos 256 = 2 ^ 30 - 1 := canonical_eos

/-- The code is prefix-free and complete: every leaf of the trie is the code of its symbol and every
symbol's code leads to its leaf. -/
theorem prefix_code (s : Nat) (hs : s < 256) (rest : List Bool) :
    trie.walk (code s ++ rest) = some (s, rest) := trie_walk_code s hs rest

/-- what `encode` emits: the codes, then `padLen` one-bits, `padLen < 8` -/
theorem encode_bits (s : Bytes) :
    unpack (encode s) = encBits s ++ List.replicate (padLen (encBits s).length) true ∧
    padLen (encBits s).length < 8 := by
  refine ⟨?_, padLen_lt _⟩
  unfold encode
  have h := padLen_spec (encBits s).length
  apply unpack_pack _ (((encBits s).length + padLen (encBits s).length) / 8)
  simp only [List.length_append, List.length_replicate]
  omega

/-- lossless: decoding the encoding of any octet string gives it back -/
theorem decode_encode (s : Bytes) (hs : WF s) : decode (encode s) = some s := by
  unfold decode
  rw [(encode_bits s).1]
  exact dec_enc s hs _ (padLen_lt _)

/-- strict and canonical: decoding succeeds exactly on `encode s`, i.e. on complete codes followed by
at most 7 one-bits; nothing else (zero padding, 8 or more padding bits, an embedded EOS, a truncated
code) is accepted, and the decoded string is unique. -/
theorem decode_ok_iff (b s : Bytes) (hb : WF b) :
    decode b = some s ↔ (WF s ∧ b = encode s) := by
  constructor
  · intro h
    unfold decode at h
    obtain ⟨k, hk, hbits, hs⟩ := (dec_iff _ _).1 h
    refine ⟨hs, ?_⟩
    have hlen : (unpack b).length = 8 * b.length := unpack_length b
    have hk' : k = padLen (encBits s).length := by
      apply padLen_unique _ _ hk
      have : (unpack b).length = (encBits s).length + k := by
        rw [hbits]; simp
      omega
    have : unpack b = unpack (encode s) := by
      rw [(encode_bits s).1, hbits, hk']
    have h2 := congrArg pack this
    rw [pack_unpack b hb, pack_unpack (encode s) (pack_wf _)] at h2
    exact h2
  · rintro ⟨hs, rfl⟩
    exact decode_encode s hs

/-- decoded output is a string of octets -/
theorem decode_wf (b s : Bytes) (h : decode b = some s) : WF s := by
  unfold decode at h
  obtain ⟨_, _, _, hs⟩ := (dec_iff _ _).1 h
  exact hs

/-- `encode` yields octets -/
theorem encode_wf (s : Bytes) : WF (encode s) := pack_wf _

/-! non-vacuity: the hypotheses are met by ordinary inputs, and a strictness case -/
example : WF (strBytes "www.example.com") ∧ decode (encode (strBytes "www.example.com")) = some (strBytes "www.example.com") := by
  rw [decode_eq]; decide +kernel
example : decode [0xff] = none := by rw [decode_eq]; decide +kernel          -- 8 padding bits
example : decode [0x1f] = some [0x61] := by rw [decode_eq]; decide +kernel   -- 'a' = 00011, padding 111
example : decode [0x18] = none := by rw [decode_eq]; decide +kernel          -- 'a' followed by zero padding

end H2.Props.C15
