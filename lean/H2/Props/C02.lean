import H2.Proofs.ClientSerial
import H2.Proofs.ClientRunIds
/-!
# C02 — each request is sent intact and gets exactly its own response

Statements about the serial client model (`H2.Client.Model`), the one the stepping harness compares
with the real `Conn` step by step. Response assembly happens on the read loop alone, so "however the
server orders or interleaves its frames" is "for every frame and every state": the theorems quantify
over all states and frames, not over a generated set.

A header block that goes on in CONTINUATION frames is kept until END_HEADERS and decoded whole (repair of F36):
`split_invariance` is the property's "fragmented at any byte", and `C02_full`, refuted before the repair, is a theorem.
The input that refuted it is the regression example `F36_regression`.
-/
namespace H2.Props.C02

open H2.Client

/-! ## stream ids -/

/-- `writeRequest` either turns the request away without touching the id counter, or writes HEADERS on
exactly `nextID` and advances it by two -/
theorem ids_fresh_odd_increasing (c : Conn) (r : ReqSpec) :
    (canOpenStream c = false → (writeRequest c r).2 = [] ∧ (writeRequest c r).1.nextID = c.nextID) ∧
    (canOpenStream c = true →
      (∃ es fs rest, (writeRequest c r).2 = OutFrame.headers c.nextID es fs :: rest) ∧
      (writeRequest c r).1.nextID = c.nextID + 2) := by
  rcases writeRequest_shape c r with ⟨hc, e⟩ | ⟨hc, p, w, q, rest, e, _, _⟩ <;> rw [e]
  · exact ⟨fun _ => ⟨rfl, rfl⟩, fun h => nomatch hc.symm.trans h⟩
  · exact ⟨(fun h => nomatch hc.symm.trans h), fun _ => ⟨⟨_, _, rest, rfl⟩, rfl⟩⟩

/-- so ids stay odd: 1, 3, 5, … -/
theorem next_id_stays_odd (c : Conn) (r : ReqSpec) (h : c.nextID % 2 = 1) : (writeRequest c r).1.nextID % 2 = 1 := by
  have := ids_fresh_odd_increasing c r
  cases hc : canOpenStream c
  · rw [(this.1 hc).2]; exact h
  · rw [(this.2 hc).2]; omega

/-- a stream is opened only while its id is within the 31-bit space -/
theorem id_within_space (c : Conn) (h : canOpenStream c = true) : c.nextID ≤ Gen.c_maxStreamID := by
  simp [canOpenStream] at h; exact h.1.2

/-! ## the request on the wire -/

/-- the header list starts with the four pseudo-header fields and the user agent, as given -/
theorem request_head (r : ReqSpec) :
    (requestFields r).take 5 = [(Gen.s_StringAuthority, r.host), (Gen.s_StringMethod, r.method),
      (Gen.s_StringPath, r.path), (Gen.s_StringScheme, r.scheme), (Gen.s_StringUserAgent, r.ua)] := by
  simp [requestFields]

/-- no connection-specific field goes out, and every other field of the request does, lower-cased -/
theorem request_regular_fields (r : ReqSpec) (k v : Bytes) :
    (k, v) ∈ (requestFields r).drop 5 ↔
      ((∃ d ch t, r.body = .stream d ch t ∧ d ≥ 0 ∧ k = Gen.s_StringContentLength ∧ v = strBytes (toString d)) ∨
       (∃ k0, (k0, v) ∈ r.hdrs ∧ k = toLowerGo k0 ∧ k ≠ Gen.s_StringUserAgent ∧ isConnectionSpecific k = false)) := by
  simp only [requestFields, List.drop_succ_cons, List.drop_zero, List.nil_append, List.cons_append]
  simp only [List.mem_append, List.mem_filterMap]
  constructor
  · rintro (h | ⟨⟨k0, v0⟩, hm, hk⟩)
    · left
      cases hb : r.body <;> simp [hb] at h
      rename_i d ch t
      exact ⟨d, ch, t, rfl, h.1, h.2.1, h.2.2⟩
    · right
      simp only at hk
      split at hk
      · cases hk
      · rename_i hc
        simp only [Option.some.injEq, Prod.mk.injEq] at hk
        obtain ⟨rfl, rfl⟩ := hk
        simp only [Bool.or_eq_true, beq_iff_eq, not_or, Bool.not_eq_true] at hc
        exact ⟨k0, hm, rfl, hc.1, hc.2⟩
  · rintro (⟨d, ch, t, hb, hd, rfl, rfl⟩ | ⟨k0, hm, rfl, h1, h2⟩)
    · left; simp [hb, hd]
    · right
      refine ⟨(k0, v), hm, ?_⟩
      simp [h1, h2]

/-! ## responses: a frame touches only the request bound to its stream -/

/-- **no_cross_delivery**: processing any server frame on stream `f.stream` leaves every request other
than the one registered for that stream exactly as it was — status, fields, body, result -/
theorem no_cross_delivery (c : Conn) (f : Frame.Frame) (tag : String)
    (hq : lookupA c.reqQueued f.stream = some tag) : OthersSame tag c (dispatch c f).1 :=
  othersSame_dispatch c f tag hq

/-- responses that cannot be told apart by stream id do not exist: a stream id is bound to at most one
request (`insertA` replaces, `writeRequest` uses a fresh id) -/
theorem lookup_insert (l : List (Nat × String)) (k : Nat) (v : String) : lookupA (insertA l k v) k = some v := by
  induction l with
  | nil => simp [insertA, lookupA]
  | cons p t ih =>
    obtain ⟨k', v'⟩ := p
    simp only [insertA]
    split
    · simp [lookupA]
    · split
      · simp [lookupA]
      · rename_i h1 h2
        have : (k' == k) = false := by
          simp only [beq_eq_false_iff_ne, ne_eq]; intro h; subst h; simp at h2
        simp only [lookupA, List.find?_cons, this] at ih ⊢
        exact ih

/-! ## header blocks continued in CONTINUATION -/

def hdrFrame (sid : Nat) (es eh : Bool) (frag : Bytes) : Frame.Frame :=
  ⟨Gen.c_FrameHeaders, (if es then 1 else 0) + (if eh then 4 else 0), sid, frag.length, .headers es eh none frag⟩

def contFrame (sid : Nat) (eh : Bool) (frag : Bytes) : Frame.Frame :=
  ⟨Gen.c_FrameContinuation, (if eh then 4 else 0), sid, frag.length, .continuation eh frag⟩

theorem hdr_es (sid : Nat) (es eh : Bool) (frag : Bytes) :
    Frame.hasFlag (hdrFrame sid es eh frag).flags Gen.c_FlagEndStream = es := by
  cases es <;> cases eh <;> simp [hdrFrame, Frame.hasFlag, Gen.c_FlagEndStream]

theorem hdr_eh (sid : Nat) (es eh : Bool) (frag : Bytes) :
    Frame.hasFlag (hdrFrame sid es eh frag).flags Gen.c_FlagEndHeaders = eh := by
  cases es <;> cases eh <;> simp [hdrFrame, Frame.hasFlag, Gen.c_FlagEndHeaders]

theorem cont_eh (sid : Nat) (eh : Bool) (frag : Bytes) :
    Frame.hasFlag (contFrame sid eh frag).flags Gen.c_FlagEndHeaders = eh := by
  cases eh <;> simp [contFrame, Frame.hasFlag, Gen.c_FlagEndHeaders]

/-- the request on stream `sid` is still waited on -/
structure Live (c : Conn) (sid : Nat) (tag : String) : Prop where
  queued : lookupA c.reqQueued sid = some tag
  held : ∃ r, getReq c tag = some r ∧ r.done = false

theorem settle_none_false (c : Conn) (tag : String) (sid : Nat) : (settle c tag sid none false).1 = c := by
  unfold settle
  cases getReq c tag <;> rfl

/-- what `readStream` does with the decoded block `blk` -/
def decodeBlock (c : Conn) (tag : String) (r : Req) (blk : Bytes) : Conn × Option Err :=
  let (st, r', e) := readHeader (blk.length + 1) c.dec r false false 0 blk
  (updReq { c with dec := st, hdrBlock := [] } tag fun _ => r', e)

theorem readStream_hdr (c : Conn) (tag : String) (r : Req) (sid : Nat) (es eh : Bool) (frag : Bytes) :
    readStream c tag r (hdrFrame sid es eh frag) =
      if eh then decodeBlock c tag r frag else ({ c with hdrBlock := frag }, none) := by
  cases es <;> cases eh <;>
    simp [readStream, hdrFrame, decodeBlock, Frame.hasFlag, Gen.c_FlagEndHeaders, Gen.c_FrameHeaders]

theorem readStream_cont (c : Conn) (tag : String) (r : Req) (sid : Nat) (eh : Bool) (frag : Bytes) :
    readStream c tag r (contFrame sid eh frag) =
      if eh then decodeBlock c tag r (c.hdrBlock ++ frag) else ({ c with hdrBlock := c.hdrBlock ++ frag }, none) := by
  cases eh <;>
    simp [readStream, contFrame, decodeBlock, Frame.hasFlag, Gen.c_FlagEndHeaders, Gen.c_FrameHeaders, Gen.c_FrameContinuation]

theorem prepare_hdr (c : Conn) (sid : Nat) (es eh : Bool) (frag : Bytes) (h0 : sid ≠ 0) :
    prepare c (hdrFrame sid es eh frag) =
      ({ c with hdrEndStream := if eh then 0 else if es then sid else 0 }, eh && es) := by
  have ht : ((hdrFrame sid es eh frag).typ == Gen.c_FrameHeaders) = true := rfl
  have hs : (hdrFrame sid es eh frag).stream = sid := rfl
  have hd : ((hdrFrame sid es eh frag).typ == Gen.c_FrameData) = false := rfl
  have h0' : (0 == sid) = false := by simpa using fun h : 0 = sid => h0 h.symm
  simp only [prepare, noteHeaders, endsBlock, endsStream, ht, hs, hd, hdr_es, hdr_eh, Bool.true_or, Bool.true_and, if_true,
    Bool.and_false]
  cases eh <;> cases es <;> simp [h0']

theorem prepare_cont (c : Conn) (sid : Nat) (eh : Bool) (frag : Bytes) :
    prepare c (contFrame sid eh frag) =
      ({ c with hdrEndStream := if eh then 0 else c.hdrEndStream }, eh && c.hdrEndStream == sid) := by
  have ht : ((contFrame sid eh frag).typ == Gen.c_FrameHeaders) = false := rfl
  have ht2 : ((contFrame sid eh frag).typ == Gen.c_FrameContinuation) = true := rfl
  have hs : (contFrame sid eh frag).stream = sid := rfl
  have hd : ((contFrame sid eh frag).typ == Gen.c_FrameData) = false := rfl
  simp only [prepare, noteHeaders, endsBlock, endsStream, ht, ht2, hs, hd, cont_eh, Bool.or_true, Bool.true_and, Bool.false_eq_true,
    if_false, Bool.and_false]
  cases eh <;> simp

/-- `dispatch` of a HEADERS frame on a stream that is waited on -/
theorem dispatch_hdr (c : Conn) (sid : Nat) (tag : String) (r : Req) (es eh : Bool) (frag : Bytes) (h0 : sid ≠ 0)
    (hq : lookupA c.reqQueued sid = some tag) (hr : getReq c tag = some r) (hd : r.done = false) :
    dispatch c (hdrFrame sid es eh frag) =
      settle (readStream { c with hdrEndStream := if eh then 0 else if es then sid else 0 } tag r (hdrFrame sid es eh frag)).1 tag sid
        (readStream { c with hdrEndStream := if eh then 0 else if es then sid else 0 } tag r (hdrFrame sid es eh frag)).2 (eh && es) := by
  have hs : (hdrFrame sid es eh frag).stream = sid := rfl
  simp only [dispatch, hs, hq, hr, hd, Bool.false_eq_true, if_false, prepare_hdr c sid es eh frag h0]

/-- `dispatch` of a CONTINUATION frame on a stream that is waited on -/
theorem dispatch_cont (c : Conn) (sid : Nat) (tag : String) (r : Req) (eh : Bool) (frag : Bytes)
    (hq : lookupA c.reqQueued sid = some tag) (hr : getReq c tag = some r) (hd : r.done = false) :
    dispatch c (contFrame sid eh frag) =
      settle (readStream { c with hdrEndStream := if eh then 0 else c.hdrEndStream } tag r (contFrame sid eh frag)).1 tag sid
        (readStream { c with hdrEndStream := if eh then 0 else c.hdrEndStream } tag r (contFrame sid eh frag)).2
        (eh && c.hdrEndStream == sid) := by
  have hs : (contFrame sid eh frag).stream = sid := rfl
  simp only [dispatch, hs, hq, hr, hd, Bool.false_eq_true, if_false, prepare_cont]

/-- a HEADERS frame without END_HEADERS opens a block: nothing is decoded, the fragment is kept and so is the stream
END_STREAM is for -/
theorem dispatch_open_block (c : Conn) (sid : Nat) (tag : String) (es : Bool) (frag : Bytes) (h0 : sid ≠ 0)
    (h : Live c sid tag) :
    (dispatch c (hdrFrame sid es false frag)).1 = { c with hdrEndStream := if es then sid else 0, hdrBlock := frag } := by
  obtain ⟨hq, r, hr, hd⟩ := h
  rw [dispatch_hdr c sid tag r es false frag h0 hq hr hd, readStream_hdr]
  simp only [Bool.false_eq_true, if_false, Bool.false_and, settle_none_false]

/-- a CONTINUATION frame without END_HEADERS adds its fragment -/
theorem dispatch_more_block (c : Conn) (sid : Nat) (tag : String) (frag : Bytes) (h : Live c sid tag) :
    (dispatch c (contFrame sid false frag)).1 = { c with hdrBlock := c.hdrBlock ++ frag } := by
  obtain ⟨hq, r, hr, hd⟩ := h
  rw [dispatch_cont c sid tag r false frag hq hr hd, readStream_cont]
  simp only [Bool.false_eq_true, if_false, Bool.false_and, settle_none_false]

theorem live_of_eq {c c' : Conn} {sid : Nat} {tag : String} (h : Live c sid tag)
    (h1 : c'.reqQueued = c.reqQueued) (h2 : c'.reqs = c.reqs) : Live c' sid tag := by
  obtain ⟨hq, r, hr, hd⟩ := h
  exact ⟨by rw [h1]; exact hq, r, by simpa [getReq, h2] using hr, hd⟩

/-- the CONTINUATION frame that closes a block does exactly what a single HEADERS frame with the whole block does -/
theorem dispatch_close_block (c : Conn) (sid : Nat) (tag : String) (es : Bool) (b frag : Bytes) (h0 : sid ≠ 0)
    (h : Live c sid tag) :
    dispatch { c with hdrEndStream := if es then sid else 0, hdrBlock := b } (contFrame sid true frag) =
      dispatch c (hdrFrame sid es true (b ++ frag)) := by
  have h' : Live { c with hdrEndStream := if es then sid else 0, hdrBlock := b } sid tag := live_of_eq h rfl rfl
  obtain ⟨hq, r, hr, hd⟩ := h
  obtain ⟨hq', r', hr', hd'⟩ := h'
  have : r' = r := by
    have : getReq { c with hdrEndStream := if es then sid else 0, hdrBlock := b } tag = getReq c tag := rfl
    rw [this, hr] at hr'; exact (Option.some.inj hr').symm
  subst this
  rw [dispatch_cont _ sid tag r' true frag hq' hr' hd', dispatch_hdr c sid tag r' es true (b ++ frag) h0 hq hr hd,
    readStream_cont, readStream_hdr]
  have he : ((if es = true then sid else 0) == sid) = es := by
    cases es
    · simpa using fun h : 0 = sid => h0 h.symm
    · simp
  simp only [if_true, Bool.true_and, decodeBlock, he]

/-- the read loop's state after a HEADERS frame and any number of CONTINUATION frames, none with END_HEADERS -/
def afterFragments (c : Conn) (sid : Nat) : List Bytes → Conn
  | [] => c
  | frag :: rest => afterFragments (dispatch c (contFrame sid false frag)).1 sid rest

theorem afterFragments_eq (sid : Nat) (tag : String) (frags : List Bytes) :
    ∀ c, Live c sid tag → afterFragments c sid frags = { c with hdrBlock := c.hdrBlock ++ frags.flatten } := by
  induction frags with
  | nil => intro c _; simp [afterFragments]
  | cons f fs ih =>
    intro c h
    simp only [afterFragments]
    rw [dispatch_more_block c sid tag f h, ih { c with hdrBlock := c.hdrBlock ++ f } (live_of_eq h rfl rfl)]
    simp

/-- **split_invariance**: a response header block cut into a HEADERS frame and any number of CONTINUATION frames, at
any octets (in the middle of a field included), leaves the connection (the request, the HPACK decoding context,
everything) in exactly the state in which the block in one HEADERS frame leaves it, and gives the read loop the same
verdict -/
theorem split_invariance (c : Conn) (sid : Nat) (tag : String) (es : Bool) (first : Bytes) (middle : List Bytes)
    (last : Bytes) (h0 : sid ≠ 0) (h : Live c sid tag) :
    dispatch (afterFragments (dispatch c (hdrFrame sid es false first)).1 sid middle) (contFrame sid true last) =
      dispatch c (hdrFrame sid es true (first ++ middle.flatten ++ last)) := by
  rw [dispatch_open_block c sid tag es first h0 h,
    afterFragments_eq sid tag middle { c with hdrEndStream := if es then sid else 0, hdrBlock := first } (live_of_eq h rfl rfl)]
  exact dispatch_close_block c sid tag es (first ++ middle.flatten) last h0 h

/-- END_STREAM on a HEADERS frame ends the stream it was sent on and no other: a CONTINUATION frame with END_HEADERS on a
stream for which no block ending the stream is open never ends that stream (it did between the first version of the
repair of F36 and this one: the flag of an earlier block on another stream was still around) -/
theorem stray_continuation_does_not_end (c : Conn) (sid : Nat) (frag : Bytes) (h : c.hdrEndStream ≠ sid) :
    (prepare c (contFrame sid true frag)).2 = false := by
  rw [prepare_cont]
  simpa using h

/-- and once a block is complete nothing of its END_STREAM is left -/
theorem end_stream_spent (c : Conn) (f : Frame.Frame) (h : endsBlock f = true) : (prepare c f).1.hdrEndStream = 0 := by
  simp [prepare, h]


/-! ## the statement that failed before the repair of F36 -/

theorem lookupA_eraseA {α} (l : List (Nat × α)) (k : Nat) : lookupA (eraseA l k) k = none := by
  simp [lookupA, eraseA]

/-- full strength: wherever a header block is cut into HEADERS + CONTINUATION, the request ends up as if
the block had arrived in one frame (with `no_cross_delivery`: the property's "fragmented at any byte") -/
def C02_full : Prop :=
  ∀ (c : Conn) (sid : Nat) (tag : String) (block : Bytes) (k : Nat) (es : Bool),
    sid ≠ 0 → lookupA c.reqQueued sid = some tag → k ≤ block.length →
    getReq (dispatch (dispatch c (hdrFrame sid es false (block.take k))).1 (contFrame sid true (block.drop k))).1 tag =
    getReq (dispatch c (hdrFrame sid es true block)).1 tag

/-- a frame for a stream nobody waits on, or whose request was taken back, changes no request -/
theorem dispatch_gone_reqs (c : Conn) (f : Frame.Frame)
    (h : lookupA c.reqQueued f.stream = none ∨
      ∃ tag, lookupA c.reqQueued f.stream = some tag ∧
        (getReq c tag = none ∨ ∃ r, getReq c tag = some r ∧ r.done = true)) :
    (dispatch c f).1.reqs = c.reqs ∧
    ((dispatch c f).1.reqQueued = c.reqQueued ∨ (dispatch c f).1.reqQueued = eraseA c.reqQueued f.stream) := by
  obtain ⟨skd, skb, ske, hsk⟩ := skipHeaders_shape c f
  rcases dispatch_cases c f with e | ⟨_, _, _, _, _, e⟩ | ⟨tag', r', hq', hr', hd', _⟩
  · rw [e, hsk]; exact ⟨rfl, .inl rfl⟩
  · rw [e, hsk]; exact ⟨rfl, .inr rfl⟩
  · -- the frame's stream is waited on: none of the alternatives of `h` holds
    rcases h with hq | ⟨tag, hq, hn | ⟨r, hr, hd⟩⟩ <;> rw [hq] at hq' <;> cases hq'
    · rw [hn] at hr'; cases hr'
    · rw [hr] at hr'; cases hr'; rw [hd] at hd'; cases hd'

theorem C02_full_holds : C02_full := by
  intro c sid tag block k es h0 hq _
  have hs1 : ∀ eh frag, (hdrFrame sid es eh frag).stream = sid := fun _ _ => rfl
  have hs2 : ∀ eh frag, (contFrame sid eh frag).stream = sid := fun _ _ => rfl
  have gone : (getReq c tag = none ∨ ∃ r, getReq c tag = some r ∧ r.done = true) →
      getReq (dispatch (dispatch c (hdrFrame sid es false (block.take k))).1 (contFrame sid true (block.drop k))).1 tag =
      getReq (dispatch c (hdrFrame sid es true block)).1 tag := by
    intro hg
    have g1 := dispatch_gone_reqs c (hdrFrame sid es false (block.take k)) (.inr ⟨tag, by rw [hs1]; exact hq, hg⟩)
    have g3 := dispatch_gone_reqs c (hdrFrame sid es true block) (.inr ⟨tag, by rw [hs1]; exact hq, hg⟩)
    have hgr : ∀ c' : Conn, c'.reqs = c.reqs → getReq c' tag = getReq c tag := fun c' e => by simp only [getReq, e]
    have g2 : (dispatch (dispatch c (hdrFrame sid es false (block.take k))).1 (contFrame sid true (block.drop k))).1.reqs = c.reqs := by
      rcases g1.2 with e | e
      · refine (dispatch_gone_reqs _ _ (.inr ⟨tag, by rw [hs2, e]; exact hq, ?_⟩)).1.trans g1.1
        rw [hgr _ g1.1]; exact hg
      · refine (dispatch_gone_reqs _ _ (.inl ?_)).1.trans g1.1
        rw [hs2, e, hs1]; exact lookupA_eraseA _ _
    rw [hgr _ g2, hgr _ g3.1]
  cases hr : getReq c tag with
  | none => exact gone (.inl hr)
  | some r =>
    cases hd : r.done with
    | true => exact gone (.inr ⟨r, hr, hd⟩)
    | false =>
      have h : Live c sid tag := ⟨hq, r, hr, hd⟩
      have := split_invariance c sid tag es (block.take k) [] (block.drop k) h0 h
      simp only [afterFragments, List.flatten_nil, List.append_nil, List.take_append_drop] at this
      rw [this]

def cF36 : Conn := { reqs := [{ tag := "a", sid := 1, hasConn := true }], reqQueued := [(1, "a")], nextID := 3, openStreams := 1 }

/-- `:status: 200`, then the literal `x-a: b` -/
def blockF36 : Bytes := [0x88, 0x40, 0x03, 0x78, 0x2d, 0x61, 0x01, 0x62]

/-- in one frame the block is fine … -/
theorem F36_whole_ok :
    ((getReq (dispatch cF36 (hdrFrame 1 true true blockF36)).1 "a").map fun r => (r.errBuf, r.status, r.hdrs)) =
      some (some .ok, 200, [([0x78, 0x2d, 0x61], [0x62])]) := by
  decide

/-- … and so it is cut after three octets, in the middle of the field `x-a: b` (the input on which the request used to
fail with the decoder's error): non-vacuity of `split_invariance`, and the regression example of F36 -/
theorem F36_regression :
    ((getReq (dispatch (dispatch cF36 (hdrFrame 1 true false (blockF36.take 3))).1 (contFrame 1 true (blockF36.drop 3))).1 "a").map
      fun r => (r.errBuf, r.status, r.hdrs)) = some (some .ok, 200, [([0x78, 0x2d, 0x61], [0x62])]) := by
  decide

example : Live cF36 1 "a" := ⟨by decide, _, rfl, rfl⟩

/-! ## dynamic table size updates in a response block -/

/-- **a dynamic table size update behind a field of the block is refused**, and the decoder's table is left as it was:
`readHeader` sees the whole block and tells the decoder how many fields it has decoded (RFC 7541 4.2) -/
theorem update_after_field_rejected (st : Hpack.DecState) (nf c : Nat) (rest : Bytes) (n : Nat) (r : Bytes)
    (hnf : nf > 0) (hc : 32 ≤ c ∧ c < 64) (hi : Hpack.readInt 5 (c :: rest) = .ok n r) :
    nextField st nf (c :: rest) = .err st := by
  have h1 : ¬ c ≥ 128 := by omega
  have h2 : ¬ c ≥ 64 := by omega
  have h3 : c ≥ 32 := by omega
  have hn : Hpack.Dec.next st true nf (c :: rest) = .err := by
    simp [Hpack.Dec.next, Hpack.nextFuel, h1, h2, h3, hi, hnf]
  have hs : Hpack.Dec.skipUpdates st true nf (c :: rest) = (st, c :: rest) := by
    simp [Hpack.Dec.skipUpdates, Hpack.skipFuel, hc.1, hc.2, hi, hnf]
  have hm : indexMiss st (c :: rest) = false := by
    simp [indexMiss, h1, h2, h3]
  simp only [nextField, hn, hs, hm]
  rfl

/-- so the request ends with the decoder's error -/
theorem block_with_late_update_fails (fuel : Nat) (st : Hpack.DecState) (q : Req) (rs ss : Bool) (nf c : Nat) (rest : Bytes)
    (n : Nat) (r : Bytes) (hnf : nf > 0) (hc : 32 ≤ c ∧ c < 64) (hi : Hpack.readInt 5 (c :: rest) = .ok n r) :
    readHeader (fuel + 1) st q rs ss nf (c :: rest) = (st, q, some .hpack) := by
  simp [readHeader, update_after_field_rejected st nf c rest n r hnf hc hi]

/-- a dynamic table size update behind a field is a decoding error … -/
example : (readHeader 3 {} { tag := "a" } false false 0 [0x88, 0x20]).2.2 = some .hpack := by decide

/-- … in front of the first field it is in its place … -/
example : (readHeader 3 {} { tag := "a" } false false 0 [0x20, 0x88]).2.2 = none := by decide

/-- … and a block that is a size update and nothing else (a trailer block can be) is no error -/
example : (readHeader 3 {} { tag := "a" } false false 0 [0x20]).2.2 = none := by decide

/-- blocks in a single frame are decoded whole by construction of `readHeader` -/
theorem single_frame_block_decoded_whole (c : Conn) (tag : String) (r : Req) (sid : Nat) (es : Bool) (block : Bytes) :
    (readStream c tag r (hdrFrame sid es true block)).2 = (readHeader (block.length + 1) c.dec r false false 0 block).2.2 := by
  rw [readStream_hdr]; simp [decodeBlock]

/-! ## the FULL serial model, every run

`ids_fresh_odd_increasing` and `no_cross_delivery` above
are about one call of `writeRequest` / `dispatch`; here: every run of `H2.Client.step` from the connection the driver
creates (`Init`), and whole `bytes` events. Proofs: `H2/Proofs/ClientRunHdr.lean`, `ClientRunIds.lean`. -/

section FullModel
open H2.Client

/-- **Full.stream_ids_increase**: in any run, the stream identifiers of the frames that open a stream (`runIds`: HEADERS
frames with END_HEADERS, `.headers`, or without, `.hfrag`; CONTINUATION frames open nothing), in the order written, are strictly increasing and odd; each is below the `nextID` the connection ends with, which is odd as well.
(Each is the `nextID` held just before its step and that step moves `nextID` up by 2: `Full.headers_carry_nextID`.) -/
theorem Full.stream_ids_increase (c : Conn) (h : Init c) (evs : List Event) :
    (runIds (run c evs).2).Pairwise (· < ·) ∧
    (∀ i ∈ runIds (run c evs).2, i % 2 = 1 ∧ 1 ≤ i ∧ i < (run c evs).1.nextID) ∧ (run c evs).1.nextID % 2 = 1 := by
  obtain ⟨a, b, _, d⟩ := run_ids evs c (init_hinv h) (by rw [h.nextID])
  refine ⟨a, ?_, d⟩
  intro i hi
  obtain ⟨x, y, z⟩ := b i hi
  rw [h.nextID] at x
  exact ⟨y, x, z⟩

/-- **Full.headers_carry_nextID**: the step after any prefix of a run writes no stream-opening frame and moves `nextID` by 0 or 2, or
writes exactly one (`.headers` or `.hfrag`), on the `nextID` held before the step, and moves `nextID` up by 2 -/
theorem Full.headers_carry_nextID (c : Conn) (h : Init c) (pre : List Event) (e : Event) :
    (outIds (step (run c pre).1 e).2 = [] ∧
      ((step (run c pre).1 e).1.nextID = (run c pre).1.nextID ∨ (step (run c pre).1 e).1.nextID = (run c pre).1.nextID + 2)) ∨
    (outIds (step (run c pre).1 e).2 = [(run c pre).1.nextID] ∧ (step (run c pre).1 e).1.nextID = (run c pre).1.nextID + 2) :=
  step_ids _ (run_hinv (init_hinv h) pre) e

/-- **Full.frame_touches_its_stream_only**: in ANY state, a frame on stream `sid ≠ 0` leaves alone the request of every tag
that is not registered under `sid`; the one exception is a connection that has had GOAWAY(last > 0), where the requests
waiting on streams above `last` are failed after every frame (C11) -/
theorem Full.frame_touches_its_stream_only (c : Conn) (f : Frame.Frame) (hs : f.stream ≠ 0) (t : String)
    (h1 : lookupA c.reqQueued f.stream ≠ some t)
    (h2 : c.stateClosed = true → ∀ s, (s, t) ∈ c.reqQueued → s ≤ c.closeRef) :
    getReq (rdFrame c f).1 t = getReq c t :=
  rdFrame_touches_only c f hs t h1 h2

/-- **Full.bytes_touch_their_streams_only**: in any run, a `bytes` event whose octets are complete frames on streams that
are not registered for `t` leaves the request `t` exactly as it was (result, status, headers, body), provided the step
does not end the connection -/
theorem Full.bytes_touch_their_streams_only (c : Conn) (h : Init c) (pre : List Event) (b : Bytes) (t : String)
    (hf : ForeignTo (run c pre).1 t (bytesSplit (run c pre).1 b).1)
    (h2 : (run c pre).1.stateClosed = true → ∀ s, (s, t) ∈ (run c pre).1.reqQueued → s ≤ (run c pre).1.closeRef)
    (hlive : ∃ fs, (step (run c pre).1 (.bytes b)).2 = .frames fs) :
    getReq (step (run c pre).1 (.bytes b)).1 t = getReq (run c pre).1 t :=
  step_bytes_touches_only _ (run_invariant (init_inv h) pre) b t hf h2 hlive

/-! ### non-vacuity: two requests, the response to the first -/

def fullReq (tag : String) : ReqSpec :=
  { tag := tag, method := [71, 69, 84], scheme := [104, 116, 116, 112, 115], host := [104], path := [47], ua := [117],
    hdrs := [], body := .none }

/-- HEADERS on stream 1, END_STREAM | END_HEADERS, `:status 200` -/
def fullResp : List Nat := [0, 0, 1, 1, 5, 0, 0, 0, 1, 0x88]

def fullRun : List Event := [.req (fullReq "a"), .req (fullReq "b"), .bytes fullResp, .req (fullReq "c")]

/-- three HEADERS frames, on streams 1, 3, 5; `nextID` ends at 7 -/
example : runIds (run {} fullRun).2 = [1, 3, 5] ∧ (run {} fullRun).1.nextID = 7 := by decide +kernel

/-- the hypotheses of `Full.bytes_touch_their_streams_only` hold for "b" and the response on stream 1, which does change "a" -/
example : ForeignTo (run {} (fullRun.take 2)).1 "b" (bytesSplit (run {} (fullRun.take 2)).1 fullResp).1 := by
  refine ⟨by decide +kernel, ?_, trivial⟩
  intro s hm
  have : (run {} (fullRun.take 2)).1.reqQueued = [(1, "a"), (3, "b")] := by decide +kernel
  rw [this] at hm
  have : (match (bytesSplit (run {} (fullRun.take 2)).1 fullResp).1 with | [.frame f] => f.stream | _ => 0) = 1 := by
    decide +kernel
  simp only [List.mem_cons, Prod.mk.injEq, List.mem_nil_iff, or_false] at hm
  rcases hm with ⟨_, hm⟩ | ⟨rfl, _⟩
  · exact absurd hm (by decide)
  · decide +kernel

example : (getReq (run {} (fullRun.take 3)).1 "a").map (·.errBuf) = some (some .ok) ∧
    (getReq (run {} (fullRun.take 3)).1 "b").map (·.errBuf) = some none ∧
    (run {} (fullRun.take 2)).1.stateClosed = false := by decide +kernel

end FullModel

/-! ## header blocks for streams nobody waits on (finding F85, repaired): they still go through the HPACK decoder

`Conn.dispatch` used to drop such a block undecoded (the request had timed out, been cancelled or finished): the entries
the block adds to the dynamic table were lost and every later response, on any stream, was decoded against a table that
was out of step with the server's. `skipHeaders` now runs the block through the decoder and drops the fields. -/

section Skipped
open H2.Client

/-- **skip_agrees_with_read**: on a block that `readHeader` accepts (no decoding error, no malformed field), `skipFields`
leaves the decoder in exactly the state `readHeader` leaves it in: dropping a response keeps the compression context where
delivering it would have put it -/
theorem skip_agrees_with_read (fuel : Nat) : ∀ (st : Hpack.DecState) (r : H2.Client.Req) (rs ss : Bool) (nf : Nat) (b : Bytes)
    (st' : Hpack.DecState) (r' : H2.Client.Req), readHeader fuel st r rs ss nf b = (st', r', none) →
    skipFields fuel st nf b = st' := by
  induction fuel with
  | zero => intro st r rs ss nf b st' r' h; simp [readHeader] at h
  | succ k ih =>
    intro st r rs ss nf b st' r' h
    simp only [readHeader] at h
    simp only [skipFields]
    split
    · rename_i he; simp only [he, if_true, Prod.mk.injEq] at h; exact h.1
    · rename_i he
      simp only [he, Bool.false_eq_true, if_false] at h
      cases hn : nextField st nf b with
      | idxMiss s1 => rw [hn] at h; simp at h
      | err s1 => rw [hn] at h; simp at h
      | done s1 => rw [hn] at h; simp only [Prod.mk.injEq] at h; exact h.1
      | field s1 k' v rest =>
        rw [hn] at h
        simp only at h ⊢
        cases hf : fieldStep r rs ss k' v with
        | none => rw [hf] at h; simp at h
        | some x =>
          obtain ⟨r1, rs1, ss1⟩ := x
          rw [hf] at h
          exact ih s1 r1 rs1 ss1 (nf + 1) rest st' r' h

/-- … in the form the read loop uses it: a whole response block, decoded from field 0 -/
theorem skipped_block_keeps_context (st : Hpack.DecState) (r r' : H2.Client.Req) (st' : Hpack.DecState) (blk : Bytes)
    (h : readHeader (blk.length + 1) st r false false 0 blk = (st', r', none)) :
    skipFields (blk.length + 1) st 0 blk = st' :=
  skip_agrees_with_read _ st r false false 0 blk st' r' h

theorem skipHeaders_headers (c : Conn) (f : Frame.Frame) (es eh : Bool) (p : Option (Nat × Nat)) (frag : Bytes)
    (hb : f.body = .headers es eh p frag) (ht : f.typ = Gen.c_FrameHeaders) :
    skipHeaders c f = if Frame.hasFlag f.flags Gen.c_FlagEndHeaders then
        { c with dec := skipFields (frag.length + 1) c.dec 0 frag, hdrBlock := [], hdrEndStream := 0 }
      else { c with hdrBlock := frag } := by
  unfold skipHeaders
  rw [hb]
  simp [ht]

theorem skipHeaders_continuation (c : Conn) (f : Frame.Frame) (eh : Bool) (frag : Bytes)
    (hb : f.body = .continuation eh frag) (ht : f.typ = Gen.c_FrameContinuation) :
    skipHeaders c f = if Frame.hasFlag f.flags Gen.c_FlagEndHeaders then
        { c with dec := skipFields ((c.hdrBlock ++ frag).length + 1) c.dec 0 (c.hdrBlock ++ frag), hdrBlock := [],
                 hdrEndStream := 0 }
      else { c with hdrBlock := c.hdrBlock ++ frag } := by
  have hne : (Gen.c_FrameContinuation == Gen.c_FrameHeaders) = false := by decide
  unfold skipHeaders
  rw [hb]
  simp [ht, hne]

/-- **skipped_block_is_decoded**: a complete header block (one HEADERS frame with END_HEADERS) for a stream that is not, or
no longer, in the table of waiting requests leaves the decoder in the state decoding that block leaves it in; no request,
no table entry changes, and no block is left open -/
theorem skipped_block_is_decoded (c : Conn) (sid : Nat) (es : Bool) (blk : Bytes) (hq : lookupA c.reqQueued sid = none) :
    (dispatch c (hdrFrame sid es true blk)).1 =
      { c with dec := skipFields (blk.length + 1) c.dec 0 blk, hdrBlock := [], hdrEndStream := 0 } := by
  have hs : (hdrFrame sid es true blk).stream = sid := rfl
  simp only [dispatch, hs, hq]
  rw [skipHeaders_headers c _ es true none blk rfl rfl, hdr_eh]
  rfl

/-- … and cut into HEADERS + CONTINUATION at any octet it leaves the same state -/
theorem skipped_split_block_is_decoded (c : Conn) (sid : Nat) (es : Bool) (first last : Bytes)
    (hq : lookupA c.reqQueued sid = none) :
    (dispatch (dispatch c (hdrFrame sid es false first)).1 (contFrame sid true last)).1 =
      { c with dec := skipFields ((first ++ last).length + 1) c.dec 0 (first ++ last), hdrBlock := [], hdrEndStream := 0 } := by
  have hs1 : (hdrFrame sid es false first).stream = sid := rfl
  have hs2 : (contFrame sid true last).stream = sid := rfl
  have e1 : (dispatch c (hdrFrame sid es false first)).1 = { c with hdrBlock := first } := by
    simp only [dispatch, hs1, hq]
    rw [skipHeaders_headers c _ es false none first rfl rfl, hdr_eh]
    rfl
  rw [e1]
  simp only [dispatch, hs2, hq]
  rw [skipHeaders_continuation _ _ true last rfl rfl, cont_eh]
  rfl

/-! ### non-vacuity: the witness of F85 in small -/

/-- request "a" waits on stream 3; stream 1 has been given up -/
def cF85 : Conn := { reqs := [{ tag := "a", sid := 3, hasConn := true }], reqQueued := [(3, "a")], nextID := 5, openStreams := 1 }

/-- `:status: 200`, then the literal `x: y` WITH incremental indexing: the server's table gets the entry 62 -/
def blockF85a : Bytes := [0x88, 0x40, 0x01, 0x78, 0x01, 0x79]
/-- `:status: 200`, then the indexed field 62 -/
def blockF85b : Bytes := [0x88, 0xbe]

/-- the response to the stream nobody waits on is skipped, the response on stream 3 refers to the entry it inserted:
"a" gets `x: y` and succeeds (before the repair: an index that does not exist, a connection-level decoding error) -/
example :
    (getReq (dispatch (dispatch cF85 (hdrFrame 1 true true blockF85a)).1 (hdrFrame 3 true true blockF85b)).1 "a").map
      (fun q => (q.errBuf, q.status, q.hdrs)) = some (some .ok, 200, [([0x78], [0x79])]) ∧
    (dispatch cF85 (hdrFrame 1 true true blockF85a)).1.reqs = cF85.reqs := by decide +kernel

/-- the hypothesis of `skipped_block_keeps_context` holds for the first block, and both sides are the table with `x: y` -/
example : (readHeader (blockF85a.length + 1) {} { tag := "z" } false false 0 blockF85a).2.2 = none ∧
    (skipFields (blockF85a.length + 1) {} 0 blockF85a).dyn = [([0x78], [0x79])] := by decide +kernel

end Skipped

end H2.Props.C02
