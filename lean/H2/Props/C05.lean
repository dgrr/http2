import H2.Proofs.Frame
import H2.Proofs.FrameWrite
/-!
# C05 — frames serialise to, and parse from, the RFC 7540 wire layout

* `H2.Frame.readFrame` / `deserialize` (Frame/Model.lean) mirror `ReadFrameFromWithSize` and every `Deserialize`;
  `H2.Frame.write` / `serialize` (Frame/Write.lean) mirror `FrameHeader.WriteTo` and every `Serialize`. Both are run
  against the real code on every check (correspondence).
* `H2.Frame.Spec.parse` / `sendWF` (Frame/Spec.lean) is the RFC 7540 §4.1/§6 grammar, written with the RFC's numbers.

Read side: full theorem. Write side: full theorem too (`write_wf`, `C05_write_full_proved`). F14 (the PUSH_PROMISE
writer wrote no promised stream id, END_HEADERS or padding) is repaired: PUSH_PROMISE frames are covered like every
other type, with every promised id `SetStream` accepts (`write_wf_pushPromise`), and the former witnesses are kept as
regression examples of the repaired layout. F35 (SETTINGS values of zero could not be written) is repaired: SETTINGS
frames are covered in full (`write_wf_settings`) and the former witnesses are kept as regression examples.
-/
namespace H2.Props.C05
open H2 H2.Frame

/-- §4.1 header layout: what `parseHeader` writes for 24/8/8/31-bit fields, the RFC grammar reads back -/
theorem header_roundtrip (len typ flags stream : Nat) (rest : Bytes)
    (hl : len < 2 ^ 24) (ht : typ < 256) (hf : flags < 256) (hs : stream < 2 ^ 31) :
    Spec.parseHdr (header len typ flags stream ++ rest) = some (⟨len, typ, flags, stream⟩, rest) :=
  parseHdr_header len typ flags stream rest hl ht hf hs

/-- … and `parseValues` reads the same fields: a frame with an unknown type shows the header fields alone -/
theorem header_roundtrip_impl (len typ flags stream : Nat) (p : Bytes)
    (hl : len < 2 ^ 24) (ht : 9 < typ) (ht' : typ < 256) (hf : flags < 256) (hs : stream < 2 ^ 31) (hp : p.length = len) :
    readFrame 0 (header len typ flags stream ++ p) = .unknownType typ (9 + len) := by
  have h24 : len / 65536 % 256 * 65536 + len / 256 % 256 * 256 + len % 256 = len := by omega
  have hm : typ % 256 = typ := by omega
  have ht9 : typ > 9 := ht
  simp [readFrame, header, toBe24, toBe32, be24, h24, hm, ht9, Gen.c_FrameContinuation, hp]

/-- **read_ok**: every frame the RFC grammar accepts (any type, any flags octet, padding, priority section, any length
up to the limit, followed by anything) is read by the implementation model to exactly those fields — reserved bits
dropped, padding stripped — consuming exactly `9 + length` octets, and the grammar's remainder is what is left in the
reader. -/
theorem read_ok (max : Nat) (b : Bytes) (hb : WF b) (f : Frame) (rest : Bytes)
    (h : Spec.parse max b = .frame f rest) :
    readFrame max b = .ok f (9 + f.length) ∧ rest = b.drop (9 + f.length) ∧ 9 + f.length ≤ b.length := by
  have := read_refines max b hb
  rw [h] at this
  exact this

/-- reserved bit of the stream identifier is ignored on receipt -/
theorem reserved_ignored (max : Nat) (h0 h1 h2 h3 h4 s0 : Nat) (tl : Bytes) :
    readFrame max (h0 :: h1 :: h2 :: h3 :: h4 :: (s0 + 128) :: tl) = readFrame max (h0 :: h1 :: h2 :: h3 :: h4 :: s0 :: tl) := by
  have e : be32 ((s0 + 128) :: tl) % 2 ^ 31 = be32 (s0 :: tl) % 2 ^ 31 := by
    simp only [be32, List.getD_cons_zero, List.getD_cons_succ]; omega
  simp only [readFrame, List.length_cons, be24, List.getD_cons_zero, List.getD_cons_succ, List.drop_succ_cons, List.drop_zero, e]

/-- the same on the grammar's side, so `read_ok` covers frames with the R bit set -/
theorem reserved_ignored_spec (max : Nat) (h0 h1 h2 h3 h4 s0 : Nat) (tl : Bytes) :
    Spec.parse max (h0 :: h1 :: h2 :: h3 :: h4 :: (s0 + 128) :: tl) = Spec.parse max (h0 :: h1 :: h2 :: h3 :: h4 :: s0 :: tl) := by
  rcases tl with _ | ⟨s1, _ | ⟨s2, _ | ⟨s3, tl⟩⟩⟩
  all_goals try (simp [Spec.parse, Spec.parseHdr]; done)
  have : (s0 + 128) % 128 = s0 % 128 := by omega
  simp [Spec.parse, Spec.parseHdr, Spec.u31, this]

/-- the full write-side statement of the property: every frame value the public API can build, with every pad length
`AddPadding` can draw, is written as exactly one RFC 7540 frame a conforming sender may emit, and the RFC grammar reads
the caller's fields back from it -/
def C05_write_full : Prop :=
  ∀ (stream pad : Nat) (w : WFrame), InRange w → PadOk pad → stream < 2 ^ 31 →
    (serialize 0 pad w).2.length < 2 ^ 24 → Spec.streamOk w.typ stream = true →
    Spec.sendWF (write 0 stream pad w) = true ∧
    ∃ bd, Spec.parse 0 (write 0 stream pad w) =
        .frame ⟨w.typ, (serialize 0 pad w).1, stream, (serialize 0 pad w).2.length, bd⟩ [] ∧
      sameBody bd w.want = true

/-- **write_wf**: every frame value the public API can build — all ten types, PUSH_PROMISE included — with every pad
length `AddPadding` can draw, is written as exactly one RFC 7540 frame a conforming sender may emit, and the RFC grammar
reads the caller's fields back from it -/
theorem write_wf (stream pad : Nat) (w : WFrame) (hr : InRange w) (hp : PadOk pad) (hs : stream < 2 ^ 31)
    (hsz : (serialize 0 pad w).2.length < 2 ^ 24) (hso : Spec.streamOk w.typ stream = true) :
    Spec.sendWF (write 0 stream pad w) = true ∧
    ∃ bd, Spec.parse 0 (write 0 stream pad w) =
        .frame ⟨w.typ, (serialize 0 pad w).1, stream, (serialize 0 pad w).2.length, bd⟩ [] ∧
      sameBody bd w.want = true :=
  ⟨write_sendwf stream pad w hr hs hsz hso, write_parse stream pad w hr hs hsz⟩

theorem C05_write_full_proved : C05_write_full := write_wf

/-- **write_wf for PUSH_PROMISE, spelled out** (F14 repaired): whatever promised id `SetStream` was handed (any uint32),
END_HEADERS on or off, padding off or of any length `AddPadding` draws, any header block fragment — the frame written
is one a conforming sender may emit (reserved bit of the promised id clear, padding zero) and the RFC grammar reads
back the 31-bit promised id, END_HEADERS and exactly the caller's fragment. -/
theorem write_wf_pushPromise (stream pad pr : Nat) (eh : Bool) (h : Bytes) (hpr : pr < 2 ^ 32) (hh : WF h) (hp : PadOk pad)
    (hs : stream < 2 ^ 31) (hs0 : stream ≠ 0) (hsz : (serialize 0 pad (.pushPromise pr eh h)).2.length < 2 ^ 24) :
    Spec.sendWF (write 0 stream pad (.pushPromise pr eh h)) = true ∧
    Spec.parse 0 (write 0 stream pad (.pushPromise pr eh h)) =
      .frame ⟨5, (serialize 0 pad (.pushPromise pr eh h)).1, stream, (serialize 0 pad (.pushPromise pr eh h)).2.length,
              .pushPromise (pr % 2 ^ 31) eh h⟩ [] := by
  obtain ⟨h1, bd, h2, h3⟩ := write_wf stream pad (.pushPromise pr eh h) ⟨hpr, hh⟩ hp hs hsz
    (by simp [WFrame.typ, Gen.c_FramePushPromise, Spec.streamOk, hs0])
  refine ⟨h1, ?_⟩
  cases bd <;> simp [sameBody, WFrame.want] at h3
  obtain ⟨rfl, rfl, rfl⟩ := h3
  exact h2

/-- F14, the recorded witness, as a regression example: a PUSH_PROMISE with a 2-octet header block (it used to be
written as a malformed frame) is written with its promised id in front and parses back to that id and that block … -/
theorem write_pushPromise_regression :
    write 0 1 0 (.pushPromise 2 true [130, 134]) = [0, 0, 6, 5, 4, 0, 0, 0, 1, 0, 0, 0, 2, 130, 134] ∧
    Spec.parse 0 (write 0 1 0 (.pushPromise 2 true [130, 134])) = .frame ⟨5, 4, 1, 6, .pushPromise 2 true [130, 134]⟩ [] ∧
    Spec.sendWF (write 0 1 0 (.pushPromise 2 true [130, 134])) = true := by decide

/-- … and with a longer block (its first four octets used to be read as the promised stream 42370113) the whole
block is the fragment -/
theorem write_pushPromise_regression' :
    Spec.parse 0 (write 0 1 0 (.pushPromise 2 false [130, 134, 132, 65, 138])) =
      .frame ⟨5, 0, 1, 9, .pushPromise 2 false [130, 134, 132, 65, 138]⟩ [] := by decide

/-- the reserved bit of the promised id is never written: an id with bit 31 set goes out as its low 31 bits -/
theorem write_pushPromise_reserved_clear :
    write 0 3 0 (.pushPromise (2 ^ 31 + 7) false []) = [0, 0, 4, 5, 0, 0, 0, 0, 3, 0, 0, 0, 7] ∧
    write 0 3 0 (.pushPromise (2 ^ 32 - 1) false []) = [0, 0, 4, 5, 0, 0, 0, 0, 3, 127, 255, 255, 255] := by decide

/-- padding: pad-length octet, promised id, fragment, that many zero octets; PADDED and END_HEADERS set -/
theorem write_pushPromise_padded :
    write 0 1 9 (.pushPromise 2 true [130]) = [0, 0, 15, 5, 12, 0, 0, 0, 1, 9, 0, 0, 0, 2, 130, 0, 0, 0, 0, 0, 0, 0, 0, 0] ∧
    Spec.parse 0 (write 0 1 9 (.pushPromise 2 true [130])) = .frame ⟨5, 12, 1, 15, .pushPromise 2 true [130]⟩ [] := by decide

/-- a SETTINGS payload is at most six pairs -/
theorem settings_payload_le (pad : Nat) (ack push : Bool) (ts ms ws fs hs : Nat) :
    (serialize 0 pad (.settings ack ts push ms ws fs hs)).2.length ≤ 36 := by
  cases ack
  · exact settingsEncode_length_le _
  · simp [serialize]

/-- **write_wf for SETTINGS, in full** (F35 repaired): every SETTINGS frame the setters can build — any table size,
stream limit and window from 0 up, push on or off, acknowledgement or not — is written as one frame a conforming sender
may emit and the RFC grammar reads back exactly the values the caller set, zero included. -/
theorem write_wf_settings (pad : Nat) (ack push : Bool) (ts ms ws fs hs : Nat)
    (hr : InRange (.settings ack ts push ms ws fs hs)) (hp : PadOk pad) :
    Spec.sendWF (write 0 0 pad (.settings ack ts push ms ws fs hs)) = true ∧
    ∃ bd, Spec.parse 0 (write 0 0 pad (.settings ack ts push ms ws fs hs)) =
        .frame ⟨4, (serialize 0 pad (.settings ack ts push ms ws fs hs)).1, 0,
                (serialize 0 pad (.settings ack ts push ms ws fs hs)).2.length, bd⟩ [] ∧
      sameBody bd (WFrame.settings ack ts push ms ws fs hs).want = true :=
  write_wf 0 pad _ hr hp (by omega)
    (Nat.lt_of_le_of_lt (settings_payload_le pad ack push ts ms ws fs hs) (by omega))
    (by simp [WFrame.typ, Gen.c_FrameSettings, Spec.streamOk])

/-- F35, the recorded witness, as a regression example: HEADER_TABLE_SIZE = 0 is written (with ENABLE_PUSH = 0 beside
it) and a reader is left with a table of 0 octets, not the initial 4096 -/
theorem write_settings_zero_regression :
    ∃ sv, Spec.parse 0 (write 0 0 0 (.settings false 0 false 100 65535 16384 0)) = .frame ⟨4, 0, 0, 30, .settings sv⟩ [] ∧
      sv.tableSize = 0 ∧ sv.hasPush = true ∧ sv.enablePush = false ∧
      sameBody (.settings sv) (WFrame.want (.settings false 0 false 100 65535 16384 0)) = true :=
  ⟨Spec.settingsVal false [(1, 0), (2, 0), (3, 100), (4, 65535), (5, 16384)], by decide, by decide, by decide, by decide, by decide⟩

/-- … and MAX_CONCURRENT_STREAMS = 0, INITIAL_WINDOW_SIZE = 0 (second line of known/F35.ops) -/
theorem write_settings_zero_regression' :
    ∃ sv, Spec.parse 0 (write 0 0 0 (.settings false 4096 false 0 0 16384 0)) = .frame ⟨4, 0, 0, 30, .settings sv⟩ [] ∧
      sv.maxStreams = 0 ∧ sv.windowSize = 0 ∧
      sameBody (.settings sv) (WFrame.want (.settings false 4096 false 0 0 16384 0)) = true :=
  ⟨Spec.settingsVal false [(1, 4096), (2, 0), (3, 0), (4, 0), (5, 16384)], by decide, by decide, by decide, by decide⟩

/-- a `Settings` that was never `Reset` and had two setters called (the client's own: `SetMaxWindowSize(1<<20)`,
`SetPush(false)`) announces those two values and none of its untouched zeros -/
theorem encode_unset_zero_left_out :
    settingsEncode { tableSize := 0, maxStreams := 0, windowSize := 1048576, frameSize := 0, headerSize := 0,
                     hasWindowSize := true, hasPush := true } =
      [0, 2, 0, 0, 0, 0, 0, 4, 0, 16, 0, 0] := by decide

/-! non-vacuity -/
example : InRange (.data true [104, 105]) ∧ PadOk 9 ∧ Spec.streamOk (WFrame.data true [104, 105]).typ 1 = true := by
  refine ⟨by unfold InRange; decide, Or.inr ⟨by omega, by omega⟩, by decide⟩
example : InRange (.pushPromise (2 ^ 32 - 1) true [130, 134]) ∧ PadOk 255 ∧
    (serialize 0 255 (.pushPromise (2 ^ 32 - 1) true [130, 134])).2.length < 2 ^ 24 ∧
    Spec.streamOk (WFrame.pushPromise (2 ^ 32 - 1) true [130, 134]).typ 1 = true := by
  refine ⟨⟨by omega, by unfold WF; decide⟩, Or.inr ⟨by omega, by omega⟩, by decide +kernel, by decide⟩
example : write 0 1 9 (.data true [104, 105]) = [0, 0, 12, 0, 9, 0, 0, 0, 1, 9, 104, 105, 0, 0, 0, 0, 0, 0, 0, 0, 0] := by decide
example : Spec.parse 16384 [0, 0, 12, 0, 9, 128, 0, 0, 1, 9, 104, 105, 1, 2, 3, 4, 5, 6, 7, 8, 9, 77] =
    .frame ⟨0, 9, 1, 12, .data true [104, 105]⟩ [77] := by decide
example : InRange (.settings false 0 false 0 0 16384 0) ∧ PadOk 0 := ⟨Or.inr (by omega), Or.inl rfl⟩

end H2.Props.C05
