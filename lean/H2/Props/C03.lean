import H2.Proofs.HpackSplit
/-!
# C03 — the HPACK decoder yields exactly what a conforming encoder encoded

Property theorems only; lemmas are in `H2/Proofs/Hpack{Int,Str,Dec,Split}.lean`.

* model: `Hpack.Dec.next` (mirror of `nextField`), `Hpack.Dec.skipUpdates` (what a cut-short `nextField`
  hands back), `Hpack.readInt`, `Hpack.readString`, `Hpack.Block.feed` (the `previousHeaderBytes` /
  `fieldSeen` loop of `handleHeaderFrame`);
* specification: `Hpack.Spec` — `Repr`, `ser`/`Wire` (RFC 7541 §5–§6), `apply` (§2.3, §4, §6), `step`.
The static table, `maxIndex` and the default table size come from `H2.Gen` (regenerated from `hpack.go`).
-/
namespace H2.Props.C03
open H2 H2.Hpack H2.Hpack.Spec

/-- T1: the static table read from `hpack.go` has the 61 entries `maxIndex` assumes -/
theorem static_table_size : Gen.staticTable.length + 1 = Gen.maxIndex := by decide

/-- T1: … and is the static table of RFC 7541 Appendix A, which the specification uses -/
theorem static_table_rfc : Gen.staticTable = Rfc.staticTable := static_rfc

/-! ## primitive types -/

/-- §5.1 round trip: the canonical encoding of any value below 2^64 on an `n`-bit prefix is read back,
whatever follows it -/
theorem int_roundtrip (n flags v : Nat) (rest : Bytes) (hn : 0 < n) (hf : flags % 2 ^ n = 0) (hv : v < 2 ^ 64) :
    readInt n (encInt n flags v ++ rest) = .ok v rest := by
  rw [← writeInt_eq_encInt]; exact readInt_writeInt n flags v rest hn hf hv
example : readInt 5 (encInt 5 32 1337 ++ [7]) = .ok 1337 [7] := int_roundtrip 5 32 1337 [7] (by decide) (by decide) (by decide)

/-- §5.2 round trip, raw and Huffman coded (the latter by C15) -/
theorem string_roundtrip (s rest : Bytes) (huff : Bool) (hs : WF s) (hl : strLen s huff < 2 ^ 64) :
    readString (encStr s huff ++ rest) = .ok s rest := by
  rw [← writeString_eq_encStr]; exact readString_writeString s rest huff hs hl
example : readString (encStr (strBytes "www.example.com") true ++ [1]) = .ok (strBytes "www.example.com") [1] :=
  string_roundtrip _ [1] true (by decide +kernel) (by decide +kernel)

/-- no integer of 2^64 or more is ever accepted (F03 repaired) … -/
theorem int_bounded (n : Nat) (b : Bytes) (v : Nat) (r : Bytes) (hn : 0 < n) (h8 : n ≤ 8)
    (h : readInt n b = .ok v r) : v < 2 ^ 64 := by
  obtain ⟨_, _, _, hv⟩ := readInt_suffix n b v r h
  exact hv hn h8
/-- … e.g. 127 + 2·2^63 on a 7-bit prefix, which the unrepaired code read as 127 -/
theorem int_overflow_witness : readInt 7 [0xff, 0x80, 0x80, 0x80, 0x80, 0x80, 0x80, 0x80, 0x80, 0x80, 0x02] = .overflow := by
  decide

/-! ## one representation -/

/-- **refinement**: the model of `nextField` is the RFC 7541 step, on every input and every table -/
theorem next_eq_step (st : DecState) (bs : Bool) (fp : Nat) (b : Bytes) :
    Dec.next st bs fp b = Spec.step st bs fp b := Hpack.next_eq_step st bs fp b

/-- **dec_complete**: what a conforming encoder emits for `r` (`Wire r w`: canonical integers, either
string form) is decoded to the RFC meaning `apply` — field and table — whatever follows; a size update
is applied and decoding carries on behind it. -/
theorem dec_complete (st : DecState) (bs : Bool) (fp : Nat) (r : Repr) (w rest : Bytes) (hw : Wire r w)
    (st' : DecState) (out : Option Field) (ha : apply st (if bs then fp else fp + 1) r = some (st', out)) :
    Dec.next st bs fp (w ++ rest) =
      match out with
      | some f => .ok st' (some f) rest
      | none => Dec.next st' bs fp rest := by
  obtain ⟨hwf, rfl⟩ := hw
  rw [Hpack.next_eq_step, step_ser st bs fp r rest hwf st' out ha]
  cases out with
  | some f => rfl
  | none => simp only [Hpack.next_eq_step]

/-- non-vacuity: RFC 7541 C.2.2 (`:path: /sample/path` without indexing, name from static entry 4) and
C.2.1 (`custom-key: custom-header` with incremental indexing) -/
example : Dec.next {} true 0 (ser (.literal .without (.idx 4) [47, 115, 97, 109, 112, 108, 101, 47, 112, 97, 116, 104] false) ++ [0x82]) =
    .ok {} (some ⟨[58, 112, 97, 116, 104], [47, 115, 97, 109, 112, 108, 101, 47, 112, 97, 116, 104], false⟩) [0x82] :=
  dec_complete {} true 0 (.literal .without (.idx 4) [47, 115, 97, 109, 112, 108, 101, 47, 112, 97, 116, 104] false) _ [0x82]
    ⟨⟨by decide, by decide, by decide, by decide⟩, rfl⟩ {}
    (some ⟨[58, 112, 97, 116, 104], [47, 115, 97, 109, 112, 108, 101, 47, 112, 97, 116, 104], false⟩) (by decide)
example : Dec.next {} true 0 (ser (.literal .incremental (.lit [107] false) [118] false)) =
    .ok { dyn := [([107], [118])] } (some ⟨[107], [118], false⟩) [] := by
  have h := dec_complete {} true 0 (.literal .incremental (.lit [107] false) [118] false) _ []
    ⟨⟨by decide, by decide, by decide, by decide⟩, rfl⟩ { dyn := [([107], [118])] } (some ⟨[107], [118], false⟩)
    (by simp [apply, Spec.insert, Spec.evict, tableSize, entrySize, Gen.c_defaultHeaderTableSize])
  simpa using h

/-- **dec_rejects** (index 0 or past the table, for a field or for a literal's name; size update above
the SETTINGS limit, or after a field of the block, in this frame or an earlier one): a well-formed representation without RFC
meaning on the current table is an error, never a field -/
theorem dec_rejects (st : DecState) (bs : Bool) (fp : Nat) (r : Repr) (w rest : Bytes) (hw : Wire r w)
    (ha : apply st (if bs then fp else fp + 1) r = none) : Dec.next st bs fp (w ++ rest) = .err := by
  obtain ⟨hwf, rfl⟩ := hw
  rw [Hpack.next_eq_step]; exact step_ser_reject st bs fp r rest hwf ha
example : Dec.next {} true 0 [0x80] = .err := by decide                    -- index 0
example : Dec.next {} true 0 [0xbe] = .err := by decide                    -- index 62, empty table
example : Dec.next {} true 0 [0x3f, 0xe2, 0x1f] = .err := by decide        -- size update 4097 > 4096
example : Dec.next {} true 1 [0x20] = .err := by decide                    -- size update after a field

/-- rejected too: a string whose Huffman coding is invalid (padding of 8 bits or more, padding with a
zero bit, EOS inside: C15.decode_ok_iff says exactly which) -/
theorem dec_rejects_huffman (b0 : Nat) (rest : Bytes) (n : Nat) (r : Bytes) (hi : readInt 7 (b0 :: rest) = .ok n r)
    (hl : n ≤ r.length) (hh : b0 ≥ 128) (hd : Huffman.decode (r.take n) = none) :
    readString (b0 :: rest) = .err := by
  unfold readString
  have : ¬ r.length < n := by omega
  simp [hi, this, hh, hd]
example : Dec.next {} true 0 [0x00, 0x81, 0xff, 0x00] = .err := by
  -- the name string has eight bits of padding; a literal whose name is rejected is rejected
  have h : readString [0x81, 0xff, 0x00] = .err :=
    dec_rejects_huffman 0x81 [0xff, 0x00] 1 [0xff, 0x00] (by decide) (by decide) (by decide)
      (by rw [Huffman.decode_eq]; decide +kernel)
  have key : ∀ x, readString x = .err → Dec.next {} true 0 (0 :: x) = .err := by
    intro x hx
    simp [Dec.next, nextFuel, readLiteral, readName, hx]
  exact key _ h

/-- **progress**: an `ok` step leaves a suffix of its input and, when it yields a field, has consumed
at least one octet (shared with C16) -/
theorem progress (st : DecState) (bs : Bool) (fp : Nat) (b : Bytes) (st' : DecState) (f : Field) (rest : Bytes)
    (h : Dec.next st bs fp b = .ok st' (some f) rest) : (∃ w, w ≠ [] ∧ b = w ++ rest) ∧ rest.length < b.length := by
  rw [Hpack.next_eq_step] at h
  obtain ⟨w, hb, hw, _⟩ := stepFuel_suffix _ _ _ _ _ _ _ _ h
  exact ⟨⟨w, hw rfl, hb⟩, step_progress _ _ _ _ _ _ _ h⟩

/-- **dec_sound**, full statement: whatever `nextField` accepts is a sequence of size updates and one
field representation, each in a form a decoder must accept (`Wire'`), with that RFC meaning. -/
def dec_sound_full : Prop :=
  ∀ (st : DecState) (bs : Bool) (fp : Nat) (b : Bytes) (st' : DecState) (f : Field) (rest : Bytes),
    Dec.next st bs fp b = .ok st' (some f) rest →
    ∃ (rs : List Repr) (ws : List Bytes), b = ws.flatten ++ rest ∧ WireAll' rs ws ∧
      applyAll st (if bs then fp else fp + 1) rs = some (st', [f])

/-- **dec_sound_partial**: what is proved of it — a field is accepted only where the executable RFC
decoder `Spec.step` (`parse` then `apply`) accepts it, with the same field, table and remaining octets,
and it is a non-empty prefix of the input that was consumed. Missing: that `Spec.parse` accepts only
`Wire'` forms (its converse, `parse_ser`/`dec_complete`, is proved). -/
theorem dec_sound_partial (st : DecState) (bs : Bool) (fp : Nat) (b : Bytes) (st' : DecState) (f : Field) (rest : Bytes)
    (h : Dec.next st bs fp b = .ok st' (some f) rest) :
    Spec.step st bs fp b = .ok st' (some f) rest ∧ ∃ w, w ≠ [] ∧ b = w ++ rest := by
  refine ⟨by rw [← Hpack.next_eq_step]; exact h, (progress st bs fp b st' f rest h).1⟩

/-! ## header blocks -/

/-- a block in one HEADERS frame with END_HEADERS: the loop of `handleHeaderFrame` returns the header
list and table RFC 7541 assigns to the block and fails exactly on the blocks RFC 7541 makes invalid
(unknown index, misplaced or oversized size update, bad Huffman, overflowing integer, truncation); the
stream remembers whether the block had a field. Blocks of size updates only included (F05 repaired). -/
theorem block_whole (dec : DecState) (b : Bytes) (hle : dec.maxSize ≤ dec.limit) :
    match Spec.decodeBlock dec b with
    | some (st', fs) => Block.feed ⟨dec, [], false⟩ false true b = .ok ⟨st', [], !fs.isEmpty⟩ fs
    | none => ∃ fs, Block.feed ⟨dec, [], false⟩ false true b = .err fs := feed_whole dec b false hle
example : Block.feed {} false true [0x82, 0x86] = .ok ⟨{}, [], true⟩
    [⟨[58, 109, 101, 116, 104, 111, 100], [71, 69, 84], false⟩, ⟨[58, 115, 99, 104, 101, 109, 101], [104, 116, 116, 112], false⟩] := by
  decide +kernel
/-- a block that holds a size update and nothing else: no field is handed on (the unrepaired loop handed
on one with an empty name and value) -/
example : Block.feed {} false true [0x20] = .ok ⟨{ maxSize := 0 }, [], false⟩ [] := by decide +kernel

/-- **history_sync**, full statement: over every sequence of blocks the decoder does what the
specification does -/
def history_sync_full : Prop :=
  ∀ (blocks : List Bytes) (dec : DecState), dec.maxSize ≤ dec.limit → decodeBlocks dec blocks = specBlocks dec blocks

/-- **history_sync**: by induction over the blocks — same header lists, same dynamic table after every
block, same verdict, for every history (F05 repaired: blocks of size updates only are no exception) -/
theorem history_sync : history_sync_full := fun blocks dec hle => blocks_sync blocks dec hle
example : decodeBlocks {} [[0x40, 0x01, 0x61, 0x01, 0x62], [0xbe]] =
    some ({ dyn := [([0x61], [0x62])] }, [[⟨[0x61], [0x62], false⟩], [⟨[0x61], [0x62], false⟩]]) := by decide +kernel
/-- the input that failed before the repair: a block holding only a size update, then a block that needs
the table it announced -/
example : decodeBlocks {} [[0x20], [0x3f, 0xe1, 0x1f, 0x40, 0x01, 0x61, 0x01, 0x62]] =
    some ({ dyn := [([0x61], [0x62])] }, [[], [⟨[0x61], [0x62], false⟩]]) := by decide +kernel

/-- frames of one block, in the order sent: agreement of the split delivery and of the delivery in one
frame with the specification -/
def SplitAgrees (dec : DecState) (frames : List Bytes) : Prop :=
  match Spec.decodeBlock dec frames.flatten with
  | some (d, fs) => feedFrames ⟨dec, [], false⟩ true frames [] = .ok ⟨d, [], !fs.isEmpty⟩ fs ∧
      Block.feed ⟨dec, [], false⟩ false true frames.flatten = .ok ⟨d, [], !fs.isEmpty⟩ fs
  | none => (∃ fs, feedFrames ⟨dec, [], false⟩ true frames [] = .err fs) ∧
      (∃ fs, Block.feed ⟨dec, [], false⟩ false true frames.flatten = .err fs)

/-- **split_invariance**, full statement: cutting a header block into HEADERS + CONTINUATION frames at
any octets changes nothing -/
def split_invariance_full : Prop :=
  ∀ (dec : DecState) (frames : List Bytes), frames ≠ [] → dec.maxSize ≤ dec.limit → SplitAgrees dec frames

/-- **split_invariance**: whatever the cuts — any number of frames, empty frames, a cut inside an
integer, a string or a Huffman code, inside, between or right behind the dynamic table size updates a
block may open with (F04/F05 repaired) — the carry-over loop of `handleHeaderFrame` ends with the header
list, table and verdict of the whole block. -/
theorem split_invariance : split_invariance_full := by
  intro dec frames hne hle
  have hg := frames_gen frames dec [] false true 0 [] hne (fun _ => rfl) (fun h => by cases h)
  have hw := feed_whole dec frames.flatten false hle
  unfold SplitAgrees
  have hd := decodeBlock_eq dec frames.flatten hle
  simp only [List.nil_append] at hg
  cases hb : Spec.decodeBlock dec frames.flatten with
  | none =>
    simp only [hb] at hw
    rw [hd] at hb
    refine ⟨?_, hw⟩
    cases hr : feedFrames ⟨dec, [], false⟩ true frames [] with
    | err fs => exact ⟨fs, rfl⟩
    | ok s acc' =>
      simp only [hr] at hg
      obtain ⟨_, _, _, _, hsome⟩ := hg
      rw [hb] at hsome; cases hsome
  | some p =>
    obtain ⟨d, fs⟩ := p
    simp only [hb] at hw
    rw [hd] at hb
    refine ⟨?_, hw⟩
    cases hr : feedFrames ⟨dec, [], false⟩ true frames [] with
    | err e => simp only [hr] at hg; rw [hb] at hg; cases hg
    | ok s acc' =>
      obtain ⟨dec', r, sn'⟩ := s
      simp only [hr] at hg
      obtain ⟨hr0, fs', hacc, hsn, hsome⟩ := hg
      rw [hb] at hsome
      injection hsome with hsome
      injection hsome with h1 h2
      subst h1 h2 hr0
      rw [hacc, hsn, seenAfter_zero]
example : SplitAgrees {} [[0x40, 0x01], [0x61], [], [0x01, 0x62, 0xbe]] :=
  split_invariance {} _ (by simp) (by decide)

/-- the inputs that failed before the repair (F04: `20 40 01 | 61 01 62`, the CONTINUATION was read from
the size update again and rejected; cut inside and right behind the updates likewise) -/
example : feedFrames {} true [[0x20, 0x40, 0x01], [0x61, 0x01, 0x62]] [] =
    .ok ⟨{ maxSize := 0 }, [], true⟩ [⟨[0x61], [0x62], false⟩] := by decide +kernel
example : feedFrames {} true [[0x20, 0x3f], [0xe1], [0x1f], [0x40, 0x01, 0x61, 0x01, 0x62]] [] =
    .ok ⟨{ dyn := [([0x61], [0x62])] }, [], true⟩ [⟨[0x61], [0x62], false⟩] := by decide +kernel

/-- what is carried over between frames never contains an applied size update: the octets a cut-short
`nextField` hands back are a suffix of its input, and the step from there is the step on the input -/
theorem carry_is_rest (st : DecState) (bs : Bool) (fp : Nat) (x y : Bytes) :
    Spec.step st bs fp (x ++ y) =
      Spec.step (Dec.skipUpdates st bs fp x).1 bs fp ((Dec.skipUpdates st bs fp x).2 ++ y) :=
  skip_step bs fp y x.length st x (Nat.le_refl _)
example : Dec.skipUpdates {} true 0 [0x20, 0x3f, 0xe1, 0x1f, 0x40, 0x01] = ({}, [0x40, 0x01]) := by decide +kernel
example : Dec.skipUpdates {} true 0 [0x20, 0x3f, 0xe1] = ({ maxSize := 0 }, [0x3f, 0xe1]) := by decide +kernel

end H2.Props.C03
