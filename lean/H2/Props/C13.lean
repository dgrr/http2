import H2.Proofs.ServerHdrLimitFull
import H2.Proofs.Slots
import H2.Proofs.Limits
/-!
# C13 — server work and memory per connection stay within the configured limits

Theorems about the abstract slot-accounting model `H2.Server.Abs.Slots` (every event sequence, no
bound). `run (init max) evs` is the state after the events `evs`, where an event is: a HEADERS frame
that reaches the concurrency-limit check, a dispatch, a `closeStream`, a handler reporting back.
The driver runs this model in lockstep with the full server model and compares `openStreams`, the
table, the abandoned streams, the ring, the refusals and the dispatches after every step.
-/
namespace H2.Props.C13
open H2.Server.Abs.Slots

/-- **handlers ≤ slots ≤ limit**: after any history, the number of handlers running for the connection
(streams in the table with `handlerRunning`, plus streams closed while their handler runs) is at most
`openStreams`, which is exactly the number of live stream objects (table + abandoned) and is at most
MaxConcurrentStreams. In particular the stream table holds at most MaxConcurrentStreams entries. -/
theorem handlers_le_slots_le_limit (max : Nat) (evs : List Ev) :
    let st := run (init max) evs
    (runningCount st : Int) ≤ st.opn ∧
    st.opn = (st.tbl.length : Int) + st.abandoned.length ∧
    st.opn ≤ (max : Int) ∧
    st.tbl.length ≤ max := by
  intro st
  have h : Cnt st := run_cnt evs _ (init_cnt max)
  have hm : st.max = max := run_max evs _
  have hr := runningCount_le st
  obtain ⟨c, l⟩ := h
  rw [hm] at l
  refine ⟨?_, c, l, ?_⟩ <;> omega

/-- **closed-stream memory**: the ring of recently closed ids never holds more than 256 entries -/
theorem ring_bounded (max : Nat) (evs : List Ev) : (run (init max) evs).ring.length ≤ 256 :=
  run_ring evs _ (by simp [init])

/-- **one table entry per stream id** (only HEADERS creates a stream): no two entries of the stream
table carry the same id, and none is above `lastID`. So `Streams.Del(id)` removes the entry being closed and
never a namesake — the aliasing of finding F17 cannot occur. -/
theorem table_ids_unique (max : Nat) (evs : List Ev) :
    ((run (init max) evs).tbl.map (·.id)).Nodup ∧ ∀ s ∈ (run (init max) evs).tbl, s.id ≤ (run (init max) evs).lastID :=
  let h := run_ids evs _ (init_ids max)
  ⟨h.nodup, h.le⟩

/-- **a cancelled stream keeps its slot until its handler returns**: closing a stream whose handler is
running (peer's RST_STREAM, stream error, timeout) takes it out of the table, moves it to `abandoned`, leaves
`openStreams` as it is and hands nothing to the pool -/
theorem cancelled_keeps_slot (st : St) (s : Strm) (hr : s.running = true) :
    (closeEntry st s).opn = st.opn ∧ (closeEntry st s).pool = st.pool ∧
    (closeEntry st s).abandoned = st.abandoned ++ [s] := by
  simp [closeEntry, hr]

/-- … and an abandoned stream leaves `abandoned` (giving the slot back) only when a handler reports back:
every other event keeps all abandoned streams where they are -/
theorem abandoned_until_done (st : St) (e : Ev) (he : ∀ id fin, e ≠ .done id fin) :
    ∀ a ∈ st.abandoned, a ∈ (step st e).abandoned := by
  intro a ha
  cases e with
  | hdrNew id closing => simp only [step]; repeat' split
                         all_goals exact ha
  | dispatch id => simp only [step]; repeat' split
                   all_goals exact ha
  | close id =>
    simp only [step, closeStream, closeEntry, release]
    repeat' split
    all_goals first | exact ha | exact List.mem_append_left _ ha
  | done id fin => exact absurd rfl (he id fin)

/-- every abandoned stream's handler is still running, and the slot count includes it (this is what bounds
a rapid-reset flood: HEADERS + RST_STREAM buys the peer no extra handler) -/
theorem abandoned_are_running (max : Nat) (evs : List Ev) :
    ∀ a ∈ (run (init max) evs).abandoned, a.running = true ∧ a.uid ∈ (run (init max) evs).handlers := by
  intro a ha
  have h := run_own evs _ (init_own max)
  have hr := h.abRun a ha
  exact ⟨hr, (h.hand a.uid).mpr ⟨a, List.mem_append_right _ ha, rfl, hr⟩⟩

/-! non-vacuity: with a limit of 1, the second request is refused and the counter stays at 1 -/
example : (run (init 1) [.hdrNew 1 false, .dispatch 1, .hdrNew 3 false]).opn = 1 := by decide
example : (run (init 1) [.hdrNew 1 false, .dispatch 1, .hdrNew 3 false]).trace =
    [.dispatched 1 0, .refused 3] := by decide


/-! ### what a handler is given stays within MaxRequestBodySize and MaxHeaderListSize

Theorems about the abstract model `H2.Server.Abs.Limits` (its own lockstep adapter: body octets and
header-list size of every dispatched request, every rejection, and the per-stream counters are compared
with the full model after every step). -/
section Limits
open H2.Server.Abs

/-- **request size limits**: whatever the peer sends, every request handed to a handler carries a body of at
most MaxRequestBodySize octets (when a limit is set) and a header list of at most MaxHeaderListSize
(RFC 7540 §6.5.2 size: Σ name + value + 32; when a limit is set). -/
theorem handler_input_within_limits (maxBody : Nat) (maxHdr : Int) (evs : List Limits.Ev) :
    ∀ id body hdr, Limits.Rec.handed id body hdr ∈ (Limits.run (Limits.init maxBody maxHdr) evs).trace →
      (maxBody > 0 → body ≤ maxBody) ∧ (maxHdr > 0 → (hdr : Int) ≤ maxHdr) := by
  intro id b h hm
  have hi := Limits.run_inv evs _ (Limits.init_inv maxBody maxHdr)
  have hmx := Limits.run_max evs (Limits.init maxBody maxHdr)
  have := hi.handed id b h hm
  rw [hmx.1, hmx.2] at this
  exact this

/-- the body buffered for a stream that has not broken the limit is within it at every moment, not only at
dispatch (this is the per-stream memory bound; with `handlers_le_slots_le_limit`: at most
MaxConcurrentStreams × MaxRequestBodySize octets of request bodies per connection) -/
theorem buffered_body_within_limit (maxBody : Nat) (maxHdr : Int) (evs : List Limits.Ev) :
    ∀ s ∈ (Limits.run (Limits.init maxBody maxHdr) evs).tbl, s.dead = false → maxBody > 0 → s.body ≤ maxBody := by
  intro s hs hd hpos
  have hi := Limits.run_inv evs _ (Limits.init_inv maxBody maxHdr)
  have hmx := Limits.run_max evs (Limits.init maxBody maxHdr)
  have := (hi.tbl s hs hd).1
  rw [hmx.1] at this
  exact this hpos

/-- **held header octets are bounded by the list limit, not by the number of frames**: the octets of a header field
that is not complete yet (carried from frame to frame until the field ends) never exceed `heldFactor` = 4 times
MaxHeaderListSize for any stream, however many CONTINUATION frames the peer sends (F68 repaired) -/
theorem held_header_octets_within_limit (maxBody : Nat) (maxHdr : Int) (evs : List Limits.Ev) (hpos : maxHdr > 0) :
    ∀ s ∈ (Limits.run (Limits.init maxBody maxHdr) evs).tbl, (s.held : Int) ≤ 4 * maxHdr := by
  intro s hs
  have hi := Limits.run_inv evs _ (Limits.init_inv maxBody maxHdr)
  have hmx := Limits.run_max evs (Limits.init maxBody maxHdr)
  have := hi.held s hs
  rw [Limits.HeldOK, hmx.2] at this
  exact this hpos

/-! non-vacuity: limit 100; a tail of 400 octets is carried over, one of 401 is refused and nothing is kept -/
example : ((Limits.run (Limits.init 10 100) [.opened 1, .hdrTail 1 400]).tbl.map (·.held),
           (Limits.run (Limits.init 10 100) [.opened 1, .hdrTail 1 400]).trace) = ([400], []) := by decide
example : ((Limits.run (Limits.init 10 100) [.opened 1, .hdrTail 1 400, .hdrTail 1 401]).tbl.map (·.held),
           (Limits.run (Limits.init 10 100) [.opened 1, .hdrTail 1 400, .hdrTail 1 401]).trace) = ([0], [.fieldTooLarge 1]) := by decide

/-! non-vacuity: limit 10; 6 + 4 octets are accepted and handed over, one more octet is rejected and that
request is never dispatched -/
example : (Limits.run (Limits.init 10 100) [.opened 1, .hdrBytes 1 90, .data 1 6, .data 1 4, .dispatch 1,
    .opened 3, .hdrBytes 3 90, .data 3 10, .data 3 1, .dispatch 3, .opened 5, .hdrBytes 5 101, .dispatch 5]).trace =
    [.handed 1 10 90, .bodyTooLarge 3, .hdrTooLarge 5] := by decide

end Limits

end H2.Props.C13


/-! ### the same bounds, proved directly on the full server model

Everything below is about `H2.Server.step` itself (`H2/Server/Model.lean`, the model the driver runs against the real
`serverConn`), for every configuration `cfg` and every event list `evs` (octets from the peer cut anywhere, handler
completions, disconnects, the idle timer): `run cfg evs` is the state after the events, `runOuts cfg evs` everything
written and dispatched. No abstract model and no lockstep comparison stands between these statements and the model
the correspondence check exercises. Proofs: `H2/Proofs/ServerSlotsFull.lean` and `H2/Proofs/ServerHdrLimitFull.lean`
(invariants of `step`, preserved by every function of the model). -/
namespace H2.Props.C13
section FullModel
open H2.Server

/-- **open_slots_are_table_plus_abandoned** (full model, run level): in every reachable state `openStreams` equals the
number of table entries holding a slot (opened by HEADERS) plus the number of abandoned streams (closed while their
handler runs); all table entries and all abandoned streams do hold a slot; every abandoned stream's handler is still
running. -/
theorem Full.open_slots_are_table_plus_abandoned (cfg : Cfg) (evs : List Event) :
    (run cfg evs).1.openStreams = ((slotHolders (run cfg evs).1.strms + (run cfg evs).1.abandoned.length : Nat) : Int) ∧
    slotHolders (run cfg evs).1.strms = (run cfg evs).1.strms.length ∧
    slotHolders (run cfg evs).1.abandoned = (run cfg evs).1.abandoned.length ∧
    (∀ a ∈ (run cfg evs).1.abandoned, a.handlerRunning = true) :=
  H2.Server.open_slots_are_table_plus_abandoned cfg evs

/-- **open_slots_within_limit** (full model, run level): `0 ≤ openStreams ≤ MaxConcurrentStreams`, so the table and the
abandoned streams together are at most MaxConcurrentStreams stream objects (a HEADERS frame for a new stream is refused
while `openStreams ≥ MaxConcurrentStreams`). -/
theorem Full.open_slots_within_limit (cfg : Cfg) (evs : List Event) :
    0 ≤ (run cfg evs).1.openStreams ∧ (run cfg evs).1.openStreams ≤ (cfg.maxStreams : Int) ∧
    (run cfg evs).1.strms.length + (run cfg evs).1.abandoned.length ≤ cfg.maxStreams :=
  H2.Server.open_slots_within_limit cfg evs

/-- **handlers_within_limit** (full model, run level): handlers running for the connection (table entries with
`handlerRunning`, plus abandoned streams) ≤ `openStreams` ≤ MaxConcurrentStreams. HEADERS + RST_STREAM buys the peer no
extra handler. -/
theorem Full.handlers_within_limit (cfg : Cfg) (evs : List Event) :
    (runningHandlers (run cfg evs).1 : Int) ≤ (run cfg evs).1.openStreams ∧
    (run cfg evs).1.openStreams ≤ (cfg.maxStreams : Int) ∧
    runningHandlers (run cfg evs).1 ≤ cfg.maxStreams :=
  H2.Server.handlers_within_limit cfg evs

/-- **ring_bounded** (full model, run level): the ring of recently closed ids and the list of streams this side reset
never hold more than `closedStrmsCap` = 256 entries each. -/
theorem Full.ring_bounded (cfg : Cfg) (evs : List Event) :
    (run cfg evs).1.ring.length ≤ 256 ∧ (run cfg evs).1.resetByUs.length ≤ 256 :=
  H2.Server.ring_bounded cfg evs

/-- (full model, run level) stream objects are never aliased: table and abandoned streams are pairwise distinct
objects, and the table holds each stream id once — `Streams.Del(id)` removes the stream being closed, and a handler
reporting back for an abandoned stream gives back exactly one slot. -/
theorem Full.stream_objects_distinct (cfg : Cfg) (evs : List Event) :
    (((run cfg evs).1.strms ++ (run cfg evs).1.abandoned).map (·.uid)).Nodup ∧
    ((run cfg evs).1.strms.map (·.id)).Nodup :=
  H2.Server.stream_objects_distinct cfg evs

/-- **dispatched_body_within_limit** (full model, run level): with MaxRequestBodySize set, every dispatch record of
every run carries a body of at most that many octets. -/
theorem Full.dispatched_body_within_limit (cfg : Cfg) (evs : List Event) (sid : Nat) (m p a : Bytes)
    (fields : List (Bytes × Bytes)) (body : Digest)
    (h : Out.dispatch sid m p a fields body ∈ runOuts cfg evs) (hpos : cfg.maxBody > 0) : body.len ≤ cfg.maxBody :=
  H2.Server.dispatched_body_within_limit cfg evs sid m p a fields body h hpos

/-- (full model, run level) … and at every moment the body buffered for any stream of the table is within the limit
and no longer than the DATA octets received for it. -/
theorem Full.buffered_body_within_limit (cfg : Cfg) (evs : List Event) (hpos : cfg.maxBody > 0) :
    ∀ st ∈ (run cfg evs).1.strms, st.body.len ≤ cfg.maxBody ∧ st.body.len ≤ st.recvBody :=
  H2.Server.buffered_body_within_limit cfg evs hpos

/-- **handler_headers_within_limit** (full model, run level): with MaxHeaderListSize set, in every reachable state every
stream whose handler is running — in the table or abandoned — has a header list (RFC 7540 §6.5.2 size, all its header
blocks together) of at most that size; in the table such a stream has its header section finished and is at least
half-closed, so no further header block is ever decoded for it; and every stream of the table that has not been closed
is within the limit at every moment (the header-list part of the per-connection memory bound). -/
theorem Full.handler_headers_within_limit (cfg : Cfg) (evs : List Event) (hpos : cfg.maxHeaderList > 0) :
    (∀ st ∈ (run cfg evs).1.strms, st.handlerRunning = true →
      (st.hdrListSize : Int) ≤ cfg.maxHeaderList ∧ st.headersFinished = true ∧ st.state.rank ≥ StState.halfClosed.rank) ∧
    (∀ a ∈ (run cfg evs).1.abandoned, (a.hdrListSize : Int) ≤ cfg.maxHeaderList) ∧
    (∀ st ∈ (run cfg evs).1.strms, st.state ≠ .closed → (st.hdrListSize : Int) ≤ cfg.maxHeaderList) :=
  H2.Server.handler_headers_within_limit cfg evs hpos

/-- (full model, step level) a header frame that `handleHeaderFrame` accepts without error leaves the stream's running
header-list size within the limit, provided it was within it before: the field loop checks before it adds. -/
theorem Full.accepted_header_frame_within_limit (s : Srv) (st : Strm) (fr : H2.Frame.Frame) (hpos : s.cfg.maxHeaderList > 0)
    (h0 : (st.hdrListSize : Int) ≤ s.cfg.maxHeaderList) (hn : (handleHeaderFrame s st fr).2.2 = none) :
    ((handleHeaderFrame s st fr).2.1.hdrListSize : Int) ≤ s.cfg.maxHeaderList :=
  H2.Server.handleHeaderFrame_limit s st fr hpos h0 hn

/-- **held_header_octets_bounded** (full model, run level; F68 repaired): with MaxHeaderListSize set, in every reachable
state every stream of the table holds at most 4 × MaxHeaderListSize octets of a header field that is not complete yet
(`prevHdr`, Go `strm.previousHeaderBytes`: carried from frame to frame until the field ends) — a bound in the limit and
not in the number of HEADERS/CONTINUATION frames the peer has sent. With `open_slots_within_limit`: at most
MaxConcurrentStreams × 4 × MaxHeaderListSize such octets per connection. The field loop checks before it stores, so no
frame's worth of slack is needed; the bound is attained (`Ex.cutRun` below). 4 × the limit loses no request: HPACK wire
octets decode to at least 8/30 of their number, so a longer field could never fit the list limit. -/
theorem Full.held_header_octets_bounded (cfg : Cfg) (evs : List Event) (hpos : cfg.maxHeaderList > 0) :
    ∀ st ∈ (run cfg evs).1.strms, (st.prevHdr.length : Int) ≤ 4 * cfg.maxHeaderList :=
  H2.Server.held_header_octets_bounded cfg evs hpos

/-- (full model, step level) whatever `handleHeaderFrame` is given and however it ends, the stream it returns holds an
unfinished field within the bound, provided the one it was given did. -/
theorem Full.header_frame_keeps_held_bound (s : Srv) (st : Strm) (fr : H2.Frame.Frame) (hpos : s.cfg.maxHeaderList > 0)
    (h0 : (st.prevHdr.length : Int) ≤ 4 * s.cfg.maxHeaderList) :
    ((handleHeaderFrame s st fr).2.1.prevHdr.length : Int) ≤ 4 * s.cfg.maxHeaderList :=
  H2.Server.handleHeaderFrame_held s st fr (fun _ => h0) hpos

/-! non-vacuity (`Ex.cutRun`, MaxHeaderListSize = 10: a literal field whose value announces 127 octets; 35 + 5 = 40
octets of it are held and nothing is written; one more octet draws GOAWAY(ENHANCE_YOUR_CALM) and nothing is held) -/
example : (run { maxHeaderList := 10 } Ex.cutRun).1.strms.map (fun st => (st.id, st.prevHdr.length)) = [(1, 40)] ∧
    fm Ex.tag (runOuts { maxHeaderList := 10 } Ex.cutRun) = [] := by decide +kernel
example : (run { maxHeaderList := 10 } (Ex.cutRun ++ [Ex.moreCont 1 1])).1.strms.map (fun st => (st.id, st.prevHdr.length)) = [(1, 0)] ∧
    fm Ex.tag (runOuts { maxHeaderList := 10 } (Ex.cutRun ++ [Ex.moreCont 1 1])) = [("goaway", 1)] := by decide +kernel

/-! non-vacuity on the full model (`Ex.slotRun`, MaxConcurrentStreams = 1: HEADERS(1) dispatched, HEADERS(3) refused,
the peer resets 1 while its handler runs — abandoned, slot kept — HEADERS(5) still refused; after the handler of 1
reports back HEADERS(7) is accepted. `Ex.bodyRun`, MaxRequestBodySize = 2: two octets are handed over, three are not).
The same operations replayed on the real server give the same lines (REPORT). -/
example : (run { maxStreams := 1 } Ex.slotRun).1.openStreams = 1 ∧ (run { maxStreams := 1 } Ex.slotRun).1.strms.length = 0 ∧
    (run { maxStreams := 1 } Ex.slotRun).1.abandoned.length = 1 ∧ runningHandlers (run { maxStreams := 1 } Ex.slotRun).1 = 1 := by
  decide +kernel
example : fm Ex.tag (runOuts { maxStreams := 1 } Ex.slotRun) = [("dispatch", 1), ("rst", 3), ("rst", 5)] := by decide +kernel
example : dispatchedIds (runOuts { maxStreams := 1 } (Ex.slotRun ++ [.done 1 {}, Ex.hdrs 7])) = [1, 7] := by decide +kernel
example : Ex.bodyLens (runOuts { maxBody := 2 } Ex.bodyRun) = [(1, 2)] ∧
    fm Ex.tag (runOuts { maxBody := 2 } Ex.bodyRun) = [("dispatch", 1), ("rst", 3)] := by decide +kernel

/-! `Ex.hdrRun`, MaxHeaderListSize = 200: GET / http (123 octets) is dispatched; the same with two more fields (243 octets)
draws GOAWAY(ENHANCE_YOUR_CALM) and is not -/
example : fm Ex.tag (runOuts { maxHeaderList := 200 } Ex.hdrRun) = [("dispatch", 1), ("goaway", 3)] := by decide +kernel
example : (run { maxHeaderList := 200 } Ex.hdrRun).1.strms.map (fun st => (st.id, st.hdrListSize, st.handlerRunning)) =
    [(1, 123, true), (3, 243, false)] := by decide +kernel

end FullModel
end H2.Props.C13
