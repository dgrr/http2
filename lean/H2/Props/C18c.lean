import H2.Client.Recv
import H2.Proofs.HpackEnc
import H2.Proofs.ClientRunCount
import H2.Proofs.ClientHdrFrames
/-!
# C18 (client half) — SETTINGS are acknowledged one for one and the server's limits persist

Serial model of the read loop (`rdFrame`, `handleSettings`, `applyPairs`) and of `CanOpenStream` /
`writeRequest`, after fix F47 (a SETTINGS frame no longer resets what it does not mention) and the repair of
F09c: every SETTINGS_HEADER_TABLE_SIZE value reaches the write loop's encoder as "smallest since the last
request, then last" (`noted_*`, `applied_*`, `dip_announced`), so a size that dips and comes back is announced.
F35 is repaired as well: the SETTINGS frame of the handshake carries ENABLE_PUSH=0 (`advertises_push_off`), and the
zeros of the client's never-reset `Settings` still stay off the wire (`advertises_nothing_else`).
F33 (shared with the server half) is repaired too: a request's header block longer than the server's MAX_FRAME_SIZE goes
out as HEADERS + CONTINUATION frames of at most that size (`header_frames_within_server_max_frame_size`,
`request_block_frames_add_up`).
-/
namespace H2.Props.C18c

open H2.Client

/-- **acks**: every SETTINGS frame without ACK queues exactly one SETTINGS acknowledgement, after
whatever the read loop had queued before (the write loop sends `out` in order) -/
theorem acks (c : Conn) (f : Frame.Frame) (s : Frame.SettingsVal) (hs : f.stream = 0)
    (hb : f.body = .settings s) (hna : s.ack = false) :
    (rdFrame c f).1.outQ = c.outQ ++ [.settingsAck] ∧ (rdFrame c f).2 = false := by
  obtain ⟨a, b, d, e, g, k, sw, p, w, h⟩ := handleSettings_shape c s
  simp only [rdFrame, hs, hb, hna, beq_self_eq_true, if_true, Bool.false_eq_true, if_false, h, and_self]

/-- an acknowledgement from the server is not acknowledged back -/
theorem ack_not_acked (c : Conn) (f : Frame.Frame) (s : Frame.SettingsVal) (hs : f.stream = 0)
    (hb : f.body = .settings s) (ha : s.ack = true) : (rdFrame c f).1 = c := by
  simp [rdFrame, hs, hb, ha]

/-- **limits persist**: a SETTINGS frame that does not mention MAX_CONCURRENT_STREAMS leaves the limit
the client holds for the server untouched (likewise MAX_FRAME_SIZE and HEADER_TABLE_SIZE) -/
theorem unmentioned_persist (c : Conn) (ps : List (Nat × Nat)) :
    ((∀ p ∈ ps, p.1 ≠ Gen.c_MaxConcurrentStreams) → (applyPairs c ps).maxStreams = c.maxStreams) ∧
    ((∀ p ∈ ps, p.1 ≠ Gen.c_MaxFrameSize) → (applyPairs c ps).maxFrameSize = c.maxFrameSize) ∧
    ((∀ p ∈ ps, p.1 ≠ Gen.c_HeaderTableSize) → (applyPairs c ps).srvTableSize = c.srvTableSize) := by
  induction ps generalizing c with
  | nil => exact ⟨fun _ => rfl, fun _ => rfl, fun _ => rfl⟩
  | cons p ps ih =>
    obtain ⟨k, v⟩ := p
    simp only [applyPairs, List.mem_cons, forall_eq_or_imp]
    refine ⟨?_, ?_, ?_⟩
    · rintro ⟨hk, hr⟩
      rw [(ih _).1 hr]
      have : (k == Gen.c_MaxConcurrentStreams) = false := by simpa using hk
      simp only [this, Bool.false_eq_true, if_false]; repeat (first | rfl | split)
    · rintro ⟨hk, hr⟩
      rw [(ih _).2.1 hr]
      have : (k == Gen.c_MaxFrameSize) = false := by simpa using hk
      simp only [this, Bool.false_eq_true, if_false]; repeat (first | rfl | split)
    · rintro ⟨hk, hr⟩
      rw [(ih _).2.2 hr]
      have : (k == Gen.c_HeaderTableSize) = false := by simpa using hk
      simp only [this, Bool.false_eq_true, if_false]; repeat (first | rfl | split)

/-- **MAX_CONCURRENT_STREAMS obeyed**: a request is only put on a new stream while the number of open
streams is below the server's limit; otherwise nothing is written -/
theorem concurrent_streams_obeyed (c : Conn) (r : ReqSpec) :
    (writeRequest c r).2 ≠ [] → c.openStreams < (c.maxStreams : Int) := by
  intro h
  by_cases hc : canOpenStream c = true
  · simp [canOpenStream] at hc; exact hc.2
  · simp only [Bool.not_eq_true] at hc
    simp [writeRequest, hc] at h

/-- **MAX_FRAME_SIZE obeyed by DATA**: see `H2.Props.C07.data_frames_within_max` (the step is the value
`applyPairs` recorded); here: the value recorded is the one the server sent last -/
theorem frame_size_recorded (c : Conn) (v : Nat) :
    (applyPairs c [(Gen.c_MaxFrameSize, v)]).maxFrameSize = v := by
  simp [applyPairs, Gen.c_MaxFrameSize, Gen.c_HeaderTableSize, Gen.c_MaxConcurrentStreams]

/-! ## MAX_FRAME_SIZE obeyed by header blocks (finding F33, repaired)

`writeRequest` queues ONE HEADERS frame per request; `writeHeaderBlock` cuts it where it is written, under `bwLck`, at
`frameStep` — the value `writeData` uses. `wireFrames` is what reaches the wire (and what the driver prints). -/

/-- the step header blocks and DATA are cut at is the server's SETTINGS_MAX_FRAME_SIZE: the value recorded by
`applyPairs` (`frame_size_recorded`) whenever it is one a SETTINGS frame can carry (2^14 … 2^24-1; anything else is
refused by the frame layer), the size every peer accepts otherwise; it is never 0 -/
theorem frame_step_is_servers (c : Conn) :
    0 < frameStep c ∧
    (0 < c.maxFrameSize → c.maxFrameSize ≤ Gen.c_maxFrameSize → frameStep c = c.maxFrameSize) ∧
    (c.maxFrameSize = 0 ∨ c.maxFrameSize > Gen.c_maxFrameSize → frameStep c = 2 ^ 14) :=
  ⟨frameStep_pos c, frameStep_is_servers c, fun h => by rw [frameStep_default c h]; rfl⟩

/-- **Every HEADERS-without-END_HEADERS and every CONTINUATION frame written is at most the server's MAX_FRAME_SIZE**,
whatever frames the step queued (`fs` without wire-only frames: what `writeRequest`, `sendPending` and the read loop
queue, see `request_queues_no_fragments`) and whatever the encoder's state; a HEADERS frame that keeps END_HEADERS
carries a block that fits (`whole_headers_frame_fits`). -/
theorem header_frames_within_server_max_frame_size (c : Conn) (fs : List OutFrame) (h : NoFrag fs) :
    ∀ n ∈ (wireFrames c fs).filterMap OutFrame.fragLen, n ≤ frameStep c := by
  intro n hn
  rcases wireFrames_frags c fs n hn with h1 | h1
  · exact h1
  · rw [h.filterMap] at h1; cases h1

theorem request_queues_no_fragments (c : Conn) (r : ReqSpec) : NoFrag (writeRequest c r).2 :=
  writeRequest_noFrag c r

/-- one queued HEADERS frame on the wire: the frames `headerFrames` makes of the fragment lengths of its block -/
theorem one_block_on_the_wire (c : Conn) (sid : Nat) (es : Bool) (fields : List (Bytes × Bytes)) :
    wireFrames c [.headers sid es fields] =
      headerFrames sid es fields (blockLens (frameStep c) (encodeHeaders c fields).2) := by
  simp [wireFrames]

/-- a block that fits stays the single HEADERS frame it was (END_HEADERS set) -/
theorem whole_headers_frame_fits (c : Conn) (sid : Nat) (es : Bool) (fields : List (Bytes × Bytes))
    (h : (encodeHeaders c fields).2 ≤ frameStep c) :
    wireFrames c [.headers sid es fields] = [.headers sid es fields] := by
  rw [one_block_on_the_wire, headerFrames_small _ _ _ _ _ h]

/-- **The fragments of a request header block add up to the block** (client twin of
`C18.header_block_frames_are_whole`; the client model carries block lengths, not octets): a block of `n` octets longer than
the step goes out as a HEADERS frame without END_HEADERS carrying exactly `step` octets, END_STREAM staying on it, then at
least one CONTINUATION frame; the payload lengths are `blockLens step n`, each at most `step`, none of the CONTINUATION
frames empty, and their sum is `n`; END_HEADERS and the field list are on the last CONTINUATION frame (`contFrames`). -/
theorem request_block_frames_add_up (sid : Nat) (es : Bool) (fields : List (Bytes × Bytes)) (step : Nat) (hs : 0 < step)
    (n : Nat) (h : step < n) :
    (∃ l rest, blockLens step n = step :: l :: rest ∧ (∀ x ∈ l :: rest, 0 < x) ∧
      headerFrames sid es fields (blockLens step n) = .hfrag sid es step :: contFrames sid fields (l :: rest) ∧
      (contFrames sid fields (l :: rest)).filterMap OutFrame.fragLen = l :: rest) ∧
    (∀ x ∈ blockLens step n, x ≤ step) ∧ (blockLens step n).sum = n := by
  obtain ⟨l, rest, e, hp⟩ := blockLens_big step hs n h
  exact ⟨⟨l, rest, e, hp, by simp [e, headerFrames], fragLen_contFrames _ _ _⟩, blockLens_le step n, blockLens_sum step hs n⟩

/-- END_HEADERS is on the last CONTINUATION frame and on no other, the decoded fields with it -/
theorem cont_frames_shape (sid : Nat) (fields : List (Bytes × Bytes)) (l : Nat) (rest : List Nat) :
    contFrames sid fields (l :: rest) =
      .cont sid rest.isEmpty l (if rest.isEmpty then fields else []) :: contFrames sid fields rest := rfl

/-- non-vacuity: 40 000 octets towards a server that left MAX_FRAME_SIZE at 16384: 3 frames; towards one that announced
32768: 2 frames; 16384 octets: the one HEADERS frame; 16385: two frames -/
example : blockLens 16384 40000 = [16384, 16384, 7232] := by decide
example : blockLens 32768 40000 = [32768, 7232] := by decide
example : blockLens 16384 16384 = [16384] ∧ blockLens 16384 16385 = [16384, 1] := by decide
example : headerFrames 1 true [([1], [2])] [16384, 16384, 7232] =
    [.hfrag 1 true 16384, .cont 1 false 16384 [], .cont 1 true 7232 [([1], [2])]] := rfl
example : frameStep { maxFrameSize := 32768 } = 32768 ∧ frameStep {} = 16384 ∧ frameStep { maxFrameSize := 0 } = 16384 := by decide

/-! ## SETTINGS_HEADER_TABLE_SIZE: every change reaches the encoder (repair of F09c) -/

/-- the values a SETTINGS frame carries for the header table size, in order -/
def tableVals (ps : List (Nat × Nat)) : List Nat := (ps.filter fun p => p.1 == Gen.c_HeaderTableSize).map (·.2)

/-- the hand-over as a function of the values alone: (anything to apply, smallest, last) -/
def noteVals : Bool × Nat × Nat → List Nat → Bool × Nat × Nat
  | s, [] => s
  | (set, mn, _), v :: vs => noteVals (true, if !set || v < mn then v else mn, v) vs

theorem noteTableSizes_eq (ps : List (Nat × Nat)) : ∀ c : Conn,
    ((noteTableSizes c ps).encTableSet, (noteTableSizes c ps).encTableMin, (noteTableSizes c ps).encTableSize) =
      noteVals (c.encTableSet, c.encTableMin, c.encTableSize) (tableVals ps) := by
  induction ps with
  | nil => intro c; rfl
  | cons p ps ih =>
    intro c
    obtain ⟨k, v⟩ := p
    simp only [noteTableSizes]
    by_cases hk : (k == Gen.c_HeaderTableSize) = true
    · have tv : tableVals ((k, v) :: ps) = v :: tableVals ps := by simp [tableVals, hk]
      simp only [hk, if_true, tv, noteVals]
      rw [ih]
    · have tv : tableVals ((k, v) :: ps) = tableVals ps := by simp [tableVals, hk]
      simp only [hk, Bool.false_eq_true, if_false, tv]
      rw [ih]

/-- the smallest handed over is at most every value sent, and at most what was waiting already -/
theorem noteVals_min (vs : List Nat) : ∀ (set : Bool) (mn last : Nat),
    (∀ v ∈ vs, (noteVals (set, mn, last) vs).2.1 ≤ v) ∧ (set = true → (noteVals (set, mn, last) vs).2.1 ≤ mn) := by
  induction vs with
  | nil => intro set mn last; exact ⟨fun v hv => by simp at hv, fun _ => Nat.le_refl _⟩
  | cons w ws ih =>
    intro set mn last
    simp only [noteVals]
    obtain ⟨i1, i2⟩ := ih true (if (!set || decide (w < mn)) = true then w else mn) w
    have i2 := i2 rfl
    refine ⟨?_, ?_⟩
    · intro v hv
      simp only [List.mem_cons] at hv
      rcases hv with rfl | hv
      · refine Nat.le_trans i2 ?_
        split
        · exact Nat.le_refl _
        · rename_i h; simp at h; omega
      · exact i1 v hv
    · intro hs
      refine Nat.le_trans i2 ?_
      subst hs
      simp only [Bool.not_true, Bool.false_or, decide_eq_true_eq]
      split <;> omega

/-- it is one of the values sent when nothing was waiting: no lower than it has to be -/
theorem noteVals_attained (vs : List Nat) : ∀ (set : Bool) (mn last : Nat),
    (noteVals (set, mn, last) vs).2.1 ∈ vs ∨ ((noteVals (set, mn, last) vs).2.1 = mn ∧ (set = true ∨ vs = [])) := by
  induction vs with
  | nil => intro set mn last; right; exact ⟨rfl, .inr rfl⟩
  | cons w ws ih =>
    intro set mn last
    simp only [noteVals]
    rcases ih true (if (!set || decide (w < mn)) = true then w else mn) w with h | ⟨h, _⟩
    · left; exact List.mem_cons_of_mem _ h
    · rw [h]
      by_cases hc : (!set || decide (w < mn)) = true
      · left; simp [hc]
      · right
        simp only [hc, Bool.false_eq_true, if_false, true_and]
        left
        cases set <;> simp_all

/-- and the last is the last -/
theorem noteVals_last (vs : List Nat) : ∀ (s : Bool × Nat × Nat) (h : vs ≠ []),
    (noteVals s vs).1 = true ∧ (noteVals s vs).2.2 = vs.getLast h := by
  induction vs with
  | nil => intro s h; exact absurd rfl h
  | cons w ws ih =>
    intro s h
    obtain ⟨set, mn, last⟩ := s
    simp only [noteVals]
    by_cases he : ws = []
    · subst he; simp [noteVals]
    · obtain ⟨j1, j2⟩ := ih (true, (if (!set || decide (w < mn)) = true then w else mn), w) he
      exact ⟨j1, by rw [j2, List.getLast_cons he]⟩

/-- **every change reaches the write loop**: with nothing waiting, a SETTINGS frame that carries table sizes hands over
their minimum (at most each of them, and one of them) and the last of them -/
theorem noted (c : Conn) (ps : List (Nat × Nat)) (hs : c.encTableSet = false) (hne : tableVals ps ≠ []) :
    (noteTableSizes c ps).encTableSet = true ∧
    (∀ v ∈ tableVals ps, (noteTableSizes c ps).encTableMin ≤ v) ∧
    (noteTableSizes c ps).encTableMin ∈ tableVals ps ∧
    (noteTableSizes c ps).encTableSize = (tableVals ps).getLast hne := by
  have e := noteTableSizes_eq ps c
  have e1 : (noteTableSizes c ps).encTableSet = (noteVals (c.encTableSet, c.encTableMin, c.encTableSize) (tableVals ps)).1 :=
    congrArg (·.1) e
  have e2 : (noteTableSizes c ps).encTableMin = (noteVals (c.encTableSet, c.encTableMin, c.encTableSize) (tableVals ps)).2.1 :=
    congrArg (·.2.1) e
  have e3 : (noteTableSizes c ps).encTableSize = (noteVals (c.encTableSet, c.encTableMin, c.encTableSize) (tableVals ps)).2.2 :=
    congrArg (·.2.2) e
  obtain ⟨l1, l2⟩ := noteVals_last (tableVals ps) (c.encTableSet, c.encTableMin, c.encTableSize) hne
  refine ⟨e1.trans l1, ?_, ?_, e3.trans l2⟩
  · intro v hv; rw [e2]; exact (noteVals_min _ _ _ _).1 v hv
  · rw [e2]
    rcases noteVals_attained (tableVals ps) c.encTableSet c.encTableMin c.encTableSize with h | ⟨_, h | h⟩
    · exact h
    · rw [hs] at h; cases h
    · exact absurd h hne

/-- with something waiting already (several SETTINGS frames between two requests) the minimum only goes down -/
theorem noted_again (c : Conn) (ps : List (Nat × Nat)) (hs : c.encTableSet = true) :
    (noteTableSizes c ps).encTableMin ≤ c.encTableMin ∧ ∀ v ∈ tableVals ps, (noteTableSizes c ps).encTableMin ≤ v := by
  have e2 : (noteTableSizes c ps).encTableMin = (noteVals (c.encTableSet, c.encTableMin, c.encTableSize) (tableVals ps)).2.1 :=
    congrArg (·.2.1) (noteTableSizes_eq ps c)
  rw [e2]
  exact ⟨(noteVals_min _ _ _ _).2 hs, (noteVals_min _ _ _ _).1⟩

open H2.Hpack in
/-- **the table obeys the smallest limit**: after `writeRequest` has told its encoder, the encoder's table is no
larger than the smallest SETTINGS_HEADER_TABLE_SIZE the server asked for in between (the size its own decoder may
have shrunk to), and its limit is the last value -/
theorem applied_within_min (c : Conn) (hs : c.encTableSet = true) (hle : c.encTableMin ≤ c.encTableSize)
    (hfit : tableSize c.enc.dyn ≤ c.enc.maxSize) :
    tableSize (applyTable c).dyn ≤ c.encTableMin ∧ (applyTable c).maxSize = c.encTableSize := by
  simp only [applyTable, hs, if_true]
  by_cases h1 : c.enc.maxSize = c.encTableMin
  · have e1 : c.enc.setMax c.encTableMin = c.enc := by simp [EncState.setMax, h1]
    rw [e1]
    by_cases h2 : c.enc.maxSize = c.encTableSize
    · have e2 : c.enc.setMax c.encTableSize = c.enc := by simp [EncState.setMax, h2]
      rw [e2]; exact ⟨by omega, h2⟩
    · simp only [EncState.setMax, h2, if_false]
      refine ⟨?_, trivial⟩
      rw [evict_of_fits _ _ (by omega)]; omega
  · have e1 : (c.enc.setMax c.encTableMin).dyn = evict c.enc.dyn c.encTableMin ∧
        (c.enc.setMax c.encTableMin).maxSize = c.encTableMin := by simp [EncState.setMax, h1]
    by_cases h2 : c.encTableMin = c.encTableSize
    · have e2 : ∀ E : EncState, E.maxSize = c.encTableSize → E.setMax c.encTableSize = E := by
        intro E h; simp [EncState.setMax, h]
      rw [e2 _ (e1.2.trans h2), e1.1, e1.2]
      exact ⟨evict_fits _ _, h2⟩
    · have e2 : ((c.enc.setMax c.encTableMin).setMax c.encTableSize).dyn = evict (evict c.enc.dyn c.encTableMin) c.encTableSize ∧
          ((c.enc.setMax c.encTableMin).setMax c.encTableSize).maxSize = c.encTableSize := by
        simp [EncState.setMax, h1, h2]
      rw [e2.1, e2.2, evict_evict, Nat.min_eq_left hle]
      exact ⟨evict_fits _ _, rfl⟩

open H2.Hpack in
/-- **a dip is announced**: if the server asked for less than the encoder's table limit at any point since the last
request, the next header block opens with dynamic table size updates: the encoder is left with an announcement
pending whose minimum is at most that value, whatever the last value is (4096 → 0 → 4096 included) -/
theorem dip_announced (c : Conn) (hs : c.encTableSet = true) (hdip : c.encTableMin < c.enc.maxSize) :
    (applyTable c).pending = true ∧ (applyTable c).minPending ≤ c.encTableMin ∧
    (applyTable c).maxSize = c.encTableSize := by
  have h1 : ¬ c.enc.maxSize = c.encTableMin := by omega
  have e1 : (c.enc.setMax c.encTableMin).pending = true ∧ (c.enc.setMax c.encTableMin).minPending ≤ c.encTableMin ∧
      (c.enc.setMax c.encTableMin).maxSize = c.encTableMin := by
    simp only [EncState.setMax, h1, if_false]
    refine ⟨trivial, ?_, trivial⟩
    split
    · exact Nat.le_refl _
    · rename_i h; simp at h; omega
  simp only [applyTable, hs, if_true]
  generalize c.enc.setMax c.encTableMin = E at e1
  obtain ⟨p1, p2, p3⟩ := e1
  simp only [EncState.setMax]
  split
  · rename_i h; exact ⟨p1, p2, h⟩
  · refine ⟨rfl, ?_, rfl⟩
    simp only [p1, Bool.not_true, Bool.false_or, decide_eq_true_eq]
    split <;> omega

/-- any change at all is announced -/
theorem change_announced (c : Conn) (hs : c.encTableSet = true)
    (hch : c.encTableMin ≠ c.enc.maxSize ∨ c.encTableSize ≠ c.enc.maxSize) : (applyTable c).pending = true := by
  simp only [applyTable, hs, if_true]
  by_cases h1 : c.enc.maxSize = c.encTableMin
  · have e1 : c.enc.setMax c.encTableMin = c.enc := by simp [Hpack.EncState.setMax, h1]
    have h2 : ¬ c.enc.maxSize = c.encTableSize := by omega
    rw [e1]; simp [Hpack.EncState.setMax, h2]
  · have e1 : (c.enc.setMax c.encTableMin).pending = true := by simp [Hpack.EncState.setMax, h1]
    generalize c.enc.setMax c.encTableMin = E at e1
    simp only [Hpack.EncState.setMax]
    split
    · exact e1
    · rfl

/-- nothing to apply, nothing changes -/
theorem nothing_noted_nothing_applied (c : Conn) (hs : c.encTableSet = false) : applyTable c = c.enc := by
  simp [applyTable, hs]

/-! ### the input of finding F09c: 4096 → 0 → 4096 between two requests, as a regression example -/

def cF09 : Conn := { enc := { dyn := [([0x78], [0x79])] } }

/-- both values in one SETTINGS frame: "0, then 4096" is handed over, and the encoder then has both to announce -/
theorem F09c_regression :
    let c := handleSettings cF09 { pairs := [(Gen.c_HeaderTableSize, 0), (Gen.c_HeaderTableSize, 4096)] }
    (c.encTableSet, c.encTableMin, c.encTableSize) = (true, 0, 4096) ∧
    ((applyTable c).pending, (applyTable c).minPending, (applyTable c).maxSize) = (true, 0, 4096) := by
  decide

/-- in two frames likewise -/
example :
    let c := handleSettings (handleSettings cF09 { pairs := [(Gen.c_HeaderTableSize, 0)] }) { pairs := [(Gen.c_HeaderTableSize, 4096)] }
    ((applyTable c).pending, (applyTable c).minPending, (applyTable c).maxSize) = (true, 0, 4096) := by
  decide

/-- what the code did before: told of the last value only, the encoder announced nothing -/
example : (cF09.enc.setMax 4096).pending = false := by decide

/-! ### what the client advertises (finding F35, repaired) -/

/-- **ENABLE_PUSH=0 is transmitted**: the SETTINGS frame of the handshake carries the pair (2, 0) … -/
theorem advertises_push_off : (Gen.c_EnablePush, 0) ∈ handshakeSettings := by decide

/-- … and beside it the stream window the client gives the server, nothing else: the untouched zeros of the client's
`Settings` (table size, stream limit, frame size — none of which it means) are not announced -/
theorem advertises_nothing_else :
    handshakeSettings = [(Gen.c_EnablePush, 0), (Gen.c_MaxWindowSize, Gen.c_clientMaxWindow)] := by decide

/-- what `Encode` did before the repair (no mark looked at, `false` encoded as absent): the window alone -/
example : Frame.settingsEncode { ownSettings with hasPush := false } = [0, 4, 0, 16, 0, 0] := by decide

/-- the marks are what makes the difference for every value that may be zero: set to 0 it is written, untouched it is not -/
theorem encode_zero_iff_marked (id : Nat) (has : Bool) :
    Frame.settingsPair id 0 has = (if has then toBe16 id ++ toBe32 0 else []) := by
  cases has <;> simp [Frame.settingsPair]

/-- non-vacuity of `acks` -/
example : ∃ c f s, f.stream = 0 ∧ f.body = Frame.Body.settings s ∧ s.ack = false ∧
    (rdFrame c f).1.outQ = c.outQ ++ [OutFrame.settingsAck] :=
  ⟨{}, ⟨Gen.c_FrameSettings, 0, 0, 0, .settings {}⟩, {}, rfl, rfl, rfl, (acks _ _ _ rfl rfl rfl).1⟩

/-! ## the FULL serial model, every run

`concurrent_streams_obeyed` above is about one call of
`writeRequest`; here: every step of every run of `H2.Client.step` from the connection the driver creates. -/

section FullModel
open H2.Client

/-- **Full.concurrent_streams_obeyed**: in any run (any events: requests, server octets with any SETTINGS, time-outs,
write failures …), whenever a step writes a frame of a header block (HEADERS whole or cut, CONTINUATION), the number of streams open just before the step
(`openStreams`) is below the `maxStreams` the connection holds at that moment (the last SETTINGS_MAX_CONCURRENT_STREAMS
the read loop has applied); the step's event is a request and the connection has seen no GOAWAY -/
theorem Full.concurrent_streams_obeyed (c : Conn) (h : Init c) (evs : List Event) :
    AllSteps (fun c e _ o => writesHeaders o = true →
      c.openStreams < (c.maxStreams : Int) ∧ c.goAway = false ∧ ∃ r, e = .req r) c evs :=
  headers_within_limit c (init_hinv h) evs

/-- … read at a position of the run: the step after any prefix -/
theorem Full.concurrent_streams_obeyed_at (c : Conn) (h : Init c) (pre : List Event) (e : Event)
    (hw : writesHeaders (step (run c pre).1 e).2 = true) :
    (run c pre).1.openStreams < ((run c pre).1.maxStreams : Int) :=
  ((Full.concurrent_streams_obeyed c h (pre ++ [e])).at pre hw).1

/-- **Full.counter_covers_table**: in every reachable state the counter `openStreams` is at least the number of streams in
the table of requests waiting for a response (a stream leaves the table with the counter decremented, or, when its
request was taken back by its caller first, without; it enters with the counter incremented) -/
theorem Full.counter_covers_table (c : Conn) (h : Init c) (evs : List Event) :
    ((run c evs).1.reqQueued.length : Int) ≤ (run c evs).1.openStreams :=
  run_cnt h evs

/-- **Full.waiting_streams_below_limit**: so, whenever a step of any run writes a HEADERS frame, the streams still waiting
for their response are fewer than the server's MAX_CONCURRENT_STREAMS as last applied -/
theorem Full.waiting_streams_below_limit (c : Conn) (h : Init c) (pre : List Event) (e : Event)
    (hw : writesHeaders (step (run c pre).1 e).2 = true) :
    (run c pre).1.reqQueued.length < (run c pre).1.maxStreams := by
  have h1 := Full.concurrent_streams_obeyed_at c h pre e hw
  have h2 := Full.counter_covers_table c h pre
  omega

/-- **Full.limit_before_every_stream_opening_frame**: the same over "frames that open a stream" — a HEADERS frame with
END_HEADERS (`.headers`) or without (`.hfrag`, the first frame of a block longer than the server's MAX_FRAME_SIZE): whenever
a step writes one, `openStreams < maxStreams` held just before, and the streams still waiting are fewer than `maxStreams` -/
theorem Full.limit_before_every_stream_opening_frame (c : Conn) (h : Init c) (pre : List Event) (e : Event)
    (hw : opensStream (step (run c pre).1 e).2 = true) :
    (run c pre).1.openStreams < ((run c pre).1.maxStreams : Int) ∧
    (run c pre).1.reqQueued.length < (run c pre).1.maxStreams :=
  ⟨Full.concurrent_streams_obeyed_at c h pre e (opensStream_writes hw),
   Full.waiting_streams_below_limit c h pre e (opensStream_writes hw)⟩

/-- **Full.only_requests_open_streams**: a step that is not a request admitted by `CanOpenStream` writes no frame of a
header block (HEADERS whole or cut, CONTINUATION) and leaves `nextID` alone; one that is moves `nextID` up by 2 and what it
writes begins with the frames of ONE header block on the old `nextID` (`headerFrames`: a HEADERS frame, or a HEADERS frame
without END_HEADERS followed at once by its CONTINUATION frames); nothing else written belongs to a header block -/
theorem Full.only_requests_open_streams (c : Conn) (h : Init c) (pre : List Event) (e : Event) :
    ((step (run c pre).1 e).1.nextID = (run c pre).1.nextID ∧ writesHeaders (step (run c pre).1 e).2 = false) ∨
    (∃ r, e = .req r ∧ canOpenStream (run c pre).1 = true ∧ (step (run c pre).1 e).1.nextID = (run c pre).1.nextID + 2 ∧
      ∀ fs, (step (run c pre).1 e).2 = .frames fs →
        ∃ blk rest, fs = blk ++ rest ∧ BlockOf (run c pre).1.nextID (wrEndStream r) (requestFields r) blk ∧ NoHdr rest) := by
  have hi := run_hinv (init_hinv h) pre
  rcases step_frames_spec _ hi.inv hi.outQ e with ⟨hn, hf⟩ | ⟨r, he, hc, _, hn, hf⟩
  · left
    refine ⟨hn, ?_⟩
    cases ho : (step (run c pre).1 e).2 with
    | frames fs => exact noHdr_any (hf fs ho)
    | _ => rfl
  · right; exact ⟨r, he, hc, hn, hf⟩

/-- **Full.continuations_contiguous**: in the output of every step of every run, each CONTINUATION frame directly follows
a HEADERS frame without END_HEADERS or a CONTINUATION frame of the same stream: nothing is written between the frames of a
header block -/
theorem Full.continuations_contiguous (c : Conn) (h : Init c) (pre : List Event) (e : Event) (fs : List OutFrame)
    (ho : (step (run c pre).1 e).2 = .frames fs) : contAfter none fs = true :=
  let hi := run_hinv (init_hinv h) pre
  step_contiguous _ hi.inv hi.outQ e fs ho

/-! ### non-vacuity: SETTINGS_MAX_CONCURRENT_STREAMS = 1, two requests -/

def fullReq (tag : String) : ReqSpec :=
  { tag := tag, method := [71, 69, 84], scheme := [104, 116, 116, 112, 115], host := [104], path := [47], ua := [117],
    hdrs := [], body := .none }

/-- SETTINGS, MAX_CONCURRENT_STREAMS = 1 -/
def fullSettings : List Nat := [0, 0, 6, 4, 0, 0, 0, 0, 0, 0, 3, 0, 0, 0, 1]

def fullRun : List Event := [.bytes fullSettings, .req (fullReq "a"), .req (fullReq "b"), .read "b"]

/-- the first request opens a stream (0 open < 1), the second is turned away: no HEADERS, `ErrNotAvailableStreams` -/
example : (run {} fullRun).2.map writesHeaders = [false, true, false, false] ∧
    (run {} (fullRun.take 1)).1.maxStreams = 1 ∧ (run {} (fullRun.take 1)).1.openStreams = 0 ∧
    (run {} (fullRun.take 2)).1.openStreams = 1 ∧
    (getReq (run {} (fullRun.take 3)).1 "b").map (·.errBuf) = some (some .noStreams) := by decide +kernel

/-- kind, stream, fragment length of the frames of an output: 1 HEADERS, 2 HEADERS without END_HEADERS, 3 CONTINUATION -/
def fullKinds : StepOut → List (Nat × Nat × Nat)
  | .frames fs => fs.map fun f => match f with
    | .headers sid _ _ => (1, sid, 0) | .hfrag sid _ l => (2, sid, l) | .cont sid _ l _ => (3, sid, l) | _ => (0, 0, 0)
  | _ => []

/-- a connection whose server allows frames of 4 octets only (`Init` says nothing about MAX_FRAME_SIZE): every header
block is cut -/
def fullTiny : Conn := { maxFrameSize := 4 }

example : Init fullTiny := by constructor <;> rfl

/-- two requests: blocks of 9 and 5 octets go out as HEADERS(4) + CONTINUATION(4) + CONTINUATION(1) on stream 1 and
HEADERS(4) + CONTINUATION(1) on stream 3; both outputs open a stream and their CONTINUATIONs are contiguous -/
example : (run fullTiny [.req (fullReq "a"), .req (fullReq "b")]).2.map fullKinds =
      [[(2, 1, 4), (3, 1, 4), (3, 1, 1)], [(2, 3, 4), (3, 3, 1)]] ∧
    (run fullTiny [.req (fullReq "a"), .req (fullReq "b")]).2.map opensStream = [true, true] ∧
    (run fullTiny [.req (fullReq "a"), .req (fullReq "b")]).2.map
      (fun o => match o with | .frames fs => contAfter none fs | _ => true) = [true, true] := by decide +kernel

end FullModel

end H2.Props.C18c
