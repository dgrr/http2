import H2.Proofs.ServerExt
import H2.Proofs.Frame
import H2.Props.C06
import H2.Props.C16
import H2.Proofs.HpackEnc
import H2.Proofs.ServerHdrFrames
/-!
# C18 — SETTINGS are acknowledged in order and the peer's limits are obeyed (server role)

Theorems about the full executable server model (`H2.Server`, the one compared with `serverConn.go`
event by event), the frame model (`Frame.settingsRead`) and the abstract send-side model.
The client role is in `H2/Props/C18c.lean`.
-/
namespace H2.Props.C18
open H2 H2.Server H2.Frame

/-- **Exactly one acknowledgement per SETTINGS frame.** Whatever state the connection is in and whatever
else handling the frame causes (window deltas, resumed responses, a flow-control GOAWAY), the read loop's
handling of one parsed frame adds exactly one `SETTINGS(ACK)` to the output if the frame is a SETTINGS
frame without ACK on stream 0 that is not caught by the CONTINUATION sequencing rule, and none otherwise.
Frames are handled one after the other in arrival order (`rlDrain`), so the i-th acknowledgement answers
the i-th SETTINGS frame. -/
theorem acks_exactly_once (r : R) (fr : Frame) :
    cnt .ack (rlFrame r fr).out = cnt .ack r.out + acksOwed r fr :=
  rlFrame_acks r fr

/-- nothing but the read loop's SETTINGS handling ever produces an acknowledgement: the stream loop
(frames, window changes, resumed responses) … -/
theorem stream_loop_never_acks (r : R) (fr : Frame) : cnt .ack (slFrame r fr).out = cnt .ack r.out :=
  (slFrame_emits r fr).cnt_eq fun _ h => h.not_ack

/-- … and handler completions do not -/
theorem handler_done_never_acks (r : R) (sid : Nat) (resp : Resp) :
    cnt .ack (slHandlerDone r sid resp).out = cnt .ack r.out :=
  (slHandlerDone_emits r sid resp).cnt

/-- **Invalid values are a connection error with the RFC's code** (RFC 7540 §6.5.2): decoding a SETTINGS
payload fails exactly when some (identifier, value) pair is invalid, with the code of the first such pair —
ENABLE_PUSH ∉ {0,1}: PROTOCOL_ERROR; INITIAL_WINDOW_SIZE > 2^31-1: FLOW_CONTROL_ERROR; MAX_FRAME_SIZE
outside [2^14, 2^24-1]: PROTOCOL_ERROR — and otherwise succeeds. -/
theorem invalid_values_rejected (p : Bytes) (s : SettingsVal) (c : Nat) :
    settingsRead p s = .inr c ↔ Spec.firstBad (Spec.pairsOf p) = some c := by
  rw [settingsRead_spec]
  cases h : Spec.firstBad (Spec.pairsOf p) with
  | some c' => simp
  | none => simp

theorem bad_pair_codes (p : Nat × Nat) (c : Nat) (h : Spec.pairBad p = some c) :
    (p.1 = 2 ∧ p.2 > 1 ∧ c = Gen.c_ProtocolError) ∨
    (p.1 = 4 ∧ p.2 > 2 ^ 31 - 1 ∧ c = Gen.c_FlowControlError) ∨
    (p.1 = 5 ∧ (p.2 < 2 ^ 14 ∨ p.2 > 2 ^ 24 - 1) ∧ c = Gen.c_ProtocolError) := by
  unfold Spec.pairBad at h
  by_cases h2 : p.1 = 2
  · rw [if_pos h2] at h
    by_cases hv : p.2 > 1
    · rw [if_pos hv] at h; exact Or.inl ⟨h2, hv, (Option.some.inj h).symm⟩
    · rw [if_neg hv] at h; cases h
  rw [if_neg h2] at h
  by_cases h4 : p.1 = 4
  · rw [if_pos h4] at h
    by_cases hv : p.2 > 2 ^ 31 - 1
    · rw [if_pos hv] at h; exact Or.inr (Or.inl ⟨h4, hv, (Option.some.inj h).symm⟩)
    · rw [if_neg hv] at h; cases h
  rw [if_neg h4] at h
  by_cases h5 : p.1 = 5
  · rw [if_pos h5] at h
    by_cases hv : p.2 < 2 ^ 14 ∨ p.2 > 2 ^ 24 - 1
    · rw [if_pos hv] at h; exact Or.inr (Or.inr ⟨h5, hv, (Option.some.inj h).symm⟩)
    · rw [if_neg hv] at h; cases h
  rw [if_neg h5] at h
  cases h

/-- **DATA frames respect any MAX_FRAME_SIZE a peer can have**: every DATA frame the send side ever
produces is at most 16 384 octets (C06), and no accepted SETTINGS frame can announce less (above). -/
theorem data_within_peer_max_frame_size (evs : List Flow.Ev) :
    ∀ d ∈ (Flow.run Flow.init evs).2, d.len ≤ 2 ^ 14 := by
  intro d hd
  have := (C06.never_overdraw evs d hd).2.2
  simpa using this

/-- **The advertised MAX_FRAME_SIZE is enforced**: the read loop reads with the limit the server
advertises (`Gen.c_defaultDataFrameSize`, see `rlDrain`), and a frame header announcing more is an
error after 9 octets, before any payload is read or allocated. -/
theorem advertised_frame_size_enforced (b : Bytes) (h9 : 9 ≤ b.length) (hl : be24 b > Gen.c_defaultDataFrameSize) :
    readFrame Gen.c_defaultDataFrameSize b = .err .tooLarge 9 :=
  (C16.too_large_rejected Gen.c_defaultDataFrameSize b (by decide) h9 hl).1

theorem setMax_maxSize (e : Hpack.EncState) (n : Nat) : (e.setMax n).maxSize = n := by
  simp only [Hpack.EncState.setMax]; split <;> simp_all

theorem foldl_setMax_maxSize (vs : List Nat) (e : Hpack.EncState) :
    (vs.foldl Hpack.EncState.setMax e).maxSize = vs.getLast?.getD e.maxSize := by
  induction vs generalizing e with
  | nil => rfl
  | cons v vs ih =>
    rw [List.foldl_cons, ih, setMax_maxSize]
    cases vs with
    | nil => rfl
    | cons a t => simp [List.getLast?_cons_cons, List.getLast?_eq_some_getLast (List.cons_ne_nil a t)]

/-- **The peer's SETTINGS_HEADER_TABLE_SIZE persists and bounds the encoder**: the stream loop, which owns the
encoder, leaves its table limit at the last value a SETTINGS frame announces and leaves it alone when the frame does not
mention it — an unrelated SETTINGS frame does not bring the default back (finding F52), and the resize does not
happen on the read loop in the middle of a header block (finding F34). -/
theorem encoder_limit_is_peers (r : R) (st : SettingsVal) :
    (applyTableSize r st).s.enc.maxSize = (tableSizes st).getLast?.getD r.s.enc.maxSize := by
  simp only [applyTableSize, foldl_setMax_maxSize]

/-- a frame without SETTINGS_HEADER_TABLE_SIZE leaves the encoder as it is -/
theorem encoder_untouched (r : R) (st : SettingsVal) (h : tableSizes st = []) : (applyTableSize r st).s.enc = r.s.enc := by
  simp [applyTableSize, h]

/-- "an announcement is owed that names a size of at most `m`": what `SetMaxTableSize` leaves behind for the next header
block, which then opens with dynamic table size updates — the smallest size first (`C04.size_updates_announced`) -/
def Owes (e : Hpack.EncState) (m : Nat) : Prop := e.pending = true ∧ e.minPending ≤ m ∧ e.minPending ≤ e.maxSize

theorem owes_mono {e : Hpack.EncState} {m m' : Nat} (h : Owes e m) (hm : m ≤ m') : Owes e m' :=
  ⟨h.1, Nat.le_trans h.2.1 hm, h.2.2⟩

theorem owes_setMax {e : Hpack.EncState} {m : Nat} (h : Owes e m) (n : Nat) : Owes (e.setMax n) m := by
  obtain ⟨h1, h2, h3⟩ := h
  simp only [Hpack.EncState.setMax, Owes]
  split
  · exact ⟨h1, h2, h3⟩
  · simp only [h1, Bool.not_true, Bool.false_or, decide_eq_true_eq]
    refine ⟨trivial, ?_, ?_⟩ <;> split <;> omega

theorem owes_foldl {e : Hpack.EncState} {m : Nat} (h : Owes e m) (vs : List Nat) :
    Owes (vs.foldl Hpack.EncState.setMax e) m := by
  induction vs generalizing e with
  | nil => exact h
  | cons v vs ih => exact ih (owes_setMax h v)

theorem owes_of_lower (e : Hpack.EncState) (v : Nat) (h : v < e.maxSize) : Owes (e.setMax v) v := by
  have hne : ¬ e.maxSize = v := by omega
  simp only [Hpack.EncState.setMax, hne, if_false, Owes]
  refine ⟨trivial, ?_, ?_⟩ <;> split <;> first | exact Nat.le_refl _ | (rename_i hc; simp at hc; omega)

theorem dip_owed (vs : List Nat) (e : Hpack.EncState) (v : Nat) (hv : v ∈ vs) (hlt : v < e.maxSize) :
    Owes (vs.foldl Hpack.EncState.setMax e) v := by
  induction vs generalizing e with
  | nil => cases hv
  | cons n vs ih =>
    rw [List.foldl_cons]
    rcases List.mem_cons.mp hv with rfl | hv'
    · exact owes_foldl (owes_of_lower e v hlt) vs
    · by_cases hlt' : v < (e.setMax n).maxSize
      · exact ih _ hv' hlt'
      · rw [setMax_maxSize] at hlt'
        exact owes_foldl (owes_mono (owes_of_lower e n (by omega)) (by omega)) vs

/-- **Every dip is announced** (server twin of F09c, repaired): if a SETTINGS frame names, anywhere among its values, a
SETTINGS_HEADER_TABLE_SIZE below the encoder's table limit, the encoder is left owing the peer an announcement of at most
that size — whatever the last value of the frame is ("0, then 4096" included, which before the repair reached the encoder as
4096 alone and changed nothing) — and its limit is the frame's last value. -/
theorem dip_announced (r : R) (st : SettingsVal) (v : Nat) (hv : v ∈ tableSizes st) (hlt : v < r.s.enc.maxSize) :
    Owes (applyTableSize r st).s.enc v ∧
    (applyTableSize r st).s.enc.maxSize = (tableSizes st).getLast?.getD r.s.enc.maxSize :=
  ⟨dip_owed _ _ v hv hlt, encoder_limit_is_peers r st⟩

open H2.Hpack in
/-- what is owed is paid at the start of the next header block: `AppendHeader` opens it with a dynamic table size update
that names at most `m` (followed by the final size when that is larger), before the first field -/
theorem owed_block_opens (e : Hpack.EncState) (m : Nat) (h : Owes e m) (f : Hpack.Field) (store : Bool) :
    ∃ k rest, k ≤ m ∧ encPre e = .sizeUpdate k :: rest ∧
      (Enc.append e f store).2 = serAll (encPre e) ++ Spec.ser (encRepr e f store) := by
  obtain ⟨h1, h2, h3⟩ := h
  by_cases hc : e.minPending < e.maxSize
  · exact ⟨e.minPending, [.sizeUpdate e.maxSize], h2, by simp [encPre, h1, hc], append_out _ _ _⟩
  · exact ⟨e.maxSize, [], by omega, by simp [encPre, h1, hc], append_out _ _ _⟩

/-- the values are those of the frame, in wire order: identifier 1 of `Spec.pairsOf` -/
theorem tableSizes_of_payload (p : Bytes) (s' : SettingsVal) (ack : Bool)
    (h : settingsRead p { ack := ack } = .inl (some s')) :
    tableSizes s' = ((Spec.pairsOf p).filter fun q => q.1 == Gen.c_HeaderTableSize).map (·.2) := by
  rw [settingsRead_spec] at h
  cases hb : Spec.firstBad (Spec.pairsOf p) with
  | some c => rw [hb] at h; cases h
  | none =>
    rw [hb] at h
    injection h with h; injection h with h; subst h
    simp [tableSizes, withPairs]

/-- the read loop does not touch the encoder (finding F34) -/
theorem read_loop_leaves_encoder (r : R) (st : SettingsVal) : (handleSettings r st).s.enc = r.s.enc := by
  simp [handleSettings, R.emit]

/-- a decoded SETTINGS payload says the table size is present exactly when it carries identifier 1, and then
holds the last such value -/
theorem table_size_flag (p : Bytes) (s s' : SettingsVal) (h : settingsRead p s = .inl (some s')) :
    s'.hasTableSize = (s.hasTableSize || (Spec.pairsOf p).any (·.1 = 1)) := by
  rw [settingsRead_spec] at h
  cases hb : Spec.firstBad (Spec.pairsOf p) with
  | some c => rw [hb] at h; cases h
  | none =>
    rw [hb] at h
    injection h with h; injection h with h; subst h
    -- one pair sets the flag exactly when its identifier is 1
    have step : ∀ (s : SettingsVal) (q : Nat × Nat),
        (Spec.applyPair s q).hasTableSize = (s.hasTableSize || decide (q.1 = 1)) := by
      intro s q
      unfold Spec.applyPair
      by_cases h1 : q.1 = 1
      · rw [if_pos h1, decide_eq_true h1, Bool.or_true]
      · rw [if_neg h1, decide_eq_false h1, Bool.or_false]
        simp only [apply_ite SettingsVal.hasTableSize, ite_self]
    show ((Spec.pairsOf p).foldl Spec.applyPair s).hasTableSize = _
    generalize Spec.pairsOf p = ps
    induction ps generalizing s with
    | nil => simp
    | cons q qs ih => rw [List.foldl_cons, ih, step, List.any_cons, Bool.or_assoc]

/-! ### the server twin of F09c: "0, then 4096" in one SETTINGS frame, as a regression example -/

/-- the encoder holds `:status 201` from an earlier response; the frame's two values empty its table and leave the
announcement "0, then 4096" owed … -/
theorem F09s_regression :
    let r : R := { s := { enc := { dyn := [([58, 115, 116, 97, 116, 117, 115], [50, 48, 49])] } } }
    let e := (applyTableSize r { pairs := [(Gen.c_HeaderTableSize, 0), (Gen.c_HeaderTableSize, 4096)] }).s.enc
    (e.dyn, e.pending, e.minPending, e.maxSize) = ([], true, 0, 4096) := by decide +kernel

/-- … where the code before the repair, told of the last value only, changed nothing and went on indexing -/
example : let e : Hpack.EncState := { dyn := [([58, 115, 116, 97, 116, 117, 115], [50, 48, 49])] }
    e.setMax 4096 = e := by decide

/-- the peer that sent the frame has emptied its table (`peerAnnounce`, srv.go `noteSettings`) and cannot read the index
62 the unrepaired encoder sent next (`be`) -/
example :
    let d : Hpack.DecState := { dyn := [([58, 115, 116, 97, 116, 117, 115], [50, 48, 49])] }
    let d' := [0, 4096].foldl peerAnnounce d
    (d'.dyn, d'.maxSize, d'.limit) = ([], 0, 4096) ∧ decodeAll 2 d' true 0 [0xbe] [] = none := by decide +kernel

/-! ### header blocks respect any MAX_FRAME_SIZE a peer can have (finding F33, repaired)

The write loop cuts a response header block at 16384 octets (`writeHeaderBlock` with `maxDataFrameSize`; `cutBlock` and
`blockOuts` in the full model): HEADERS with the first fragment, CONTINUATION frames for the rest, END_HEADERS on the
last. Before the repair the block went out as one HEADERS frame whatever its length. -/

/-- **Every HEADERS and CONTINUATION frame of every run is at most 16384 octets** — whatever the configuration and the
events (frames received, handler completions with any response, cuts, the idle timer), on the full server model. No
accepted SETTINGS frame can announce a smaller SETTINGS_MAX_FRAME_SIZE (`invalid_values_rejected`, `bad_pair_codes`), so
together with `data_within_peer_max_frame_size` and the fixed sizes of the other frames the peer's limit is obeyed. -/
theorem header_frames_within_peer_max_frame_size (cfg : Cfg) (evs : List Event) :
    ∀ o ∈ runOuts cfg evs,
      match o with
      | .headers _ _ _ len _ _ => len ≤ 2 ^ 14
      | .cont _ _ len _ _ => len ≤ 2 ^ 14
      | _ => True := by
  intro o ho
  have h := run_frags_le cfg evs
  cases o with
  | headers sid es eh len fs e =>
    exact h len (List.mem_filterMap.mpr ⟨_, ho, rfl⟩)
  | cont sid eh len fs e =>
    exact h len (List.mem_filterMap.mpr ⟨_, ho, rfl⟩)
  | _ => trivial

/-- **The frames of a block are the block** (the response-direction twin of `C20.block_frames_are_whole`): what
`responseHeaders` adds to the output is exactly the frames of the fragments `cutBlock` makes of the encoder's block —
one HEADERS frame on the stream's id, END_STREAM on it exactly when there is no body, then CONTINUATION frames, their
payload lengths the fragment lengths in order; the fragments written one after the other are the encoder's octets
(nothing lost, added or reordered), none is longer than 16384 octets and no CONTINUATION frame is empty. -/
theorem header_block_frames_are_whole (r : R) (st : Strm) (resp : Resp) (hasBody : Bool) :
    let block := responseBlock r resp
    let frags := cutBlock Gen.c_maxDataFrameSize block
    (∃ fs e, (responseHeaders r st resp hasBody).out = r.out ++ blockOuts st.id (!hasBody) fs e frags ∧
        fm fragLen (blockOuts st.id (!hasBody) fs e frags) = frags.map List.length) ∧
    frags.flatten = block ∧ (∀ f ∈ frags, f.length ≤ 2 ^ 14) ∧ (∀ f ∈ frags.tail, f ≠ []) := by
  intro block frags
  obtain ⟨fs, e, h⟩ := responseHeaders_block r st resp hasBody
  exact ⟨⟨fs, e, h, fm_fragLen_blockOuts _ _ _ _ _⟩, cutBlock_whole _ (by decide) _, cutBlock_le _ _,
    cutRest_ne _ (by decide) _ _⟩

/-- the shape of the frames: the first is the HEADERS frame, END_HEADERS is on the last frame and on no other, and a
block of at most 16384 octets is one HEADERS frame as before -/
theorem header_block_shape (sid : Nat) (es : Bool) (fs : List (Bytes × Bytes)) (e : Bool) (f : Bytes) (rest : List Bytes) :
    blockOuts sid es fs e (f :: rest) =
      .headers sid es rest.isEmpty f.length (if rest.isEmpty then fs else []) (rest.isEmpty && e) :: contOuts sid fs e rest ∧
    (∀ (g : Bytes) (more : List Bytes), contOuts sid fs e (g :: more) =
      .cont sid more.isEmpty g.length (if more.isEmpty then fs else []) (more.isEmpty && e) :: contOuts sid fs e more) :=
  ⟨rfl, fun _ _ => rfl⟩

theorem small_block_one_frame (sid : Nat) (es : Bool) (fs : List (Bytes × Bytes)) (e : Bool) (b : Bytes)
    (h : b.length ≤ 2 ^ 14) :
    blockOuts sid es fs e (cutBlock Gen.c_maxDataFrameSize b) = [.headers sid es true b.length fs e] :=
  blockOuts_small sid es fs e _ b h

/-- the frame sizes are a function of the block length: 16384, 16384, …, and what is left -/
theorem header_frame_sizes (b : Bytes) :
    (cutBlock Gen.c_maxDataFrameSize b).map List.length =
      min Gen.c_maxDataFrameSize b.length :: restLens Gen.c_maxDataFrameSize b.length (b.length - Gen.c_maxDataFrameSize) :=
  cutBlock_lens _ b

/-- non-vacuity: a block of 40 000 octets goes out in 3 frames of 16384, 16384 and 7232 octets (before the repair: one
HEADERS frame of 40 000); 16384 octets are one frame, 16385 two -/
example : (cutBlock Gen.c_maxDataFrameSize (List.replicate 40000 0)).map List.length = [16384, 16384, 7232] := by
  rw [header_frame_sizes, List.length_replicate]; decide
example : (cutBlock Gen.c_maxDataFrameSize (List.replicate 16384 0)).map List.length = [16384] := by
  rw [header_frame_sizes, List.length_replicate]; decide
example : (cutBlock Gen.c_maxDataFrameSize (List.replicate 16385 0)).map List.length = [16384, 1] := by
  rw [header_frame_sizes, List.length_replicate]; decide
example : blockOuts 1 true [([1], [2])] false [[7, 7], [8], [9]] =
    [.headers 1 true false 2 [], .cont 1 false 1 [], .cont 1 true 1 [([1], [2])]] := rfl
/-- a run with a HEADERS output exists: the first request of a connection answered without a body (1 octet: `:status 200`) -/
example : fm fragLen (runOuts {} [.bytes [0, 0, 5, 1, 5, 0, 0, 0, 1, 0x82, 0x87, 0x84, 0x41, 0], .done 1 {}]) = [1] := by
  decide +kernel

/-! non-vacuity -/
example : ∃ (r : R) (st : SettingsVal) (v : Nat), v ∈ tableSizes st ∧ v < r.s.enc.maxSize :=
  ⟨{ s := {} }, { pairs := [(Gen.c_HeaderTableSize, 0), (Gen.c_HeaderTableSize, 4096)] }, 0, by decide, by decide⟩
example : acksOwed { s := {} } ⟨4, 0, 0, 0, .settings {}⟩ = 1 := by decide
example : Spec.firstBad (Spec.pairsOf [0, 2, 0, 0, 0, 2]) = some 1 := by decide

end H2.Props.C18
