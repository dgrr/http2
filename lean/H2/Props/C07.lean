import H2.Proofs.ClientFlow
import H2.Proofs.ClientRunFlow
/-!
# C07 — the client never sends DATA beyond the server's windows, and finishes

Statements are about `H2.Client.Flow`, the interleaving model of the `sendLck` sections and the
`winCh` token (read loop growing windows, write loop spending them), for **every** finite
interleaving (`Reach`), with the `int32` arithmetic of the Go code. The serial model the stepping
harness compares with the real `Conn` uses the same `spendN` / `addWin` / `wrap32` / `writeData`.
-/
namespace H2.Props.C07

open H2.Client H2.Client.Flow

/-- every emission ever decided respects both ledgers at the moment it is decided -/
def Within (e : Emit) : Prop := 0 < e.n → (e.n : Int) ≤ e.allowBefore ∧ (e.n : Int) ≤ e.connAllowBefore

/-- **never_overdraw_c**: in every interleaving, each DATA emission of positive length fits the stream
allowance and the connection allowance an RFC 7540 server ledger holds at that moment (D3). -/
theorem never_overdraw_c {s : S} {es : List Emit} (h : Reach s es) : ∀ e ∈ es, Within e := by
  induction h with
  | init => intro e he; cases he
  | step hr st ih =>
    rename_i s0 a s1 e0 es0
    intro e he
    simp only [List.mem_append, Option.mem_toList] at he
    rcases he with he | he
    · cases st with
      | wlSpend id rest pb htodo hpid hnr =>
        have f := spend_facts (reach_inv hr) hpid
        simp only [spendEmit] at he
        split at he
        · cases he
        · simp only [Option.some.injEq] at he
          subst he
          exact f.2.1
      | _ => cases he
    · exact ih e he

/-- the connection ledger never goes negative: octets sent on the connection never exceed
65 535 + the increments received on stream 0 (`connAllow` is exactly that difference) -/
theorem conn_sent_le_granted {s : S} {es : List Emit} (h : Reach s es) : 0 ≤ s.connAllow :=
  (reach_inv h).cnn

/-- the `int32` windows the code keeps are the ledgers reduced modulo 2^32; a window that wrapped
(F40: increments beyond 2^31-1 from a non-conforming server) only under-sends -/
theorem windows_track_ledgers {s : S} {es : List Emit} (h : Reach s es) :
    s.connWindow = wrap32 s.connAllow ∧ ∀ id pb, s.pending id = some pb → pb.window = wrap32 pb.allow :=
  ⟨(reach_inv h).cwin, fun id pb hp => ((reach_inv h).pbs id pb hp).win⟩

/-- **no_lost_wakeup**: whenever a pending body could send (octets buffered or to come, both windows
positive), the write loop still has that stream on its work list or the `winCh` token is present -/
theorem no_lost_wakeup {s : S} {es : List Emit} (h : Reach s es) (id : Nat) (pb : PB)
    (hp : s.pending id = some pb) (hs : Sendable s pb) : s.winTok = true ∨ id ∈ s.todo :=
  (reach_inv h).wake id pb hp hs

/-- hence at quiescence (write loop idle, no token) every pending body is blocked by a window -/
theorem quiescent_blocked {s : S} {es : List Emit} (h : Reach s es) (hq : s.todo = []) (ht : s.winTok = false)
    (id : Nat) (pb : PB) (hp : s.pending id = some pb) : ¬ Sendable s pb := by
  intro hs
  rcases no_lost_wakeup h id pb hp hs with h1 | h1
  · rw [ht] at h1; cases h1
  · rw [hq] at h1; cases h1

/-- END_STREAM recorded for every ending emission -/
theorem ended_recorded {s : S} {es : List Emit} (h : Reach s es) :
    ∀ e ∈ es, e.endStream = true → s.ended e.id = true := by
  induction h with
  | init => intro e he; cases he
  | step hr st ih =>
    intro e he hend
    simp only [List.mem_append, Option.mem_toList] at he
    cases st with
    | wlSpend id rest pb htodo hpid hnr =>
      rcases he with he | he
      · simp only [spendEmit] at he
        split at he
        · cases he
        · simp only [Option.some.injEq] at he
          subst he
          simp only at hend
          simp [spendState, hend]
      · have := ih e he hend
        simp only [spendState]
        by_cases hj : e.id = id
        · simp [hj] at this ⊢; simp [this]
        · simp [hj, this]
    | _ =>
      rcases he with he | he
      · cases he
      · exact ih e he hend

/-- **end_stream_once / nothing after END_STREAM**: in the emission history (newest first) no emission
on a stream comes after one that carried END_STREAM on that stream -/
theorem nothing_after_end_stream {s : S} {es : List Emit} (h : Reach s es) :
    es.Pairwise (fun later earlier => earlier.endStream = true → earlier.id ≠ later.id) := by
  induction h with
  | init => exact List.Pairwise.nil
  | step hr st ih =>
    rename_i s0 a s1 e0 es0
    cases st with
    | wlSpend id rest pb htodo hpid hnr =>
      simp only [spendEmit]
      split
      · exact ih
      · simp only [Option.toList_some, List.singleton_append, List.pairwise_cons]
        refine ⟨?_, ih⟩
        intro e he hend heq
        have h1 := ended_recorded hr e he hend
        have h2 := ((reach_inv hr).endedP e.id h1).1
        rw [heq, hpid] at h2
        cases h2
    | _ => simpa using ih

/-- **upload_completes** (one step of it): a buffered body whose stream and connection windows cover it
goes out whole, with END_STREAM, in a single locked section -/
theorem covered_body_goes_out_whole (pb : PB) (cw : Int) (hm : pb.more = false) (hb : 0 < pb.body)
    (hw : (pb.body : Int) ≤ pb.window) (hc : (pb.body : Int) ≤ cw) :
    spend pb cw = pb.body := by
  simp only [spend, spendN]; omega

/-! ## frame sizes (`writeData`, shared with the serial model) -/

def frameLen : OutFrame → Nat
  | .data _ n _ => n
  | _ => 0

def frameEnd : OutFrame → Bool
  | .data _ _ e => e
  | _ => false

theorem dataFrames_spec (sid step : Nat) (hstep : 0 < step) :
    ∀ fuel n endS, n < fuel + 1 → 0 < n →
      (∀ f ∈ dataFrames sid step fuel n endS, frameLen f ≤ step ∧ 0 < frameLen f) ∧
      ((dataFrames sid step fuel n endS).map frameLen).sum = n ∧
      ((dataFrames sid step fuel n endS).filter frameEnd).length = (if endS then 1 else 0) := by
  intro fuel
  induction fuel with
  | zero => intro n endS h1 h2; omega
  | succ k ih =>
    intro n endS h1 h2
    simp only [dataFrames]
    split
    · rename_i hle
      refine ⟨?_, by simp [frameLen], by cases endS <;> simp [frameEnd, List.filter]⟩
      intro f hf; simp only [List.mem_singleton] at hf; subst hf; exact ⟨hle, h2⟩
    · rename_i hgt
      have := ih (n - step) endS (by omega) (by omega)
      obtain ⟨a, b, c⟩ := this
      refine ⟨?_, ?_, ?_⟩
      · intro f hf
        simp only [List.mem_cons] at hf
        rcases hf with hf | hf
        · subst hf; simp only [frameLen]; omega
        · exact a f hf
      · simp only [List.map_cons, List.sum_cons, frameLen, b]; omega
      · simp only [List.filter_cons, frameEnd]; simpa using c

/-- **DATA ≤ MAX_FRAME_SIZE, body intact, END_STREAM once**: `writeData` cuts `n` octets into frames no
larger than the `maxFrameSize` the connection holds for the server (`Settings.Read` only admits
2^14 … 2^24-1, so the clamp to the default is never what decides), their lengths add up to `n`, and
exactly one frame carries END_STREAM when the body ends here. -/
theorem data_frames_within_max (c : Conn) (sid n : Nat) (endS : Bool) (hn : 0 < n)
    (hm : 0 < c.maxFrameSize ∧ c.maxFrameSize ≤ Gen.c_maxFrameSize) :
    (∀ f ∈ writeData c sid n endS, frameLen f ≤ c.maxFrameSize) ∧
    ((writeData c sid n endS).map frameLen).sum = n ∧
    ((writeData c sid n endS).filter frameEnd).length = (if endS then 1 else 0) := by
  have h0 : ¬ (c.maxFrameSize == 0 || decide (c.maxFrameSize > Gen.c_maxFrameSize)) = true := by
    simp; omega
  have hn0 : (n == 0) = false := by simp; omega
  simp only [writeData, h0, hn0, Bool.false_eq_true, if_false]
  have := dataFrames_spec sid c.maxFrameSize hm.1 (n + 1) n endS (by omega) hn
  exact ⟨fun f hf => (this.1 f hf).1, this.2.1, this.2.2⟩

/-! ## non-vacuity -/

def pb0 : PB := ⟨(Gen.c_defaultWindowSize : Nat), 10, false, (Gen.c_defaultWindowSize : Nat)⟩

def s1 : S :=
  { setP init 1 (some { window := init.streamWindow, body := 10, more := false, allow := init.streamWindow }) with
    todo := [1], used := fun j => if j = 1 then true else init.used j }

theorem reach1 : Reach s1 (none.toList ++ []) :=
  Reach.step Reach.init (Step.wlRegister init 1 10 false rfl rfl (Or.inl (by decide)))

/-- a reachable state with an emission: register stream 1 with 10 octets, run the locked section; the
hypotheses of `never_overdraw_c` are met with a non-empty history -/
example : ∃ s es, Reach s es ∧ ∃ e ∈ es, e.n = 10 ∧ e.endStream = true :=
  ⟨_, _, Reach.step reach1 (Step.wlSpend s1 1 [] pb0 rfl rfl (by decide)),
    ⟨1, 10, true, (Gen.c_defaultWindowSize : Nat), (Gen.c_defaultWindowSize : Nat)⟩, by decide, rfl, rfl⟩

/-- `Sendable` is satisfiable in a reachable state (so `no_lost_wakeup` says something) -/
example : ∃ s es id pb, Reach s es ∧ s.pending id = some pb ∧ Sendable s pb :=
  ⟨_, _, 1, pb0, reach1, rfl, by decide, by decide, by decide⟩

/-! ## finding F48 (fixed): the window of a new body was read outside `sendLck`

With the read and the registration as separate atomic actions, a SETTINGS change between them leaves
the new body with the old window: the write loop reads 65 535, the server lowers
INITIAL_WINDOW_SIZE to 0, the body is registered with 65 535 and ten octets go out on a stream whose
allowance is 0. After the fix the read happens under the lock (`Step.wlRegister`) and
`never_overdraw_c` holds. The race itself was confirmed on the real code with the race detector
(findings/F48-race-detector-before.txt). -/
theorem F48_prefix_witness : ∃ s es, ReachOld s es ∧ ∃ e ∈ es, ¬ Within e := by
  let sA : S := { init with winTok := true, streamWindow := (0 : Nat),
                            pending := fun j => (init.pending j).map fun pb =>
                              { pb with window := wrap32 (pb.window + wrap32 (((0 : Nat) : Int) - init.streamWindow)),
                                        allow := pb.allow + (((0 : Nat) : Int) - init.streamWindow) } }
  have r1 : ReachOld (init, some init.streamWindow) _ := ReachOld.step ReachOld.init (StepOld.readSW init none rfl)
  have r2 : ReachOld (sA, some init.streamWindow) _ := ReachOld.step r1 (StepOld.std (Step.rdSettingsWindow init 0 (by decide)))
  have r3 : ReachOld (registerWith sA 1 10 false init.streamWindow, none) _ :=
    ReachOld.step r2 (StepOld.registerStale sA 1 10 false init.streamWindow rfl rfl (Or.inl (by decide)))
  have r4 := ReachOld.step r3 (StepOld.std (w := none)
    (Step.wlSpend (registerWith sA 1 10 false init.streamWindow) 1 [] ⟨init.streamWindow, 10, false, (0 : Nat)⟩ rfl rfl (by decide)))
  refine ⟨_, _, r4, ⟨1, 10, true, (0 : Nat), (Gen.c_defaultWindowSize : Nat)⟩, by decide, ?_⟩
  intro h
  have := h (by decide)
  simp at this

/-! ## the FULL serial model (`H2.Client.step`, the one the correspondence check compares with `conn.go`): every run

State form: ghost ledgers `Led` are stepped beside the
connection (`gstep`, `grun`), and they are moved ONLY by what the connection receives and writes:
`connInc`/`strInc sid` by the increments of the WINDOW_UPDATE frames the read loop goes through (the frames `splitFrames`
cuts out of the `bytes` events, as far as `rdFrames` reads them), `iws` by the SETTINGS_INITIAL_WINDOW_SIZE of the SETTINGS
frames among them (initially the value of the handshake), `connSent`/`strSent sid` by the lengths of the `.data` frames
in the outputs (`Full.sent_ledgers_are_the_outputs`). The invariant `FL` (`H2/Proofs/ClientRunFlow.lean`) ties the
`int32` windows `connWindow`, `pending[*].window` to them, wrap-around included. No hypothesis on the server: increments
that overflow a window and INITIAL_WINDOW_SIZE changes of any size `Settings.Read` lets through are covered. -/

section FullModel
open H2.Client

/-- **Full.data_within_windows**: in any run from the connection the driver creates, after EVERY step
(1) the DATA octets written on the connection so far are at most 65 535 plus all increments received on stream 0;
(2) for every stream on which the step wrote DATA octets, the octets written on it so far are at most the
INITIAL_WINDOW_SIZE in force plus the increments received for it (RFC 9113 6.9.1/6.9.2: the stream's window, with the
SETTINGS adjustments, was not overdrawn by the frames of this step);
(3) no DATA frame of the step is longer than the MAX_FRAME_SIZE the connection holds. -/
theorem Full.data_within_windows (c : Conn) (h : InitF c) (evs : List Event) :
    GAll (fun g c e =>
      ((gstep g c e).connSent : Int) ≤ 65535 + (gstep g c e).connInc ∧
      (∀ sid, 0 < dataOn sid (outFrames (step c e).2) →
        ((gstep g c e).strSent sid : Int) ≤ (gstep g c e).iws + (gstep g c e).strInc sid) ∧
      (∀ sid len es, OutFrame.data sid len es ∈ outFrames (step c e).2 → len ≤ (step c e).1.maxFrameSize))
      (Led.init c) c evs := by
  refine GAll.imp ?_ evs _ _ (gall_stepOK evs _ _ (fl_init h))
  intro g c e ok
  refine ⟨ok.1.connLe, ?_, fun sid len es hm => ok.2.2 _ hm⟩
  intro sid hs
  have := ok.2.1 sid hs
  simpa [gstep, Led.wrote] using this

/-- **Full.windows_follow_ledgers**: in every reachable state the connection window is at most what the ledgers leave
(65 535 + increments − DATA written) and DATA written is at most 65 535 + increments; every body that waits has a window
of at most INITIAL_WINDOW_SIZE + increments − DATA written on its stream -/
theorem Full.windows_follow_ledgers (c : Conn) (h : InitF c) (evs : List Event) :
    let g := (grun (Led.init c) c evs).1
    let c' := (run c evs).1
    c'.connWindow ≤ 65535 + (g.connInc : Int) - g.connSent ∧ (g.connSent : Int) ≤ 65535 + g.connInc ∧
    ∀ p ∈ c'.pending, p.2.window ≤ g.iws + g.strInc p.1 - g.strSent p.1 := by
  intro g c'
  have hfl := grun_fl evs _ _ (fl_init h)
  rw [grun_conn] at hfl
  exact ⟨hfl.conn, hfl.connLe, fun p hp => (hfl.ent p hp).wok.le⟩

/-- **Full.sent_ledgers_are_the_outputs**: the `sent` ledgers are nothing but the DATA frames of the run's outputs: in
total and per stream -/
theorem Full.sent_ledgers_are_the_outputs (c : Conn) (evs : List Event) :
    (grun (Led.init c) c evs).1.connSent = dataAll (runFrames (run c evs).2) ∧
    ∀ sid, (grun (Led.init c) c evs).1.strSent sid = dataOn sid (runFrames (run c evs).2) := by
  obtain ⟨a, b⟩ := grun_sent evs (Led.init c) c
  exact ⟨by rw [a]; simp [Led.init], fun sid => by rw [b sid]; simp [Led.init]⟩

/-- **Full.total_data_within_connection_window**: the two together, without ghosts on the left: the DATA octets of all
frames written in a run are at most 65 535 plus the increments the ledger has counted on stream 0 -/
theorem Full.total_data_within_connection_window (c : Conn) (h : InitF c) (evs : List Event) :
    (dataAll (runFrames (run c evs).2) : Int) ≤ 65535 + (grun (Led.init c) c evs).1.connInc := by
  have := (grun_fl evs _ _ (fl_init h)).connLe
  rw [(Full.sent_ledgers_are_the_outputs c evs).1] at this
  exact this

/-- **Full.received_ledgers_are_the_frames**: the `received` ledgers are nothing but the increments of the WINDOW_UPDATE
frames the read loop went through in the run (`runTaken`: the frames `splitFrames` cuts out of the `bytes` events, up to
where `rdFrames` stops): those on stream 0 for the connection, those on `sid` for the stream -/
theorem Full.received_ledgers_are_the_frames (c : Conn) (evs : List Event) :
    (grun (Led.init c) c evs).1.connInc = ((runTaken c evs).map (wuOn 0)).sum ∧
    ∀ sid, sid ≠ 0 → (grun (Led.init c) c evs).1.strInc sid = ((runTaken c evs).map (wuOn sid)).sum := by
  obtain ⟨a, b⟩ := grun_inc evs (Led.init c) c
  exact ⟨by rw [a]; simp [Led.init], fun sid hs => by rw [b sid hs]; simp [Led.init]⟩

/-- **Full.iws_ledger_is_the_settings_history**: the INITIAL_WINDOW_SIZE ledger is the fold of `Led.recv` over the frames
the read loop went through: the value of the last SETTINGS frame (not an acknowledgement) among them that carries
INITIAL_WINDOW_SIZE, the handshake's value if there is none -/
theorem Full.iws_ledger_is_the_settings_history (c : Conn) (evs : List Event) :
    (grun (Led.init c) c evs).1.iws = ((runTaken c evs).foldl Led.recv (Led.init c)).iws :=
  grun_iws evs _ _

/-- **Full.connection_flow_control**, no ghost left: in any run, the DATA octets of all frames the client writes are at
most 65 535 plus the increments of all WINDOW_UPDATE frames on stream 0 its read loop went through -/
theorem Full.connection_flow_control (c : Conn) (h : InitF c) (evs : List Event) :
    dataAll (runFrames (run c evs).2) ≤ 65535 + ((runTaken c evs).map (wuOn 0)).sum := by
  have h1 := Full.total_data_within_connection_window c h evs
  rw [(Full.received_ledgers_are_the_frames c evs).1] at h1
  omega

/-- what `Drv.handshake` builds satisfies the hypothesis -/
theorem Full.handshake_gives_init (b : Bytes) (c : Conn) (h : Drv.handshake b = some c) : InitF c := handshake_initF h

/-! ### non-vacuity: a body of 70 000 octets against the default windows, two WINDOW_UPDATEs, a SETTINGS change -/

def fullBodyReq : ReqSpec :=
  { tag := "a", method := [80, 79, 83, 84], scheme := [104, 116, 116, 112, 115], host := [104], path := [47], ua := [117],
    hdrs := [], body := .buf 70000 }

/-- WINDOW_UPDATE on stream 0, increment 10 000 -/
def fullWu0 : List Nat := [0, 0, 4, 8, 0, 0, 0, 0, 0, 0, 0, 0x27, 0x10]
/-- WINDOW_UPDATE on stream 1, increment 3 000 -/
def fullWu1 : List Nat := [0, 0, 4, 8, 0, 0, 0, 0, 1, 0, 0, 0x0b, 0xb8]
/-- SETTINGS, INITIAL_WINDOW_SIZE = 66 535 -/
def fullSt : List Nat := [0, 0, 6, 4, 0, 0, 0, 0, 0, 0, 4, 0, 1, 0x03, 0xe7]

def fullRun : List Event := [.req fullBodyReq, .bytes fullWu0, .bytes fullWu1, .bytes fullSt]

example : InitF ({} : Conn) := initF_default

/-- the DATA frames written, step by step: 65 535 octets in frames of at most 16 384, nothing for the connection window
alone, 3 000 after the stream's WINDOW_UPDATE, 1 000 after INITIAL_WINDOW_SIZE went up by 1 000 -/
example : (run {} fullRun).2.map (fun o => (outFrames o).map dataLen) =
    [[0, 16384, 16384, 16384, 16383], [], [3000], [0, 1000]] := by decide +kernel

/-- the ledgers at the end: every stream octet allowed has been used (69 535 = 66 535 + 3 000), the connection keeps
6 000 (75 535 − 69 535) -/
example : (grun (Led.init {}) {} fullRun).1.iws = 66535 ∧ (grun (Led.init {}) {} fullRun).1.connInc = 10000 ∧
    (grun (Led.init {}) {} fullRun).1.connSent = 69535 ∧ (grun (Led.init {}) {} fullRun).1.strInc 1 = 3000 ∧
    (grun (Led.init {}) {} fullRun).1.strSent 1 = 69535 ∧ (run {} fullRun).1.connWindow = 6000 := by decide +kernel

/-- the three frames the read loop went through, and the octets written against them: 69 535 ≤ 65 535 + 10 000 -/
example : (runTaken {} fullRun).length = 3 ∧ ((runTaken {} fullRun).map (wuOn 0)).sum = 10000 ∧
    ((runTaken {} fullRun).map (wuOn 1)).sum = 3000 ∧ dataAll (runFrames (run {} fullRun).2) = 69535 := by decide +kernel

end FullModel

end H2.Props.C07
