import H2.Proofs.ClientSerial
/-!
# C14 (client half) — the client hands receive-window credit back

Serial model of the read loop's DATA path. `readLoop` counts **every** DATA frame against the connection
window before it looks for the request waiting on the stream (`consumeConnWindow`): the window is topped
back up to its maximum as soon as less than half is left, so the server's outstanding (sent, not credited)
octets never exceed half the window, whether the stream is still waited on, was reset, timed out or has
finished. `readStream` credits the stream with the whole frame, padding included, whenever the frame is
not empty.

Until the repair of F39 the connection window was only touched behind the stream lookup and the stream credit was tied
to the frame carrying data; `C14c_full` was refuted then. Those inputs are the regression examples `F39_regression_*`.
-/
namespace H2.Props.C14c

open H2.Client

def dataFrame (sid len : Nat) (es : Bool) (d : Bytes) : Frame.Frame :=
  ⟨Gen.c_FrameData, (if es then 1 else 0), sid, len, .data es d⟩

/-- outstanding connection credit as the server sees it -/
def outstanding (c : Conn) : Int := maxWindow - c.currentWindow

/-- frames queued by a step -/
def newOut (c c' : Conn) : List OutFrame := c'.outQ.drop c.outQ.length

theorem settle_ledger (c : Conn) (tag : String) (sid : Nat) (err : Option Err) (endS : Bool) :
    (settle c tag sid err endS).1.outQ = c.outQ ∧ (settle c tag sid err endS).1.currentWindow = c.currentWindow := by
  rcases settle_cases c tag sid err endS with h | ⟨e, h⟩
  · rw [h]; exact ⟨rfl, rfl⟩
  · obtain ⟨_, h'⟩ := finish_eq c tag sid e
    rw [h, h']; exact ⟨rfl, rfl⟩

theorem readStream_data (c : Conn) (tag : String) (r : Req) (sid len : Nat) (es : Bool) (d : Bytes) :
    (readStream c tag r (dataFrame sid len es d)).1.outQ = c.outQ ++ (if len != 0 then [.windowUpdate sid len] else []) ∧
    (readStream c tag r (dataFrame sid len es d)).1.currentWindow = c.currentWindow ∧
    (readStream c tag r (dataFrame sid len es d)).2 = none := by
  simp only [readStream, dataFrame, queueOut, updReq]
  by_cases hd : (d.length != 0) = true <;> by_cases hl : (len != 0) = true <;> simp [hd, hl]

/-- what `dispatch` does with a DATA frame, as far as the receive ledger goes: the connection window is
left alone, at most the stream's WINDOW_UPDATE is queued -/
theorem dispatch_data (c : Conn) (sid len : Nat) (es : Bool) (d : Bytes) :
    (dispatch c (dataFrame sid len es d)).1.currentWindow = c.currentWindow ∧
    ((dispatch c (dataFrame sid len es d)).1.outQ = c.outQ ∨
     (len ≠ 0 ∧ (dispatch c (dataFrame sid len es d)).1.outQ = c.outQ ++ [.windowUpdate sid len])) := by
  rcases dispatch_cases c (dataFrame sid len es d) with h | ⟨_, _, _, _, _, h⟩ | ⟨tag, r, _, _, _, h⟩ <;> rw [h]
  · exact ⟨rfl, .inl rfl⟩
  · exact ⟨rfl, .inl rfl⟩
  · -- a DATA frame is no header block: `prepare` leaves the connection as it is
    have hp : (prepare c (dataFrame sid len es d)).1 = c := by
      simp [prepare, noteHeaders, endsBlock, dataFrame, Gen.c_FrameData, Gen.c_FrameHeaders, Gen.c_FrameContinuation]
    obtain ⟨hq, hw, _⟩ := readStream_data c tag r sid len es d
    obtain ⟨sq, sw⟩ := settle_ledger (readStream c tag r (dataFrame sid len es d)).1 tag sid
      (readStream c tag r (dataFrame sid len es d)).2 (prepare c (dataFrame sid len es d)).2
    rw [hp]
    refine ⟨sw.trans hw, ?_⟩
    show (settle _ tag sid _ _).1.outQ = _ ∨ _ ∧ (settle _ tag sid _ _).1.outQ = _
    rw [sq, hq]
    cases hl : len != 0
    · exact .inl (List.append_nil _)
    · exact .inr ⟨by simpa using hl, rfl⟩

/-- failing the requests a GOAWAY leaves out does not touch the receive ledger -/
theorem dispatchLoop_ledger (c : Conn) (f : Frame.Frame) :
    (dispatchLoop c f).1.outQ = (dispatch c f).1.outQ ∧
    (dispatchLoop c f).1.currentWindow = (dispatch c f).1.currentWindow := by
  simp only [dispatchLoop, afterGoAway]
  split
  · obtain ⟨_, _, _, _, h⟩ := refuseAbove_eq (dispatch c f).1.reqQueued (dispatch c f).1
    rw [h]; exact ⟨rfl, rfl⟩
  · exact ⟨rfl, rfl⟩

theorem drop_own_length {α} (a l : List α) : (a ++ l).drop a.length = l := by simp

theorem connCredit_append (a b : List OutFrame) : connCredit (a ++ b) = connCredit a + connCredit b := by
  simp [connCredit]

theorem connCredit_conn (inc : Nat) : connCredit [.windowUpdate 0 inc] = inc := rfl

theorem connCredit_stream {sid : Nat} (inc : Nat) (h : sid ≠ 0) : connCredit [.windowUpdate sid inc] = 0 := by
  show (if sid = 0 then inc else 0) + 0 = 0
  rw [if_neg h]

/-- `consumeConnWindow`: below half the window it tops the window up and queues the WINDOW_UPDATE that says so -/
theorem consume_cases (c : Conn) (n : Nat) :
    (c.currentWindow - n < maxWindow / 2 ∧ consumeConnWindow c n =
      { c with currentWindow := maxWindow, outQ := c.outQ ++ [.windowUpdate 0 (maxWindow - (c.currentWindow - n)).toNat] }) ∨
    (¬ c.currentWindow - n < maxWindow / 2 ∧ consumeConnWindow c n = { c with currentWindow := c.currentWindow - n }) := by
  unfold consumeConnWindow
  by_cases h : c.currentWindow - n < maxWindow / 2
  · exact .inl ⟨h, if_pos h⟩
  · exact .inr ⟨h, if_neg h⟩

/-- `consumeConnWindow` moves the ledger by exactly `n` minus what it credits back, leaves at most half the window
outstanding, and what it queues has a positive increment -/
theorem consume_conservation (c : Conn) (n : Nat) :
    outstanding (consumeConnWindow c n) + connCredit (newOut c (consumeConnWindow c n)) = outstanding c + n ∧
    outstanding (consumeConnWindow c n) ≤ maxWindow / 2 ∧
    ∀ f ∈ newOut c (consumeConnWindow c n), ∃ inc, f = .windowUpdate 0 inc ∧ 0 < inc := by
  have hm : maxWindow = 1048576 := rfl
  rcases consume_cases c n with ⟨h, e⟩ | ⟨h, e⟩ <;> rw [e] <;> simp only [outstanding, newOut]
  · rw [drop_own_length, connCredit_conn]
    exact ⟨by omega, by omega, fun f hf => ⟨_, List.mem_singleton.mp hf, by omega⟩⟩
  · rw [List.drop_length]
    exact ⟨by show _ + ((0 : Nat) : Int) = _; omega, by omega, fun f hf => nomatch hf⟩

/-- the read loop's step on a DATA frame of a stream other than 0: `consumeConnWindow`, then at most the stream's
WINDOW_UPDATE is queued; the connection window is not touched again -/
theorem rdFrame_data (c : Conn) (sid len : Nat) (es : Bool) (d : Bytes) (hsid : sid ≠ 0) :
    (rdFrame c (dataFrame sid len es d)).1.currentWindow = (consumeConnWindow c len).currentWindow ∧
    ∃ l, newOut c (rdFrame c (dataFrame sid len es d)).1 = newOut c (consumeConnWindow c len) ++ l ∧
      (l = [] ∨ (len ≠ 0 ∧ l = [.windowUpdate sid len])) := by
  have e : (rdFrame c (dataFrame sid len es d)).1 = (dispatchLoop (consumeConnWindow c len) (dataFrame sid len es d)).1 := by
    simp [rdFrame, dataFrame, hsid]
  obtain ⟨h1, h2⟩ := dispatchLoop_ledger (consumeConnWindow c len) (dataFrame sid len es d)
  obtain ⟨hw, hq⟩ := dispatch_data (consumeConnWindow c len) sid len es d
  have hc : ∃ l0, (consumeConnWindow c len).outQ = c.outQ ++ l0 := by
    rcases consume_cases c len with ⟨_, e⟩ | ⟨_, e⟩ <;> rw [e]
    · exact ⟨_, rfl⟩
    · exact ⟨[], (List.append_nil _).symm⟩
  obtain ⟨l0, hl0⟩ := hc
  rw [e, h2, hw]
  refine ⟨rfl, ?_⟩
  simp only [newOut, h1, hl0, drop_own_length]
  rcases hq with hq | ⟨hlen, hq⟩ <;> rw [hq, hl0]
  · exact ⟨[], by rw [drop_own_length, List.append_nil], .inl rfl⟩
  · exact ⟨_, by rw [List.append_assoc, drop_own_length], .inr ⟨hlen, rfl⟩⟩

/-- full statement: every DATA frame the server sends, on whatever stream (waited on, reset, timed out,
finished, never opened), is counted against the connection window and credited back -/
def C14c_full : Prop :=
  ∀ (c : Conn) (sid len : Nat) (es : Bool) (d : Bytes), sid ≠ 0 →
    let c' := (rdFrame c (dataFrame sid len es d)).1
    outstanding c' + connCredit (newOut c c') = outstanding c + len ∧ outstanding c' ≤ maxWindow / 2

/-- **credit_conservation (connection)**, at full strength -/
theorem credit_conservation : C14c_full := by
  intro c sid len es d hsid
  obtain ⟨hw, l, hl, hcase⟩ := rdFrame_data c sid len es d hsid
  obtain ⟨h1, h2, _⟩ := consume_conservation c len
  -- a stream's WINDOW_UPDATE is no connection credit
  have h0 : connCredit l = 0 := by
    rcases hcase with rfl | ⟨_, rfl⟩
    · rfl
    · exact connCredit_stream len hsid
  simp only [outstanding, hw, hl, connCredit_append, h0] at h1 h2 ⊢
  exact ⟨by omega, h2⟩

/-- **stream credit**: a DATA frame on a stream the client waits on is credited on that stream with its
whole length, padding included, also when it carries no data at all; an empty frame queues nothing -/
theorem stream_credit (c : Conn) (tag : String) (r : Req) (sid len : Nat) (es : Bool) (d : Bytes) :
    (readStream c tag r (dataFrame sid len es d)).1.outQ =
      c.outQ ++ (if len != 0 then [.windowUpdate sid len] else []) :=
  (readStream_data c tag r sid len es d).1

/-- **no_zero_increment**: the connection increment is more than half the window, a stream increment is the
length of a non-empty frame -/
theorem increments_positive (c : Conn) (sid len : Nat) (es : Bool) (d : Bytes) (hsid : sid ≠ 0) :
    ∀ f ∈ newOut c (rdFrame c (dataFrame sid len es d)).1,
      match f with
      | .windowUpdate _ inc => 0 < inc
      | _ => True := by
  intro f hf
  obtain ⟨_, l, hl, hcase⟩ := rdFrame_data c sid len es d hsid
  rw [hl] at hf
  rcases List.mem_append.mp hf with hf | hf
  · obtain ⟨inc, rfl, hpos⟩ := (consume_conservation c len).2.2 f hf
    exact hpos
  · rcases hcase with rfl | ⟨hlen, rfl⟩
    · cases hf
    · cases List.mem_singleton.mp hf
      exact Nat.pos_of_ne_zero hlen

/-- the window never goes above its maximum (2^20, far below 2^31-1) -/
theorem never_above_max (c : Conn) (sid len : Nat) (es : Bool) (d : Bytes) (hsid : sid ≠ 0)
    (h0 : c.currentWindow ≤ maxWindow) :
    (rdFrame c (dataFrame sid len es d)).1.currentWindow ≤ maxWindow := by
  rw [(rdFrame_data c sid len es d hsid).1]
  rcases consume_cases c len with ⟨_, e⟩ | ⟨_, e⟩ <;> rw [e]
  · exact Int.le_refl _
  · show c.currentWindow - len ≤ maxWindow
    omega

/-! ## any sequence of DATA frames -/

/-- the read loop over DATA frames `(stream, length, END_STREAM, data)` -/
def recvAll (c : Conn) : List (Nat × Nat × Bool × Bytes) → Conn
  | [] => c
  | (sid, len, es, d) :: fs => recvAll (rdFrame c (dataFrame sid len es d)).1 fs

/-- whatever the server sends and whatever has become of the streams, after every frame at most half the
connection window is outstanding -/
theorem never_starves (fs : List (Nat × Nat × Bool × Bytes)) (hs : ∀ x ∈ fs, x.1 ≠ 0) :
    ∀ c, outstanding c ≤ maxWindow / 2 → outstanding (recvAll c fs) ≤ maxWindow / 2 := by
  induction fs with
  | nil => intro c h; exact h
  | cons x xs ih =>
    intro c _
    obtain ⟨sid, len, es, d⟩ := x
    have h1 : sid ≠ 0 := hs (sid, len, es, d) (by simp)
    exact ih (fun y hy => hs y (by simp [hy])) _ (credit_conservation c sid len es d h1).2

/-! ## the inputs of finding F39 as regression examples -/

/-- DATA on a stream the client does not wait on is counted: the ledger moves although `dispatch` finds nobody -/
theorem F39_regression_counted (c : Conn) (sid len : Nat) (es : Bool) (d : Bytes) (hsid : sid ≠ 0)
    (_h : lookupA c.reqQueued sid = none) :
    let c' := (rdFrame c (dataFrame sid len es d)).1
    outstanding c' + connCredit (newOut c c') = outstanding c + len :=
  (credit_conservation c sid len es d hsid).1

/-- the counterexample of F39: ten octets on stream 1 of a connection with no request -/
example : outstanding (rdFrame {} (dataFrame 1 10 false [1, 2, 3, 4, 5, 6, 7, 8, 9, 10])).1 = 10 := by decide

/-- a padded DATA frame with no data gets its stream WINDOW_UPDATE -/
theorem F39_regression_padded_empty (c : Conn) (tag : String) (r : Req) (sid len : Nat) (hl : len ≠ 0) :
    (readStream c tag r (dataFrame sid len false [])).1.outQ = c.outQ ++ [.windowUpdate sid len] := by
  rw [stream_credit]; simp [hl]

/-- non-vacuity: a frame on a stream nobody waits on triggers the top-up -/
example : ∃ c : Conn, outstanding c ≤ maxWindow / 2 ∧ lookupA c.reqQueued 1 = none ∧
    connCredit (newOut c (rdFrame c (dataFrame 1 16384 false [1])).1) > 0 :=
  ⟨{ currentWindow := 530000 }, by decide, by decide, by decide⟩

end H2.Props.C14c
