import H2.Proofs.MsgRefineFrames
import H2.Proofs.MsgRefineReq
import H2.Proofs.MsgRefineDecide
import H2.Proofs.Msg
import H2.Proofs.MsgRefine
/-!
# C20 (server half) — malformed requests are rejected; well-formed ones are all accepted

Theorems about `H2.Server.Msg.validate`: the field loop of `handleHeaderFrame`, `validateRequestPseudoHeaders`
and the content-length-vs-DATA test at dispatch (`serverConn.go`), on the decoded header list `hs`, the
decoded trailer list `trailers` and the number `dataLen` of DATA octets received. The model is tied to the
code by the lockstep run `H2.Server.Lock.Msg` beside the full server model (per header fragment: same verdict
or same per-stream flags; per request: same verdict and same request view).
`WFRequest` is RFC 7540 §8.1.2 as in DESIGN.md Appendix D2 (`H2.Server.MsgSpec`).

Hypotheses, both as the property text has them:
* `WithinLimits`: header list within MaxHeaderListSize, DATA and every declared length within
  MaxRequestBodySize (exceeding a limit is answered, by design, with ENHANCE_YOUR_CALM);
* `NoTrailerCL`: vocabulary — no `content-length` among the trailers (RFC 7230 §4.1.2 forbids it there and
  neither RFC fixes its treatment; what the code does with one is `trailer_content_length` below).

All header lists, of any length. (F60 two disagreeing content-length fields, F61 pseudo-header in trailers:
fixed in the library, the model follows the repaired code, so the statements are the full ones.)
-/
namespace H2.Props.C20
open H2.Server.Msg H2.Server.MsgSpec

/-- **dispatched iff well-formed** -/
theorem dispatched_iff_wf (cfg : Cfg) (hs trailers : List Field) (dataLen : Nat)
    (hl : WithinLimits cfg hs trailers dataLen) (hv : NoTrailerCL trailers) :
    validate cfg hs trailers dataLen = .dispatch ↔ WFRequest hs trailers dataLen :=
  H2.Server.Msg.dispatched_iff_wf cfg hs trailers dataLen hl hv

/-- **otherwise that stream alone is refused**: within the limits the verdict is either dispatch or
RST_STREAM(PROTOCOL_ERROR) — never a connection error, no other code (no vocabulary hypothesis needed) -/
theorem refused_stream_scoped (cfg : Cfg) (hs trailers : List Field) (dataLen : Nat)
    (hl : WithinLimits cfg hs trailers dataLen) :
    validate cfg hs trailers dataLen = .dispatch ∨ validate cfg hs trailers dataLen = .rst Gen.c_ProtocolError :=
  H2.Server.Msg.refused_stream_scoped cfg hs trailers dataLen hl

/-- so: a request that is not well-formed gets RST_STREAM(PROTOCOL_ERROR) and the handler never runs -/
theorem malformed_refused (cfg : Cfg) (hs trailers : List Field) (dataLen : Nat)
    (hl : WithinLimits cfg hs trailers dataLen) (hv : NoTrailerCL trailers) (h : ¬ WFRequest hs trailers dataLen) :
    validate cfg hs trailers dataLen = .rst Gen.c_ProtocolError := by
  rcases refused_stream_scoped cfg hs trailers dataLen hl with h1 | h1
  · exact absurd ((dispatched_iff_wf cfg hs trailers dataLen hl hv).mp h1) h
  · exact h1

/-- outside the limits too the message never costs more than its stream, except for a header list over
MaxHeaderListSize, which is answered with GOAWAY(ENHANCE_YOUR_CALM) by design -/
theorem connection_error_only_for_list_size (cfg : Cfg) (hs trailers : List Field) (dataLen : Nat) (c : Nat)
    (h : validate cfg hs trailers dataLen = .goAway c) :
    c = Gen.c_EnhanceYourCalm ∧ ¬ sizeWithin cfg (total (hs ++ trailers)) :=
  goaway_only_for_list_size cfg hs trailers dataLen c h

/-- outside the vocabulary: a `content-length` among the trailers is held to the same rule as one in the
request block (it has to be a number equal to the DATA octets received, and to agree with an earlier one) -/
theorem trailer_content_length (cfg : Cfg) (hs trailers : List Field) (dataLen : Nat)
    (hl : WithinLimits cfg hs trailers dataLen) (h : validate cfg hs trailers dataLen = .dispatch) :
    ∀ f ∈ trailers, f.1 = sContentLength → Digits f.2 ∧ natVal f.2 = dataLen := by
  rw [validate_dispatch_iff] at h
  obtain ⟨st, h1, _, _, hacc⟩ := h
  rw [acc_iff cfg trailers _ dataLen (lim_trailers hl h1)] at hacc
  exact hacc.cl

/-- **the model is the full model's**: one iteration of `Msg.field` is, through the projection `msgSt`, exactly
`fieldVerdict` / `fieldUpdate` of the full server model `H2.Server.Model` (the body of `fieldLoop`, the mirror of
`handleHeaderFrame`'s loop that the correspondence check ties to the Go code) — proved for every stream state,
configuration and field, in addition to the lockstep runs. -/
theorem field_is_full_model (cfg : H2.Server.Cfg) (st : H2.Server.Strm) (f : H2.Hpack.Field) (hcl : 0 ≤ st.contentLength) :
    field (H2.Server.Lock.cfgOf cfg) (H2.Server.Lock.msgSt st) (f.name, f.value) =
      match H2.Server.fieldVerdict cfg st f with
      | none => .ok (H2.Server.Lock.msgSt (H2.Server.fieldUpdate st f))
      | some e => .error (H2.Server.Lock.absErr e) :=
  H2.Server.Lock.field_refines cfg st f hcl

/-! ## non-vacuity: a well-formed POST with a body and trailers is inside the hypotheses and is dispatched;
dropping `:scheme`, or declaring a different length, or a pseudo-header among the trailers, is refused -/

def clField (v : Bytes) : Field := (Gen.s_StringContentLength, v)
/-- `:method POST, :scheme https, :path /p, content-length 3, te trailers` -/
def demoHs : List Field :=
  [(Gen.s_StringMethod, [80, 79, 83, 84]), (Gen.s_StringScheme, [104, 116, 116, 112, 115]), (Gen.s_StringPath, [47, 112]),
   clField [51], (Gen.s_StringTE, Gen.s_StringTrailers)]
/-- `x-t 1` -/
def demoTr : List Field := [([120, 45, 116], [49])]

example : validate {} demoHs demoTr 3 = .dispatch := by decide +kernel
example : validate {} (demoHs.eraseIdx 1) demoTr 3 = .rst Gen.c_ProtocolError := by decide +kernel
example : validate {} demoHs demoTr 5 = .rst Gen.c_ProtocolError := by decide +kernel
example : validate {} demoHs [(Gen.s_StringAuthority, [101, 118, 105, 108])] 3 = .rst Gen.c_ProtocolError := by decide +kernel
example : validate {} (demoHs ++ [clField [53]]) demoTr 3 = .rst Gen.c_ProtocolError := by decide +kernel

theorem demo_limits : WithinLimits {} demoHs demoTr 3 := by
  refine ⟨by unfold sizeWithin; decide +kernel, by decide +kernel, ?_, by decide +kernel⟩
  intro _ f hf hk _
  have : f = clField [51] := by
    simp only [demoHs, demoTr, List.cons_append, List.nil_append, List.mem_cons, List.not_mem_nil, or_false] at hf
    rcases hf with rfl | rfl | rfl | rfl | rfl | rfl <;> first | rfl | exact absurd hk (by decide +kernel)
  subst this; decide +kernel

theorem demo_vocab : NoTrailerCL demoTr := by unfold NoTrailerCL; decide +kernel

/-- the hypotheses are satisfiable and the equivalence is used in the interesting direction: the demo request
is well-formed because the model dispatches it -/
example : WFRequest demoHs demoTr 3 :=
  (dispatched_iff_wf {} demoHs demoTr 3 demo_limits demo_vocab).mp (by decide +kernel)

/-! ## the message model abstracts the full server model beyond the single field step -/

section FullModel
open H2.Server H2.Server.Lock

/-- **loop refinement**: on the octets of one header-bearing frame the full model's `fieldLoop` is, through `msgSt` / `absErr`,
`Msg.loop` over the fields the decoder yields from them (`decRun`), followed by what the end of the decoder's pass means
(`loopSpec`): same verdict — accepted, RST_STREAM with the same code, GOAWAY with the same code — and same per-stream state -/
theorem loop_is_full_model (fuel : Nat) (s : Srv) (st : Strm) (bs eh : Bool) (fp : Nat) (b : Bytes) (hcl : 0 ≤ st.contentLength) :
    absOut (fieldLoop fuel s st bs eh fp b) = loopSpec s.cfg eh (msgSt st) (decRun fuel s.dec bs fp b) :=
  fieldLoop_refines fuel s st bs eh fp b hcl

/-- **across frames**: a header block cut into HEADERS + CONTINUATION pieces and fed through the `prevHdr` carry-over ends with
the verdict of the whole block in one frame and, when accepted, the same `msgSt` and decoder state. `cutsOK`: no piece leaves
more octets of an unfinished field than the server carries over (F68's bound), by design a different verdict -/
theorem split_is_whole (ps : List Bytes) (s : Srv) (st : Strm) (hne : ps ≠ []) (hg : st.Good) (hc : cutsOK s st ps) :
    absFin (feedBlock s st ps) = absFin (feedBlock s st [ps.flatten]) :=
  feedBlock_whole ps s st hne hg hc

/-- **decision**: at END_STREAM the full model's `dispatchOrSend` emits exactly one more output: the dispatch record with the
message model's request view when the message model's last clause (`content-length` against the octets received) says
dispatch, RST_STREAM(PROTOCOL_ERROR) otherwise -/
theorem decision_is_full_model (r : R) (uid : Nat) (st : Strm) (he : AtEnd st) (hg : st.Good) :
    (dispatchOrSend r uid st).out = r.out ++
      [match lastClause (msgSt st) st.recvBody with
       | .dispatch => dispOut st.id (msgSt st).view st.body
       | _ => .rst st.id Gen.c_ProtocolError] :=
  dispatchOrSend_decision r uid st he hg

/-- **the full model dispatches iff the request is well-formed** — for a request that is one HEADERS frame
(END_HEADERS | END_STREAM) on a stream the stream loop has just created (`Fresh`), whose block decodes completely to the
fields `fs` (`decRun … = (fs, .clean d)`), within the limits: the body of the stream loop (`knownStream`) hands the request to
the handler, with the request view of the message model, iff `WFRequest`; otherwise the handler never runs -/
theorem one_frame_dispatched_iff_wf (r : R) (uid : Nat) (fr : H2.Frame.Frame) (st : Strm) (prio : Option (Nat × Nat)) (frag : Bytes)
    (hg : r.getStrm uid = some st) (hf : Fresh st) (ht : fr.typ = Gen.c_FrameHeaders)
    (hb : fr.body = .headers true true prio frag) (heh : H2.Frame.hasFlag fr.flags Gen.c_FlagEndHeaders = true)
    (hes : H2.Frame.hasFlag fr.flags Gen.c_FlagEndStream = true)
    (hprio : ∀ dep w, prio = some (dep, w) → (dep == st.id) = false)
    (hp : headersPrelude r fr = (r, true))
    (fs : List H2.Hpack.Field) (d : H2.Hpack.DecState) (hdec : decRun (frag.length + 1) r.s.dec true 0 frag = (fs, .clean d))
    (hl : WithinLimits (cfgOf r.s.cfg) (fs.map kv) [] 0) :
    (WFRequest (fs.map kv) [] 0 →
      ∃ v, requestView (cfgOf r.s.cfg) (fs.map kv) [] 0 = some v ∧
        (knownStream r uid fr false).out = r.out ++ [dispOut st.id v st.body]) ∧
    (¬ WFRequest (fs.map kv) [] 0 →
      (∃ e, (handleFrame r uid fr).2 = some e ∧ absErr e = .rst Gen.c_ProtocolError) ∨
      (knownStream r uid fr false).out = r.out ++ [.rst st.id Gen.c_ProtocolError]) := by
  obtain ⟨o, ho, hv⟩ := request_one_frame r uid fr st prio frag hg hf ht hb heh hes hprio hp fs d hdec
  obtain ⟨h1, h2⟩ := hv.iff_wf hl (fun f hf => by cases hf)
  rw [ho]
  exact ⟨fun hwf => (h1 hwf).imp fun v hv => ⟨hv.1, by rw [hv.2]⟩, fun hwf => .inr (by rw [h2 hwf])⟩

/-! non-vacuity: `GET / https` (RFC 7541 static entries 2, 7, 4) in one HEADERS frame on stream 1 of a connection whose stream
loop has just created the stream; the same with `:path` left out -/

def demoStrm : Strm := { uid := 0, id := 1, window := 65535, origType := Gen.c_FrameHeaders }
def demoR : R := { s := { strms := [demoStrm], nextUid := 1, lastID := 1, openStreams := 1 } }
def demoFrame (frag : Bytes) : H2.Frame.Frame :=
  { typ := Gen.c_FrameHeaders, flags := 5, stream := 1, length := frag.length, body := .headers true true none frag }

theorem demo_fresh : Fresh demoStrm := ⟨rfl, rfl, rfl, rfl, rfl, rfl, rfl, rfl⟩
example : demoR.getStrm 0 = some demoStrm := rfl
example : (decRun 4 demoR.s.dec true 0 [0x82, 0x87, 0x84]).1.map kv =
    [(Gen.s_StringMethod, [71, 69, 84]), (Gen.s_StringScheme, [104, 116, 116, 112, 115]), (Gen.s_StringPath, [47])] := by decide +kernel
example : (decRun 4 demoR.s.dec true 0 [0x82, 0x87, 0x84]).2 = .clean {} := by decide +kernel
example : validate {} ((decRun 4 demoR.s.dec true 0 [0x82, 0x87, 0x84]).1.map kv) [] 0 = .dispatch := by decide +kernel
example : validate {} ((decRun 3 demoR.s.dec true 0 [0x82, 0x87]).1.map kv) [] 0 = .rst Gen.c_ProtocolError := by decide +kernel
/-- the full model itself on the two frames (what the theorems predict: one dispatch record / one RST_STREAM) -/
example : ((knownStream demoR 0 (demoFrame [0x82, 0x87, 0x84]) false).out.map Out.toString) =
    ["dispatch(1,m=474554,p=2f,a=-,f=-,b=0:0:0)"] := by decide +kernel
example : ((knownStream demoR 0 (demoFrame [0x82, 0x87]) false).out.map Out.toString) = ["RST(1,1)"] := by decide +kernel
/-- the hypotheses of `one_frame_dispatched_iff_wf` hold of the demo: `headersPrelude` lets the frame through unchanged -/
example : headersPrelude demoR (demoFrame [0x82, 0x87, 0x84]) = (demoR, true) := rfl
example (hl : WithinLimits (cfgOf demoR.s.cfg) ((decRun 4 demoR.s.dec true 0 [0x82, 0x87, 0x84]).1.map kv) [] 0) :
    WFRequest ((decRun 4 demoR.s.dec true 0 [0x82, 0x87, 0x84]).1.map kv) [] 0 →
      ∃ v, requestView (cfgOf demoR.s.cfg) ((decRun 4 demoR.s.dec true 0 [0x82, 0x87, 0x84]).1.map kv) [] 0 = some v ∧
        (knownStream demoR 0 (demoFrame [0x82, 0x87, 0x84]) false).out = demoR.out ++ [dispOut 1 v {}] :=
  (one_frame_dispatched_iff_wf demoR 0 (demoFrame [0x82, 0x87, 0x84]) demoStrm none [0x82, 0x87, 0x84] rfl demo_fresh rfl rfl
    (by decide) (by decide) (fun _ _ h => by cases h) rfl _ {} (by decide +kernel) hl).1
/-- a block cut in the middle of a literal: `cutsOK` holds and the pieces give what the whole gives -/
example : (absFin (feedBlock demoR.s demoStrm [[0x82, 0x87, 0x44, 0x02, 0x2f], [0x61]])).toOption.map (·.1.path) = some [47, 97] := by
  decide +kernel
example : (absFin (feedBlock demoR.s demoStrm [[0x82, 0x87, 0x44, 0x02, 0x2f, 0x61]])).toOption.map (·.1.path) = some [47, 97] := by
  decide +kernel

/-- why `cutsOK` is there (F68, by design): with a list limit of 1 octet a first piece holding 6 octets of an unfinished field is
answered GOAWAY(ENHANCE_YOUR_CALM) at once, while the same octets in one frame with END_HEADERS are a truncated block:
GOAWAY(COMPRESSION_ERROR) -/
def tightSrv : Srv := { cfg := { maxHeaderList := 1 } }
example : (match absFin (feedBlock tightSrv demoStrm [[0x40, 0x7f, 97, 97, 97, 97], [97]]) with | .error v => some v | .ok _ => none) =
    some (.goAway Gen.c_EnhanceYourCalm) := by decide +kernel
example : (match absFin (feedBlock tightSrv demoStrm [[0x40, 0x7f, 97, 97, 97, 97, 97]]) with | .error v => some v | .ok _ => none) =
    some (.goAway Gen.c_CompressionError) := by decide +kernel

end FullModel

/-! ## the long shape: HEADERS, DATA*, DATA(END_STREAM) through the body of the stream loop -/

section LongShape
open H2.Server H2.Server.Lock

/-- **a refused frame is answered with the one frame `writeError` sends** (RST_STREAM(code) on the stream or GOAWAY(code)),
nothing else — in particular no dispatch record -/
theorem refused_frame_output (r : R) (uid : Nat) (fr : H2.Frame.Frame) (st1 : Strm) (e : SErr)
    (hp : headersPrelude r fr = (r, true)) (he : (handleFrame r uid fr).2 = some e)
    (hg1 : (handleFrame r uid fr).1.getStrm uid = some st1) (hresp : st1.responded = false) :
    (knownStream r uid fr false).out = (handleFrame r uid fr).1.out ++ [errOut (handleFrame r uid fr).1 st1 e] :=
  knownStream_refused r uid fr st1 e hp he hg1 hresp

/-- **the full model dispatches this request iff it is well-formed**: `HEADERS(END_HEADERS), DATA*, DATA(END_STREAM)` on a
stream the stream loop has just created, the frames handled one after the other by the body of the stream loop (`runReq`: up to
the first frame that is answered), `hs` the fields the block decodes to, `dataLen` the DATA octets, within the limits. Besides
WINDOW_UPDATEs exactly one output: the dispatch record with the message model's request view iff `WFRequest hs [] dataLen`,
RST_STREAM(PROTOCOL_ERROR) otherwise -/
theorem long_request_dispatched_iff_wf (r : R) (uid : Nat) (frH frL : H2.Frame.Frame) (ds : List H2.Frame.Frame) (st : Strm)
    (O : Strm → Prop) (es es' : Bool) (prio : Option (Nat × Nat)) (frag dL : Bytes)
    (ht : Tbl r uid st O) (hf : Fresh st) (htyp : frH.typ = Gen.c_FrameHeaders)
    (hb : frH.body = .headers es true prio frag) (heh : H2.Frame.hasFlag frH.flags Gen.c_FlagEndHeaders = true)
    (hes : H2.Frame.hasFlag frH.flags Gen.c_FlagEndStream = false)
    (hprio : ∀ dep w, prio = some (dep, w) → (dep == st.id) = false)
    (hp : headersPrelude r frH = (r, true))
    (fs : List H2.Hpack.Field) (d : H2.Hpack.DecState) (hdec : decRun (frag.length + 1) r.s.dec true 0 frag = (fs, .clean d))
    (hds : ∀ fr ∈ ds, PlainData fr)
    (hLt : frL.typ = Gen.c_FrameData) (hLb : frL.body = .data es' dL)
    (hLe : H2.Frame.hasFlag frL.flags Gen.c_FlagEndStream = true)
    (hl : WithinLimits (cfgOf r.s.cfg) (fs.map kv) [] (tot ds + dL.length)) :
    (WFRequest (fs.map kv) [] (tot ds + dL.length) →
      ∃ v body, requestView (cfgOf r.s.cfg) (fs.map kv) [] (tot ds + dL.length) = some v ∧
        sig (runReq r uid (frH :: (ds ++ [frL]))).out = sig r.out ++ [dispOut st.id v body]) ∧
    (¬ WFRequest (fs.map kv) [] (tot ds + dL.length) →
      sig (runReq r uid (frH :: (ds ++ [frL]))).out = sig r.out ++ [.rst st.id Gen.c_ProtocolError]) := by
  obtain ⟨o, body, ho, hv⟩ := long_request_data r uid frH frL ds st O es prio frag ht hf htyp hb heh hes hprio hp fs d hdec
    hds hLt hLe
  rw [show payloadLen frL = dL.length by simp [payloadLen, hLb]] at hv
  obtain ⟨h1, h2⟩ := hv.iff_wf hl (fun f hf => by cases hf)
  rw [ho]
  exact ⟨fun hwf => (h1 hwf).imp fun v hv => ⟨body, hv.1, by rw [hv.2]⟩, fun hwf => by rw [h2 hwf]⟩

/-! non-vacuity: `POST / https, content-length: 3` then DATA "a", DATA "bc"+END_STREAM on the demo stream: evaluated on the full
model (`runReq`), one dispatch record besides the WINDOW_UPDATEs; with `content-length: 5` RST_STREAM(PROTOCOL_ERROR) -/

def postFrame (cl : Nat) : H2.Frame.Frame :=
  { typ := Gen.c_FrameHeaders, flags := 4, stream := 1, length := 7,
    body := .headers false true none [0x83, 0x87, 0x84, 0x0f, 0x0d, 0x01, cl] }
def dataFrame (es : Bool) (b : Bytes) : H2.Frame.Frame :=
  { typ := Gen.c_FrameData, flags := if es then 1 else 0, stream := 1, length := b.length, body := .data es b }

example : PlainData (dataFrame false [97]) := ⟨rfl, ⟨_, _, rfl⟩, by decide⟩
example : ((sig (runReq demoR 0 [postFrame 0x33, dataFrame false [97], dataFrame true [98, 99]]).out).map Out.toString) =
    ["dispatch(1,m=504f5354,p=2f,a=-,f=-,b=3:294:96)"] := by decide +kernel
example : ((sig (runReq demoR 0 [postFrame 0x35, dataFrame false [97], dataFrame true [98, 99]]).out).map Out.toString) =
    ["RST(1,1)"] := by decide +kernel
example : validate {} ((decRun 8 demoR.s.dec true 0 [0x83, 0x87, 0x84, 0x0f, 0x0d, 0x01, 0x33]).1.map kv) [] 3 = .dispatch := by
  decide +kernel
example : validate {} ((decRun 8 demoR.s.dec true 0 [0x83, 0x87, 0x84, 0x0f, 0x0d, 0x01, 0x35]).1.map kv) [] 3 =
    .rst Gen.c_ProtocolError := by decide +kernel

end LongShape

/-! ## the long shape with trailers; header blocks in several frames -/

section Trailers
open H2.Server H2.Server.Lock

/-- **the full model dispatches a request with trailers iff it is well-formed**:
`HEADERS(END_HEADERS), DATA*, trailers HEADERS(END_HEADERS | END_STREAM)` on a stream the stream loop has just created, the frames
handled one after the other by the body of the stream loop (`runReq`: up to the first frame that is answered); `hs` / `trailers`
the fields the two blocks decode to (the trailer block from the decoder state the request block left), `dataLen` the DATA
octets; within the limits, no `content-length` among the trailers (`NoTrailerCL`, as in `dispatched_iff_wf`); the other
entries of the stream table `Settled` (their header blocks finished, none idle with a lower id — what `headersPrelude` looks at
when the trailer HEADERS frame arrives). Besides WINDOW_UPDATEs exactly one output: the dispatch record with the message
model's request view iff `WFRequest hs trailers dataLen`, RST_STREAM(PROTOCOL_ERROR) otherwise -/
theorem long_request_with_trailers_dispatched_iff_wf (r : R) (uid : Nat) (frH frT : H2.Frame.Frame) (ds : List H2.Frame.Frame)
    (st : Strm) (es esT : Bool) (prio prioT : Option (Nat × Nat)) (frag fragT : Bytes)
    (ht : Tbl r uid st (Settled st.id)) (hf : Fresh st) (htyp : frH.typ = Gen.c_FrameHeaders)
    (hb : frH.body = .headers es true prio frag) (heh : H2.Frame.hasFlag frH.flags Gen.c_FlagEndHeaders = true)
    (hes : H2.Frame.hasFlag frH.flags Gen.c_FlagEndStream = false)
    (hprio : ∀ dep w, prio = some (dep, w) → (dep == st.id) = false)
    (hp : headersPrelude r frH = (r, true))
    (fs : List H2.Hpack.Field) (d : H2.Hpack.DecState) (hdec : decRun (frag.length + 1) r.s.dec true 0 frag = (fs, .clean d))
    (hds : ∀ fr ∈ ds, PlainData fr)
    (hTt : frT.typ = Gen.c_FrameHeaders) (hTs : frT.stream = st.id) (hTb : frT.body = .headers esT true prioT fragT)
    (hTeh : H2.Frame.hasFlag frT.flags Gen.c_FlagEndHeaders = true)
    (hTes : H2.Frame.hasFlag frT.flags Gen.c_FlagEndStream = true)
    (hTprio : ∀ dep w, prioT = some (dep, w) → (dep == st.id) = false)
    (fsT : List H2.Hpack.Field) (d2 : H2.Hpack.DecState) (hdecT : decRun (fragT.length + 1) d true 0 fragT = (fsT, .clean d2))
    (hl : WithinLimits (cfgOf r.s.cfg) (fs.map kv) (fsT.map kv) (tot ds)) (hnt : NoTrailerCL (fsT.map kv)) :
    (WFRequest (fs.map kv) (fsT.map kv) (tot ds) →
      ∃ v body, requestView (cfgOf r.s.cfg) (fs.map kv) (fsT.map kv) (tot ds) = some v ∧
        sig (runReq r uid (frH :: (ds ++ [frT]))).out = sig r.out ++ [dispOut st.id v body]) ∧
    (¬ WFRequest (fs.map kv) (fsT.map kv) (tot ds) →
      sig (runReq r uid (frH :: (ds ++ [frT]))).out = sig r.out ++ [.rst st.id Gen.c_ProtocolError]) := by
  obtain ⟨o, body, ho, hv⟩ := long_request_trailers r uid frH frT ds st es esT prio prioT frag fragT ht hf htyp hb heh hes hprio hp
    fs d hdec hds hTt hTs hTb hTeh hTes hTprio fsT d2 hdecT
  obtain ⟨h1, h2⟩ := hv.iff_wf hl hnt
  rw [ho]
  exact ⟨fun hwf => (h1 hwf).imp fun v hv => ⟨body, hv.1, by rw [hv.2]⟩, fun hwf => by rw [h2 hwf]⟩

/-- **a header block in HEADERS + CONTINUATION frames, at the frame level**: `handleHeaderFrame` frame after frame (`hdrFrames`)
ends with the verdict it gives the whole block in one HEADERS frame with END_HEADERS, and when accepted with the same `msgSt`
and decoder state (`cutsOK`: F68's bound on what is carried over) -/
theorem block_frames_are_whole (s : Srv) (st : Strm) (frH frW : H2.Frame.Frame) (cs : List H2.Frame.Frame) (es es' : Bool)
    (prio prio' : Option (Nat × Nat)) (p0 : Bytes) (ps : List Bytes)
    (hb : frH.body = .headers es false prio p0) (hfin : st.headersFinished = false)
    (hprio : ∀ dep w, prio = some (dep, w) → (dep == st.id) = false) (hc : ContBlock cs ps)
    (hW : frW.body = .headers es' true prio' (p0 :: ps).flatten)
    (hprio' : ∀ dep w, prio' = some (dep, w) → (dep == st.id) = false)
    (hg : st.Good) (hcut : cutsOK s { st with fieldSeen := false } (p0 :: ps)) :
    absFin (hdrFrames s st (frH :: cs)) = absFin (handleHeaderFrame s st frW) :=
  hdrFrames_whole s st frH frW cs es es' prio prio' p0 ps hb hfin hprio hc hW hprio' hg hcut

/-! non-vacuity: the demo table is `Settled`; POST with content-length 3, DATA "a", DATA "bc", trailers `x-t: 1` with END_STREAM —
evaluated on the full model: one dispatch record; a pseudo-header among the trailers: RST_STREAM(PROTOCOL_ERROR) -/

example : Tbl demoR 0 demoStrm (Settled demoStrm.id) := by
  refine ⟨rfl, ?_, ?_⟩
  · intro x hx _
    have : x = demoStrm := by simpa [demoR] using hx
    exact this
  · intro x hx hu
    have : x = demoStrm := by simpa [demoR] using hx
    subst this
    exact absurd rfl hu

def trailerFrame (frag : Bytes) : H2.Frame.Frame :=
  { typ := Gen.c_FrameHeaders, flags := 5, stream := 1, length := frag.length, body := .headers true true none frag }

example : ((sig (runReq demoR 0 [postFrame 0x33, dataFrame false [97], dataFrame false [98, 99],
    trailerFrame [0x00, 0x03, 120, 45, 116, 0x01, 49]]).out).map Out.toString) =
    ["dispatch(1,m=504f5354,p=2f,a=-,f=782d74:31,b=3:294:96)"] := by decide +kernel
example : ((sig (runReq demoR 0 [postFrame 0x33, dataFrame false [97], dataFrame false [98, 99],
    trailerFrame [0x82]]).out).map Out.toString) = ["RST(1,1)"] := by decide +kernel
/-- a block in three frames through `handleHeaderFrame`: the path is what the whole block gives -/
def contFrame (eh : Bool) (frag : Bytes) : H2.Frame.Frame :=
  { typ := Gen.c_FrameContinuation, flags := if eh then 4 else 0, stream := 1, length := frag.length, body := .continuation eh frag }
example : ContBlock [contFrame false [0x2f], contFrame true [0x61]] [[0x2f], [0x61]] :=
  .cons _ _ _ _ _ _ rfl rfl (by decide) (.last _ _ rfl rfl (by decide))
example : (absFin (hdrFrames demoR.s demoStrm
    [{ typ := Gen.c_FrameHeaders, flags := 0, stream := 1, length := 4, body := .headers false false none [0x82, 0x87, 0x44, 0x02] },
     contFrame false [0x2f], contFrame true [0x61]])).toOption.map (·.1.path) = some [47, 97] := by decide +kernel

end Trailers

end H2.Props.C20
