import H2.Proofs.StreamSMRefine.By
import H2.Proofs.StreamSM
/-!
# C08 — the server reacts to each frame as its stream's RFC 7540 state prescribes

Theorems about the abstract per-stream decision model `H2.Server.StreamSM` (mirror of `readLoop`'s sequencing
rules, the unknown-stream branch of `handleStreams`, `verifyState`, `handleFrame`, `handleState`, the dispatch
condition; tied to the code by the lockstep run of `H2.Server.Lock.StreamSM` beside the full server model)
against the RFC-side state machine `H2.Server.StreamSpec` (RFC 7540 §5.1 / §6; DESIGN.md Appendix D1).

* `Pos`  — where the server's tables have the stream; `SpecSt` — the stream's RFC state, a function of the
  history; `sim p σ` — the simulation relation between them.
* `react p f c` — the model's reaction to frame `f` in context `c` and the stream's next place;
  `allowed σ f c r` — the RFC allows reaction `r`; `next σ f r` — the RFC state afterwards.
* `jrun p σ evs` — both machines run side by side over ANY sequence of events on one stream id (frames of
  the peer with their contexts, handler completions, end of the response, newer streams opened or refused,
  ids dropping out of the server's two bounded memories); the result lists, per frame, the RFC state it
  arrived in and the reaction. No bound on the length.

The only hypothesis on the environment is `wellCtx`: each frame's context agrees with the history on
whether a header block is open on this stream — what the read loop's CONTINUATION bookkeeping guarantees
(the lockstep adapter checks that agreement on every generated run).
-/
namespace H2.Props.C08
open H2.Server.StreamSM H2.Server.StreamSpec

/-- **Every reaction is one the RFC allows, and the tables keep describing the RFC state.** For every place
`p` related to an RFC state `σ`, every frame and every context consistent with the history: the reaction of
the model is in the RFC's allowed set, and unless it is a connection error (which ends the connection) the
next place is related to the next RFC state. -/
theorem reaction_allowed {p : Pos} {σ : SpecSt} (h : sim p σ = true) (f : Fr) (c : Ctx)
    (hc : consistent σ c = true) :
    allowed σ f c (react p f c).1 = true ∧
    (isConnErr (react p f c).1 = false → sim (react p f c).2 (next σ f (react p f c).1) = true) :=
  ⟨(cell h f c hc).1, (cell h f c hc).2.1⟩

/-- what the server and the rest of the connection do to a stream (handler completion, end of the response,
newer streams, the bounded memories forgetting the id) keeps the relation as well -/
theorem environment_preserves {p : Pos} {σ : SpecSt} (h : sim p σ = true) (e : Ev)
    (hf : ∀ f c, e ≠ .frame f c) (hen : e.enabled p = true) :
    sim (stepEv p e).2 (envNext σ e) = true :=
  env_preserves h e hf hen

/-- **All sequences.** Along every sequence of events on a stream id nobody has used yet, every reaction of
the model is allowed by the RFC state the frame arrives in. -/
theorem run_allowed (evs : List Ev) (hw : wellCtx Pos.fresh .idle evs = true) :
    ∀ o ∈ jrun Pos.fresh .idle evs, allowed o.σ o.f o.c o.r = true :=
  fun o ho => (jrun_spec evs (by decide) hw o ho).1

/-- the same from any related pair of states (so: from any point of any connection) -/
theorem run_allowed_from {p : Pos} {σ : SpecSt} (h : sim p σ = true) (evs : List Ev)
    (hw : wellCtx p σ evs = true) : ∀ o ∈ jrun p σ evs, allowed o.σ o.f o.c o.r = true :=
  fun o ho => (jrun_spec evs h hw o ho).1

/-- **Legal frames are served without any error** (pointwise): a frame the RFC lets the peer send in state
`σ` (inside the server's limits: `legal`) gets neither RST_STREAM nor GOAWAY. -/
theorem legal_no_error {p : Pos} {σ : SpecSt} (h : sim p σ = true) (f : Fr) (c : Ctx)
    (hc : consistent σ c = true) (hl : legal σ f c = true) : (react p f c).1.isError = false :=
  (cell h f c hc).2.2.1 hl

/-- **Every legal sequence is served without any error**: if each frame of the sequence is legal where it
arrives, no reaction anywhere along the run is an error (and so the run is never cut short). -/
theorem legal_run_no_error (evs : List Ev) (hw : wellCtx Pos.fresh .idle evs = true)
    (hl : legalRun Pos.fresh .idle evs = true) : ∀ o ∈ jrun Pos.fresh .idle evs, o.r.isError = false :=
  jrun_legal evs (by decide) hw hl

/-- **A request is dispatched only from a legal sequence** (pointwise): the model dispatches only on a frame
that completes `HEADERS [CONTINUATION*] DATA* [HEADERS+END_STREAM [CONTINUATION*]]` with END_STREAM seen
(`completes`, over the RFC state computed from the history). -/
theorem dispatch_only_legal {p : Pos} {σ : SpecSt} (h : sim p σ = true) (f : Fr) (c : Ctx)
    (hc : consistent σ c = true) (hd : (react p f c).1 = .dispatch) : completes σ f = true :=
  (cell h f c hc).2.2.2.1 hd

/-- the same along every sequence of events -/
theorem run_dispatch_only_legal (evs : List Ev) (hw : wellCtx Pos.fresh .idle evs = true) :
    ∀ o ∈ jrun Pos.fresh .idle evs, o.r = .dispatch → completes o.σ o.f = true :=
  fun o ho => (jrun_spec evs (by decide) hw o ho).2

/-- and conversely a legal frame that completes the request does dispatch it: every legal request is served -/
theorem legal_request_dispatched {p : Pos} {σ : SpecSt} (h : sim p σ = true) (f : Fr) (c : Ctx)
    (hc : consistent σ c = true) (hl : legal σ f c = true) (hcp : completes σ f = true) :
    (react p f c).1 = .dispatch :=
  (cell h f c hc).2.2.2.2 hl hcp

/-! ## non-vacuity

`sim` relates the fresh place to `idle`; a concrete legal exchange — HEADERS, DATA, DATA+END_STREAM, then the
handler finishing, then a late WINDOW_UPDATE — satisfies `wellCtx` and `legalRun` and produces exactly
process, process, dispatch, ignore; an illegal one (DATA on an idle stream) is answered, and allowed to be
answered, with a connection error PROTOCOL_ERROR. -/

example : sim Pos.fresh .idle = true := by decide

def ctx0 : Ctx := ⟨.none, false, false, true, false⟩

def demo : List Ev :=
  [.frame (.headers false true false .wf) ctx0, .frame (.data false false) ctx0, .frame (.data true false) ctx0,
   .handlerDone true false true, .frame (.wu .fits) ctx0]

example : wellCtx Pos.fresh .idle demo = true ∧ legalRun Pos.fresh .idle demo = true := by decide
example : (jrun Pos.fresh .idle demo).map (·.r) = [.process, .process, .dispatch, .ignore] := by decide
example : (jrun Pos.fresh .idle [.frame (.data false false) ctx0]).map (·.r) = [.connErr .protocol] := by decide
example : allowed .idle (.data false false) ctx0 (.connErr .protocol) = true ∧
          allowed .idle (.data false false) ctx0 .process = false := by decide

end H2.Props.C08

/-! ## the full server model against `StreamSM.react`, frame by frame

The lockstep comparison of `H2.Server.Lock.StreamSM.checkFrame` (abstract `StreamSM.react` beside the FULL server model
`H2.Server.slStreamFrame`), as theorems — for the frames listed in each statement. `reactSL` is `StreamSM.react` after the
read loop's own checks (`react_eq`); `absReaction` / `fullReaction` / `absPos` / `absFrame` are the adapter's own
definitions.
-/
namespace H2.Props.C08
open H2.Server H2.Server.Lock H2.Server.Lock.Refine
open H2.Frame (Frame)
open H2 (Bytes)

/-- **full model, stream not in the table** (idle, closed and remembered in the ring, reset by this side, below `lastID`,
refused): for EVERY state `s` of the full model and every parsed frame with an odd stream id the table does not hold,
unless the frame opens a stream, the reaction string of the abstract model equals the one read off the full model's
outputs, and unless it is a connection error the abstract next place is the place of the id in the state after. No
invariant is needed. -/
theorem full_unknown_stream_refines (s : Srv) (fr : Frame) (hwf : FrWF fr) (hodd : fr.stream % 2 = 1)
    (hl : lookup s fr.stream = none) (hu : (unknownStream { s := s } fr s.closing).2 = none) :
    let rp := reactSL (absPos s fr.stream) (absFrame s fr) (absCtx s fr.stream (some fr))
    absReaction rp.1 = fullReaction (slStreamFrame { s := s } fr).out fr.stream ∧
    (isConn rp.1 = false → absPos (slStreamFrame { s := s } fr).s fr.stream = rp.2) :=
  unknown_frame_refines (r := { s := s }) hl hwf hodd rfl _ (absCtx_refuse s fr.stream (some fr)) hu

/-- **full model, stream in the table, frames without header fragment** (DATA, RST_STREAM, PRIORITY, WINDOW_UPDATE and the
types the stream loop rejects): in a state whose table holds each stream object and each id once, for a stream that is
not `reserved`, not in `resetByUs`, and has no response data waiting for window (`resume`), the reaction strings agree
and the abstract next place is the place after — END_STREAM → dispatch, the content-length check, RST_STREAM → closed and
remembered in the ring, the flow-control and body-size stream errors included. -/
theorem full_known_stream_refines (s : Srv) (fr : Frame) (st : Strm) (hwf : FrWF fr) (hodd : fr.stream % 2 = 1)
    (hl : lookup s fr.stream = some st)
    (hun : (s.strms.map (·.uid)).Nodup) (hidn : (s.strms.map (·.id)).Nodup)
    (hres : st.state ≠ .reserved) (hnr : resume st = false) (hnb : s.resetByUs.contains fr.stream = false)
    (hcl : 0 ≤ st.contentLength)
    (hb : (∃ c, fr.body = .rstStream c) ∨ (∃ d w, fr.body = .priority d w) ∨ (∃ i, fr.body = .windowUpdate i) ∨
          (∃ es b, fr.body = .data es b)) :
    let rp := reactSL (absPos s fr.stream) (absFrame s fr) (absCtx s fr.stream (some fr))
    absReaction rp.1 = fullReaction (slStreamFrame { s := s } fr).out fr.stream ∧
    (isConn rp.1 = false → absPos (slStreamFrame { s := s } fr).s fr.stream = rp.2) := by
  have tb := TB.of_lookup (r := { s := s }) hl hun hidn
  have htyp : fr.typ ≠ H2.Gen.c_FrameHeaders := by
    rcases hb with ⟨c, e⟩ | ⟨d, w, e⟩ | ⟨i, e⟩ | ⟨es, b, e⟩ <;> (have := hwf; simp only [FrWF, e] at this) <;>
      first | (rw [this]; decide) | (rw [this.1]; decide)
  have hpre : headersPrelude { s := s } fr = ({ s := s }, true) :=
    headersPrelude_cases (P := fun x => x = ({ s := s }, true)) _ fr rfl (fun _ ht _ _ => absurd ht htyp) (fun ht => absurd ht htyp)
  have hisH : StreamSM.isHeaders (absFrame s fr) = false := by
    rw [isHeaders_abs s fr hwf]; simpa using htyp
  exact known_frame_refines (r := { s := s }) hl hun hidn hwf hodd hres rfl hnr hnb hpre _ (by simp [hisH])
    (absCtx_isLast s fr.stream (some fr)) (hf_all tb fr hwf hres rfl hcl)

/-- every frame the parser hands to the read loop satisfies `FrWF` -/
theorem full_parsed_frames_wf (max : Nat) (b : Bytes) (fr : Frame) (n : Nat) (h : H2.Frame.readFrame max b = .ok fr n) : FrWF fr :=
  readFrame_wf max b fr n h

/-! ### non-vacuity: the hypotheses hold on concrete states, and the conclusions are the expected reactions -/

/-- RST_STREAM on the idle stream 1 of a fresh connection -/
def exRst : Frame := ⟨3, 0, 1, 4, .rstStream 8⟩

example : FrWF exRst ∧ exRst.stream % 2 = 1 ∧ lookup ({} : Srv) exRst.stream = none ∧
    (unknownStream { s := {} } exRst false).2 = none :=
  ⟨(rfl : exRst.typ = H2.Gen.c_FrameResetStream), by decide, by decide +kernel, by decide +kernel⟩

example : fullRC (slStreamFrame { s := {} } exRst).out 1 = .conn 1 := by decide +kernel

/-- a connection with stream 1 open (request headers complete) -/
def exStrm : Strm := { uid := 0, id := 1, window := 65535, state := .open, origType := 1, headersFinished := true,
                        pMethod := true, pScheme := true, pPath := true, path := [47] }
def exSrv : Srv := { strms := [exStrm], nextUid := 1, lastID := 1, openStreams := 1 }
/-- DATA with END_STREAM on it: the request is dispatched -/
def exData : Frame := ⟨0, 1, 1, 2, .data true [104, 105]⟩

example : FrWF exData ∧ exData.stream % 2 = 1 ∧ lookup exSrv exData.stream = some exStrm ∧
    (exSrv.strms.map (·.uid)).Nodup ∧ (exSrv.strms.map (·.id)).Nodup ∧ exStrm.state ≠ .reserved ∧ resume exStrm = false ∧
    exSrv.resetByUs.contains exData.stream = false ∧ 0 ≤ exStrm.contentLength :=
  ⟨⟨rfl, rfl⟩, by decide, rfl, by decide, by decide, by decide, by decide, by decide, by decide⟩

example : fullRC (slStreamFrame { s := exSrv } exData).out 1 = .dispatch ∧
    absPos (slStreamFrame { s := exSrv } exData).s 1 = .tab .halfClosed true true true := by decide +kernel

end H2.Props.C08
/-! ## every frame type, and every reachable state

**The lockstep comparison of `H2.Server.Lock.StreamSM.checkFrame` as a theorem, for every frame type**: HEADERS opening a
stream, continued blocks (CONTINUATION), trailers with and without END_STREAM (F67's repaired behaviour), END_STREAM →
dispatch, the block classes the adapter computes with `walkFrame` (`Blk`), the read loop's own checks (CONTINUATION
sequencing, even id, PING / PUSH_PROMISE with a stream id), the unknown-stream branch, DATA / RST_STREAM / PRIORITY /
WINDOW_UPDATE. `SInv s` is the invariant; `resume st = false` (no response data waiting for window on the frame's stream)
stays a hypothesis: the outputs of a resumed response are what the adapter treats separately.
-/
namespace H2.Props.C08
open H2.Server H2.Server.Lock H2.Server.Lock.Refine
open H2.Frame (Frame)
open H2 (Bytes)

/-- **Step refinement, per frame, full model against `StreamSM.react`** (the two comparisons of the lockstep adapter):
for every state `s` with `SInv s` whose stream loop runs, every parsed frame (`FrWF`: what `readFrame` returns,
`full_parsed_frames_wf`) with a stream id: the reaction string of the abstract model on `absPos` / `absFrame` / `absCtx`
equals the string read off the full model's outputs for that frame, and unless the reaction is a connection error the
abstract next place is `absPos` of the state after the frame. -/
theorem full_frame_refines (s : Srv) (fr : Frame) (hI : SInv s) (hwf : FrWF fr) (h0 : fr.stream ≠ 0)
    (hsl : s.slStopped = false) (hnr : ∀ st, lookup s fr.stream = some st → resume st = false) :
    let rp := H2.Server.StreamSM.react (absPos s fr.stream) (absFrame s fr) (absCtx s fr.stream (some fr))
    absReaction rp.1 = fullReaction (rlFrame { s := s } fr).out fr.stream ∧
    (isConn rp.1 = false → absPos (rlFrame { s := s } fr).s fr.stream = rp.2) :=
  frame_refines s fr hI hwf h0 hsl hnr

/-- the same at the stream loop (`slStreamFrame`), for any outputs-free `R` -/
theorem full_stream_loop_refines (r : R) (fr : Frame) (hI : SInv r.s) (hwf : FrWF fr) (hodd : fr.stream % 2 = 1)
    (hout : r.out = []) (hnr : ∀ st, lookup r.s fr.stream = some st → resume st = false) :
    let rp := reactSL (absPos r.s fr.stream) (absFrame r.s fr) (absCtx r.s fr.stream (some fr))
    absReaction rp.1 = fullReaction (slStreamFrame r fr).out fr.stream ∧
    (isConn rp.1 = false → absPos (slStreamFrame r fr).s fr.stream = rp.2) :=
  sl_refines r fr hI hwf hodd hout hnr

/-- the block class of the adapter IS the field loop's verdict: `walk` (HPACK model + C20 model `Msg.field`) against the
full model's `fieldLoop` -/
theorem full_walk_is_fieldLoop (fuel : Nat) (s : Srv) (st : Strm) (bs eh : Bool) (fp : Nat) (b : Bytes)
    (acc : List H2.Server.MsgSpec.Field) (hcl : 0 ≤ st.contentLength) :
    (fieldLoop fuel s st bs eh fp b).2.2.map errRC = blkRC (absBlk false (walk (msgCfg s) fuel s.dec (msgSt st) bs eh fp b acc)) ∧
    ((fieldLoop fuel s st bs eh fp b).2.2 = none →
      (walk (msgCfg s) fuel s.dec (msgSt st) bs eh fp b acc).1.isOk = true ∧
      (walk (msgCfg s) fuel s.dec (msgSt st) bs eh fp b acc).2.1 = msgSt (fieldLoop fuel s st bs eh fp b).2.1) :=
  walk_fieldLoop fuel s st bs eh fp b acc hcl

/-- **in every reachable state**: each stream of the table has `0 ≤ contentLength` and is never `reserved` -/
theorem full_reachable_streams_ok (cfg : Cfg) (evs : List Event) :
    ∀ st ∈ (run cfg evs).1.strms, 0 ≤ st.contentLength ∧ st.state ≠ .reserved :=
  run_pq cfg evs

/-- **in every reachable state in which no GOAWAY has been written** no stream of the table is idle or closed, and no id of
the table is in `resetByUs` (so: the places `tab idle …` / `tab closed …`, which the simulation relation of this file relates
to nothing, do not occur between frames) -/
theorem full_reachable_live (cfg : Cfg) (evs : List Event) (hc : (run cfg evs).1.closing = false) :
    ∀ st ∈ (run cfg evs).1.strms, st.state ≠ .idle ∧ st.state ≠ .closed ∧ (run cfg evs).1.resetByUs.contains st.id = false :=
  reachable_live cfg evs hc

/-- the invariant of `full_frame_refines` holds in every reachable state before the first GOAWAY -/
theorem full_reachable_sinv (cfg : Cfg) (evs : List Event) (ib : Bytes) (hc : (run cfg evs).1.closing = false) :
    SInv { (run cfg evs).1 with inbuf := ib } :=
  reachable_sinv' cfg evs ib hc

/-- **Step refinement in every reachable state, up to the first connection error.** After ANY event list, as long as no GOAWAY
has been written and the stream loop runs, for the next parsed frame with a stream id (`ib`: whatever else is in the read
buffer): the two comparisons of the lockstep adapter hold. The one side condition left: the frame's stream, if it is in the
table, has no response data waiting for flow-control window (`resume`; such a frame also makes DATA / RST_STREAM(INTERNAL_ERROR)
of the response go out, which the adapter reads separately). -/
theorem full_frame_refines_reachable (cfg : Cfg) (evs : List Event) (ib : Bytes) (fr : Frame) (hwf : FrWF fr) (h0 : fr.stream ≠ 0)
    (hsl : (run cfg evs).1.slStopped = false) (hc : (run cfg evs).1.closing = false)
    (hnr : ∀ st, lookup (run cfg evs).1 fr.stream = some st → resume st = false) :
    let s : Srv := { (run cfg evs).1 with inbuf := ib }
    let rp := H2.Server.StreamSM.react (absPos s fr.stream) (absFrame s fr) (absCtx s fr.stream (some fr))
    absReaction rp.1 = fullReaction (rlFrame { s := s } fr).out fr.stream ∧
    (isConn rp.1 = false → absPos (rlFrame { s := s } fr).s fr.stream = rp.2) :=
  reachable_frame_refines' cfg evs ib fr hwf h0 hsl hc hnr

/-- **Bystanders, per frame**: a frame on stream `fr.stream` moves the place of ANY other id `b` only as the
environment events of `StreamSM` do (`newer`, `higherRefused`, `evictRing`, `forgetReset`) — the adapter's `envReach`, which
the lockstep run checks for three watched ids, holds for every id, unless the frame is answered with a GOAWAY. `Inv` is the
invariant of `H2.Proofs.ServerOnce` (one table entry per stream object / per id), which holds in every reachable state. -/
theorem full_bystander_frame {D H E : List Nat} (s : Srv) (fr : Frame) (hi : Inv D H E { s := s }) (hI : SInv s) (h0 : fr.stream ≠ 0)
    (hsl : s.slStopped = false) (hc : (rlFrame { s := s } fr).s.closing = false) (b : Nat) (hb : b ≠ fr.stream) :
    envReach (absPos s b) (absPos (rlFrame { s := s } fr).s b) = true :=
  bystander_frame s fr hi hI h0 hsl hc b hb

/-- the same in every reachable state before the first GOAWAY, no side condition left -/
theorem full_bystander_reachable (cfg : Cfg) (evs : List Event) (ib : Bytes) (fr : Frame) (h0 : fr.stream ≠ 0)
    (hsl : (run cfg evs).1.slStopped = false) (hc0 : (run cfg evs).1.closing = false)
    (hc : (rlFrame { s := { (run cfg evs).1 with inbuf := ib } } fr).s.closing = false) (b : Nat) (hb : b ≠ fr.stream) :
    envReach (absPos { (run cfg evs).1 with inbuf := ib } b)
      (absPos (rlFrame { s := { (run cfg evs).1 with inbuf := ib } } fr).s b) = true :=
  reachable_bystander cfg evs ib fr h0 hsl hc0 hc b hb

/-! ### non-vacuity -/

example : SInv ({} : Srv) :=
  ⟨List.nodup_nil, List.nodup_nil, fun _ h => (List.not_mem_nil h).elim, fun _ h => (List.not_mem_nil h).elim,
   fun _ h => (List.not_mem_nil h).elim, fun _ h => (List.not_mem_nil h).elim, fun _ h => (List.not_mem_nil h).elim⟩

/-- a whole GET request in one HEADERS frame (END_STREAM | END_HEADERS) on a fresh connection: opens stream 1 and is dispatched -/
def exHdrs : Frame := ⟨1, 5, 1, 3, .headers true true none [0x82, 0x86, 0x84]⟩
/-- the same without END_HEADERS: the stream opens, its block stays open -/
def exHdrsOpen : Frame := ⟨1, 1, 1, 3, .headers true false none [0x82, 0x86, 0x84]⟩

example : FrWF exHdrs ∧ FrWF exHdrsOpen := ⟨⟨rfl, rfl, rfl⟩, ⟨rfl, rfl, rfl⟩⟩

example : fullRC (rlFrame { s := {} } exHdrs).out 1 = .dispatch ∧
    absPos (rlFrame { s := {} } exHdrs).s 1 = .tab .halfClosed true true true := by decide +kernel

example : fullRC (rlFrame { s := {} } exHdrsOpen).out 1 = .ok ∧
    absPos (rlFrame { s := {} } exHdrsOpen).s 1 = .tab .halfClosed false false false ∧
    (rlFrame { s := {} } exHdrsOpen).s.expectCont = 1 := by decide +kernel

/-- HEADERS opening stream 3 on a connection where stream 1 is open: the place of id 1 is untouched, id 5 stays fresh, and
the adapter's `envReach` relates the places of id 1 before and after (it was the newest stream, now it is not) -/
example : envReach (absPos exSrv 5) (absPos (rlFrame { s := exSrv } ⟨1, 5, 3, 3, .headers true true none [0x82, 0x86, 0x84]⟩).s 5) = true ∧
    (rlFrame { s := exSrv } ⟨1, 5, 3, 3, .headers true true none [0x82, 0x86, 0x84]⟩).s.closing = false := by decide +kernel

end H2.Props.C08
