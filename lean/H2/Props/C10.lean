import H2.Proofs.ServerSlotsFull
import H2.Proofs.Closing
import H2.Proofs.ClosingRace
/-!
# C10 — the server's GOAWAY tells the truth; connection errors end the connection

Theorems about the abstract model `H2.Server.Abs.Closing` (every event sequence, no bound). An event is:
a HEADERS frame reaching the refusal check, an offence answered with GOAWAY, a dispatch, a stream leaving
the table, the end-of-iteration check, the read loop going away. `(run init evs).trace` is the ghost
trace of GOAWAYs, streams opened / refused and requests dispatched, in order. The driver runs the model
in lockstep with the full server model and compares every GOAWAY (last-stream-id, code), dispatch,
refusal, the table, `lastID`, `closeRef`, the closing flag and whether the stream loop has stopped.

Serial model: each `writeGoAway` is one atomic action. What that hides is spelled out in `Race` below.
-/
namespace H2.Props.C10
open H2.Server.Abs.Closing

theorem reachable (evs : List Ev) : Inv (run init evs) := run_inv evs init init_inv

/-- **GOAWAY tells the truth**: the last-stream-id of every GOAWAY ever written is no smaller than the id
of every request ever dispatched on the connection — those dispatched before it and those dispatched
after it. (`trace` holds the whole history, so `d` ranges over both.) -/
theorem goaway_truth (evs : List Ev) (l c d : Nat)
    (hg : Rec.goAway l c ∈ (run init evs).trace) (hd : Rec.dispatched d ∈ (run init evs).trace) : d ≤ l := by
  have h := reachable evs
  exact Nat.le_trans (h.dispLe d hd) (h.gaGe l c hg)

/-- … and no smaller than any stream still in the table -/
theorem goaway_covers_open_streams (evs : List Ev) (l c id : Nat)
    (hg : Rec.goAway l c ∈ (run init evs).trace) (hid : id ∈ (run init evs).tbl) : id ≤ l := by
  have h := reachable evs
  exact Nat.le_trans (h.tblLe id hid) (h.gaGe l c hg)

/-- **no new stream after GOAWAY**: once a GOAWAY is in the trace, whatever happens next (`evs'`), the
connection stays closing, `lastID` does not move, no stream is opened and the table only shrinks. -/
theorem no_new_stream_after_goaway (evs evs' : List Ev) (l c : Nat)
    (hg : Rec.goAway l c ∈ (run init evs).trace) :
    let s := run init evs
    let s' := run init (evs ++ evs')
    s'.closing = true ∧ s'.lastID = s.lastID ∧ openedOf s'.trace = openedOf s.trace ∧ ∀ id ∈ s'.tbl, id ∈ s.tbl := by
  intro s s'
  have hc : s.closing = true := (reachable evs).gaClosing l c hg
  have hf := run_frozen evs' s hc
  have : s' = run s evs' := run_append evs evs' init
  rw [this]
  exact ⟨hf.closing, hf.lastID, hf.opened, hf.tbl⟩

/-- while closing, a HEADERS frame for a stream not in the table is refused (RST_STREAM(REFUSED_STREAM)),
whatever the concurrency count (the refused id counts as used from then on) -/
theorem refused_while_closing (s : St) (id : Nat) (full : Bool)
    (hc : s.closing = true) (hs : s.stopped = false) (hk : knows s id = false) :
    step s (.hdrNew id full) = { s with lastRefused := max s.lastRefused id, trace := s.trace ++ [.refused id] } := by
  simp [step, stepLive, survivesStop, hc, hs, hk]

/-! ### the connection closes once the promised streams are done -/

/-- **closes when the promised streams are done** (full form, after the repair F53). The stream loop
works in iterations — one frame taken off the reader, or one handler reporting back — and an iteration is
a short list of the model's events (`okIter`: it ends with an event after which the code looks whether it
can close — the check before `continue` in the connection-level branch, the check at the end of a
stream's frame or a handler's response, a GOAWAY that stops or stops-if-done, the read loop going away —
or it consists of a refused/ignored frame only). After ANY sequence of such iterations: closing and no
stream left at or below `closeRef` means the stream loop has stopped, i.e. `ServeConn` returns.
The lockstep adapter checks `okIter` on every iteration it projects. Not covered: an iteration that ends
with the GOAWAY "previous stream headers not ended" (`continue` without a check) — not reachable behind
the read loop's CONTINUATION rules, and the frame's own stream is then still in the table. -/
theorem closes_when_promised_done (iters : List (List Ev)) (h : ∀ it ∈ iters, okIter it = true) :
    let s := run init iters.flatten
    s.closing = true → canClose s = true → s.stopped = true :=
  run_iters iters init h (by intro hc; cases hc)

/-- the single step behind it: right after any event where the code looks, in any state -/
theorem closes_after_looking (evs : List Ev) (e : Ev) (he : looksAfter e = true) :
    let s := run init (evs ++ [e])
    s.closing = true → canClose s = true → s.stopped = true := by
  intro s
  have hs : s = step (run init evs) e := by
    show run init (evs ++ [e]) = _
    rw [run_append]; rfl
  rw [hs]
  exact looks_closed _ e he

/-- why the check in the connection-level branch matters (the defect F53, repaired): request 1 is
dispatched; RST_STREAM on the idle stream 3 is answered with GOAWAY (the connection goes on for stream 1);
the handler answers but the body waits for flow-control credit; a connection-level WINDOW_UPDATE lets
`flushStreams` finish and close stream 1. Without a check at the end of that iteration the model is
closing, has nothing left to wait for, and runs on; with it, it stops. -/
theorem check_after_flush_needed :
    let pre : List Ev := [.hdrNew 1 false, .dispatch 1, .offence .rstOnIdle 3, .check]
    let s₀ := run init (pre ++ [.close 1])
    let s₁ := run init (pre ++ [.close 1, .check])
    (s₀.closing = true ∧ canClose s₀ = true ∧ s₀.stopped = false) ∧ s₁.stopped = true ∧
    okIter [.close 1] = false ∧ okIter [.close 1, .check] = true := by
  decide

/-! ### connection errors carry the code RFC 7540 names -/

/-- the error codes RFC 7540 names for each offence (section in the comment) -/
def rfcAllows : Offence → List Nat
  | .rstOnIdle => [PROTOCOL_ERROR]                      -- §6.4
  | .frameOnClosed => [STREAM_CLOSED]                   -- §5.1 closed
  | .selfDependency => [PROTOCOL_ERROR]                 -- §5.3.1
  | .frameOnIdle => [PROTOCOL_ERROR]                    -- §5.1 idle
  | .lowerId => [PROTOCOL_ERROR]                        -- §5.1.1
  | .prevHeadersOpen => [PROTOCOL_ERROR]                -- §6.2, §6.10
  | .frameOnHalfClosed => [STREAM_CLOSED]               -- §5.1 half-closed (remote)
  | .headersOnFinished => [STREAM_CLOSED]               -- §5.1 half-closed (remote) / closed
  | .trailersWithoutEndStream => [PROTOCOL_ERROR]       -- §8.1
  | .compression => [COMPRESSION_ERROR]                 -- §4.3
  | .headerListTooLarge => [ENHANCE_YOUR_CALM]          -- §10.5, §10.5.1
  | .endHeadersIncomplete => [COMPRESSION_ERROR]        -- §4.3
  | .dataInHeaderBlock => [PROTOCOL_ERROR]              -- §6.2, §6.10
  | .dataOnHalfClosed => [STREAM_CLOSED]                -- §5.1
  | .rstOnIdleKnown => [PROTOCOL_ERROR]                 -- §6.4
  | .priorityInHeaderBlock => [PROTOCOL_ERROR]          -- §6.10
  | .windowUpdateOnIdle => [PROTOCOL_ERROR]             -- §5.1 idle
  | .windowUpdateZeroStream => [PROTOCOL_ERROR]         -- §6.9
  | .invalidFrameOnStream => [PROTOCOL_ERROR]           -- §5.1, §8.2
  | .streamWindowOverflow => [FLOW_CONTROL_ERROR]       -- §6.9.2
  | .connWindowOverflow => [FLOW_CONTROL_ERROR]         -- §6.9.1
  | .wantContinuation | .strayContinuation | .extensionInHeaderBlock => [PROTOCOL_ERROR]   -- §6.2, §6.10
  | .evenStreamId => [PROTOCOL_ERROR]                   -- §5.1.1
  | .pingWithStreamId => [PROTOCOL_ERROR]               -- §6.7
  | .pushPromiseFromClient => [PROTOCOL_ERROR]          -- §8.2
  | .windowUpdateZeroConn => [PROTOCOL_ERROR]           -- §6.9
  | .invalidFrameOnStreamZero => [PROTOCOL_ERROR]       -- §6.1–§6.4: stream 0 not allowed
  | .frameError _ => [FRAME_SIZE_ERROR, PROTOCOL_ERROR, FLOW_CONTROL_ERROR]   -- §4.2, §6.1, §6.5.2
  | .idleTimeout => [NO_ERROR]                          -- §6.8

def conn_error_codes_full : Prop := ∀ o : Offence, codeOf o ∈ rfcAllows o

/-- **decision table, partial**: for every offence the server answers with GOAWAY, the code it sends is
the one the RFC names, with three provisos made explicit: the frame parser's own verdict is passed on
as it is (the Frame model yields FRAME_SIZE_ERROR, PROTOCOL_ERROR, FLOW_CONTROL_ERROR only), and two
branches send PROTOCOL_ERROR where the RFC names a more specific code (`conn_error_codes_deviations`).
Both are shadowed by earlier checks in the serial model (`verifyState` answers HEADERS on a half-closed
stream first; the field loop reports a field cut short as COMPRESSION_ERROR first) and no generated run
reaches them. -/
theorem conn_error_codes_partial (o : Offence)
    (h1 : o ≠ .headersOnFinished) (h2 : o ≠ .endHeadersIncomplete)
    (h3 : ∀ c, o = .frameError c → c ∈ [FRAME_SIZE_ERROR, PROTOCOL_ERROR, FLOW_CONTROL_ERROR]) :
    codeOf o ∈ rfcAllows o := by
  cases o <;> first | decide | (exact absurd rfl h1) | (exact absurd rfl h2) | (exact h3 _ rfl)

theorem conn_error_codes_deviations :
    codeOf .headersOnFinished = PROTOCOL_ERROR ∧ rfcAllows .headersOnFinished = [STREAM_CLOSED] ∧
    codeOf .endHeadersIncomplete = PROTOCOL_ERROR ∧ rfcAllows .endHeadersIncomplete = [COMPRESSION_ERROR] := by
  decide

theorem conn_error_codes_witness : ¬ conn_error_codes_full := by
  intro h; have := h .headersOnFinished; revert this; decide

/-- every GOAWAY that names no stream ends the stream loop at once; the ones that go on serving
(`ifDone`, `cont`) name the offending stream, so `closeRef` is set and there is something to wait for -/
theorem unnamed_goaway_stops (o : Offence) (h : namesStream o = false) : modeOf o = .stop := by
  cases o <;> first | rfl | (exact absurd h (by decide))

/-! ### what the serial model hides: a GOAWAY written from another goroutine

`writeGoAway` is also called by the read loop and by the idle timer. Before the repair of F64 it read `lastID`, queued
the frame and marked the connection closed without any ordering against the stream loop, which read the state at the
top of its iteration and advanced `lastID` later. The two witnesses below are runs of a model of THAT protocol
(`Race`); the forced interleaving was replayed on the real code (harness op `racega`, findings/F64-C10-before-fix.txt).
The repaired protocol (`Locked`: `goAwayMu` held by the writer from the load to the closed flag, and by the stream loop
around "closing? / lastID := id") is proved correct for every interleaving of any number of writers. -/

open Locked in
/-- **GOAWAY truth under every interleaving** (the protocol as repaired): whatever the order in which the stream loop
and any number of outside writers (read loop, idle timer) take their steps, every GOAWAY's last-stream-id is at least
every stream dispatched before it and nothing is dispatched after a GOAWAY -/
theorem goaway_truth_all_interleavings (acts : List Locked.Act) : Locked.Truth (Locked.lrun {} acts).trace :=
  Locked.run_truth acts

open Locked in
/-- non-vacuity: the interleaving of the witness below, on the repaired protocol: the timer takes the lock and loads
`lastID` = 0, the HEADERS of stream 1 has to wait, the GOAWAY goes out, the flag is set, the lock is released, and the
stream is refused -/
example : (Locked.lrun {} [.w 0 0, .w 0 0, .slHeaders 1, .w 0 0, .w 0 0, .w 0 0, .slHeaders 1]).trace =
    [.goAway 0 NO_ERROR, .refused 1] := by decide

open Race in
/-- the same predicate fails on the unlocked protocol's run -/
theorem unlocked_protocol_breaks_truth :
    ¬ Locked.Truth (rrun {} [.load, .slHeaders 1, .send, .setClosing]).trace := by decide

open Race in
/-- **race witness (GOAWAY truth), protocol before the repair**: the idle timer (or the read loop) loads `lastID` = 0; the stream loop
opens and dispatches stream 1; the timer writes GOAWAY(last = 0). A request is being processed on a
stream the GOAWAY told the client it may replay. -/
theorem goaway_truth_race_witness :
    let s := rrun {} [.load, .slHeaders 1, .send, .setClosing]
    Rec.goAway 0 NO_ERROR ∈ s.trace ∧ Rec.dispatched 1 ∈ s.trace := by
  decide

open Race in
/-- **race witness (no new stream after GOAWAY), protocol before the repair**: the closing flag is stored after the frame is queued, so
a stream can be opened and dispatched after the GOAWAY went out, even if the GOAWAY itself was right when
written. -/
theorem no_new_stream_race_witness :
    (rrun {} [.slHeaders 1, .load, .send, .slHeaders 3, .setClosing]).trace =
      [.opened 1, .dispatched 1, .goAway 1 NO_ERROR, .opened 3, .dispatched 3] := by
  decide

/-! non-vacuity -/
example : Rec.goAway 3 1 ∈ (run init [.hdrNew 1 false, .dispatch 1, .offence .rstOnIdle 3]).trace ∧
    Rec.dispatched 1 ∈ (run init [.hdrNew 1 false, .dispatch 1, .offence .rstOnIdle 3]).trace := by decide
example : (run init [.hdrNew 1 false, .offence .rstOnIdle 5, .hdrNew 7 false]).trace =
    [.opened 1, .goAway 5 1, .refused 7] := by decide
example : (∀ it ∈ [[Ev.hdrNew 1 false, .dispatch 1, .check], [.offence .rstOnIdle 3], [.close 1, .check]], okIter it = true) ∧
    (let s := run init [.hdrNew 1 false, .dispatch 1, .check, .offence .rstOnIdle 3, .close 1, .check]
     s.closing = true ∧ canClose s = true ∧ s.stopped = true) := by decide

end H2.Props.C10


/-! ### what a GOAWAY promises, proved directly on the full server model

Everything below is about `H2.Server.step` itself (`H2/Server/Model.lean`, the serial model the driver runs against
the real `serverConn`), for every configuration and every event list; `runOuts cfg evs` is the list of everything
written and dispatched, in the order the model produces it. Proofs: `H2/Proofs/ServerSlotsFull.lean` (invariant:
every GOAWAY written so far names at least `lastID`; `closing` is set exactly when a GOAWAY has been written; no
stream is created while `closing`) together with `dispatched_le_lastID` of `H2/Proofs/ServerOnce.lean`.
(The serial model knows one interleaving of the read loop's own GOAWAYs with the stream loop; the other orders are
the subject of `goaway_truth_all_interleavings` above.) -/
namespace H2.Props.C10
section FullModel
open H2.Server

/-- **goaway_covers_dispatched** (full model, run level): split the outputs of any run at any GOAWAY frame; the
last-stream-id it carries is at least every stream id handed to a handler BEFORE it. -/
theorem Full.goaway_covers_dispatched (cfg : Cfg) (evs : List Event) (pre post : List Out) (l c : Nat) (t : String)
    (h : runOuts cfg evs = pre ++ .goAway l c t :: post) : ∀ i ∈ dispatchedIds pre, i ≤ l :=
  H2.Server.goaway_covers_dispatched cfg evs pre post l c t h

/-- **no_dispatch_after_goaway_above_last** (full model, run level): … and no stream id above it is handed to a handler
AFTER it. -/
theorem Full.no_dispatch_after_goaway_above_last (cfg : Cfg) (evs : List Event) (pre post : List Out) (l c : Nat) (t : String)
    (h : runOuts cfg evs = pre ++ .goAway l c t :: post) : ∀ i ∈ dispatchedIds post, i ≤ l :=
  H2.Server.no_dispatch_after_goaway_above_last cfg evs pre post l c t h

/-- (full model, run level) every GOAWAY of a run names at least the final `lastID` (the highest stream id the server
ever accepted), which is a 31-bit id: `writeGoAway` truncates nothing. -/
theorem Full.goaway_ge_lastID (cfg : Cfg) (evs : List Event) :
    (∀ l ∈ goAwayLasts (runOuts cfg evs), (run cfg evs).1.lastID ≤ l) ∧ (run cfg evs).1.lastID < 2 ^ 31 :=
  H2.Server.goaway_ge_lastID cfg evs

/-- **closing_is_permanent** (full model, run level): once `closing` is set it is set after any further events. -/
theorem Full.closing_is_permanent (cfg : Cfg) (evs evs' : List Event) (h : (run cfg evs).1.closing = true) :
    (run cfg (evs ++ evs')).1.closing = true :=
  H2.Server.closing_is_permanent cfg evs evs' h

/-- (full model, run level) `closing` is set exactly when a GOAWAY has been written. -/
theorem Full.closing_iff_goaway (cfg : Cfg) (evs : List Event) :
    (run cfg evs).1.closing = true ↔ goAwayLasts (runOuts cfg evs) ≠ [] :=
  H2.Server.closing_iff_goaway cfg evs

/-- (full model, run level) once `closing` is set `lastID` never moves again: no stream is created after a GOAWAY
(a HEADERS frame for a new stream is answered with RST_STREAM(REFUSED_STREAM)). -/
theorem Full.no_new_stream_after_goaway (cfg : Cfg) (evs evs' : List Event) (h : (run cfg evs).1.closing = true) :
    (run cfg (evs ++ evs')).1.lastID = (run cfg evs).1.lastID :=
  H2.Server.no_new_stream_after_goaway cfg evs evs' h

/-! non-vacuity on the full model (`Ex.gaRun`: requests 1 and 3 dispatched, 3 answered and closed, DATA on the closed
stream 3 → GOAWAY(last = 3) while the handler of 1 still runs, HEADERS(5) refused, `lastID` stays 3). The same
operations replayed on the real server give the same lines (REPORT). -/
example : fm Ex.tag (runOuts {} Ex.gaRun) = [("dispatch", 1), ("dispatch", 3), ("goaway", 3), ("rst", 5)] := by
  decide +kernel
example : (run {} Ex.gaRun).1.closing = true ∧ (run {} Ex.gaRun).1.lastID = 3 ∧
    (run {} (Ex.gaRun.take 4)).1.closing = false := by decide +kernel
/-- the hypothesis of the two split theorems is satisfiable: the outputs of this run do split at a GOAWAY(last = 3) -/
example : ∃ pre post c t, runOuts {} Ex.gaRun = pre ++ .goAway 3 c t :: post :=
  split_at_goAway _ 3 (by decide +kernel)

end FullModel
end H2.Props.C10
