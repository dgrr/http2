import H2.Proofs.ClientInter
import H2.Proofs.ClientWFail
import H2.Proofs.ClientLocks
import H2.Proofs.ClientQueue
import H2.Proofs.ClientRunOnce
/-!
# C12 — every client request resolves exactly once, whatever the server does

`H2.Client.Inter`: all interleavings of callers in `Write`/`RoundTrip`, the write loop and its
teardown, `Close`, the read loop's `finish` and the timers, over an unbounded family of requests; what
the server does only decides which `finish`/`rdSetErr`/`close` actions happen, and they may happen at
any time. `H2.Client.Locks`: who holds and who asks for a request's ownership lock.
The theorems hold for the code before and after fix F42 (`rv` arbitrary) unless stated.

Write failures: in `H2.Client.Inter` the write loop can end by itself in three ways, each an action of
the transition system the theorems quantify over: `wlWriteFail` (the HEADERS of a request cannot be
written: `writeRequest`'s error branch), `wlBodyFail` (its HEADERS went out, a DATA write fails) and
`wlFail` (any other write fails: a frame of `out`, the DATA of `flushPending`, a PING; or pings go
unanswered). In `H2.Client.Locks` the error branch of `writeRequest` is `wlWriteFail` → `wlFailRelease` →
`wlFailDelete`: the lock is given back before `deletePending` asks for it. The serial model (the one
compared step by step with the real `Conn` under `failwrite`) has `write_failure_*` below.

A peer that is slow to read: `H2.Client.Queue` models the bounded control-frame queue `c.out`, its single
reader (the write loop) and the request lock both loops take. `queue_never_wedges` / `frame_leaves_full_queue`:
in the repaired code the write loop always gets back to its `select` without anybody needing room in the
queue, so a full queue drains once the peer reads again; `F83_deadlock_before_fix`, `F84_deadlock_before_fix`:
the code before the fixes reaches states in which nothing can move although the peer takes every octet.
(What the real client does while the peer does not read at all is runtime behaviour judged by the
monitors over the `clistall` family: results in time, Close returns, nobody left parked.)
-/
namespace H2.Props.C12

/-! ## the control-frame queue and the request lock: a full queue drains (findings F83, F84, fixed) -/

open H2.Client.Queue in
/-- **queue_never_wedges** (repaired code, any queue capacity): from every reachable state the write
loop gets back to its `select` in finitely many steps, none of which needs room in the control-frame
queue (its length does not change on the way): neither loop ever waits for the queue in a position
where the write loop, the queue's only reader, is held up -/
theorem queue_never_wedges (cap : Nat) {s : S} (h : Reach (Cfg.fixed cap) s) :
    ∃ s', Steps (Cfg.fixed cap) s s' ∧ s'.wl = .idle ∧ s'.q = s.q := by
  have i := inv h
  have j := inv_fixed h
  cases hw : s.wl with
  | idle => exact ⟨s, Steps.refl s, hw, rfl⟩
  | sending =>
    exact ⟨_, Steps.one (Step.wlSend s hw (i.wl.mpr hw)), rfl, rfl⟩
  | queueRst => exact absurd hw j.2
  | wantLock =>
    -- whoever holds the request lets go of it; then `acquireFor`, the DATA frames, release
    have fin : ∀ t, Reach (Cfg.fixed cap) t → t.holder = none → t.wl = .wantLock → t.q = s.q →
        ∃ s', Steps (Cfg.fixed cap) t s' ∧ s'.wl = .idle ∧ s'.q = s.q := fun t _ hn hwl hq =>
      ⟨_, Steps.tail (Steps.one (Step.wlAcquire t hwl hn)) (Step.wlSend _ rfl rfl), rfl, by simpa using hq⟩
    cases hh : s.holder with
    | none => exact fin s h hh hw rfl
    | some a =>
      cases a with
      | wl => rw [i.wl.mp hh] at hw; cases hw
      | rd =>
        obtain ⟨t, st, hn, hwl, hq⟩ := rd_releases h hh
        obtain ⟨s', st', r1, r2⟩ := fin t (h.steps st) hn (hwl.trans hw) hq
        exact ⟨s', st.trans st', r1, r2⟩

open H2.Client.Queue in
/-- **frame_leaves_full_queue**: however full the queue is, once the peer takes octets again the next
frame leaves it -/
theorem frame_leaves_full_queue (cap : Nat) {s : S} (h : Reach (Cfg.fixed cap) s) (hq : 0 < s.q) :
    ∃ s', Steps (Cfg.fixed cap) s s' ∧ s'.q = s.q - 1 := by
  obtain ⟨t, st, hw, hq'⟩ := queue_never_wedges cap h
  exact ⟨_, Steps.tail st (Step.wlTake t hw (by omega)), by simp [hq']⟩

open H2.Client.Queue in
/-- the hypotheses are satisfiable at the interesting point: the queue is full, the read loop holds the
request of a DATA frame, the write loop asks for it — and still a frame leaves the queue -/
example : ∃ s, Reach (Cfg.fixed 128) s ∧ s.q = 128 ∧ s.holder = some .rd ∧ s.wl = .wantLock ∧
    ∃ s', Steps (Cfg.fixed 128) s s' ∧ s'.q = 127 := by
  have r0 := reach_fill (Cfg.fixed 128) 128 (Nat.le_refl _)
  have r1 := Reach.step r0 (Step.wlWindow _ rfl)
  have r2 := Reach.step r1 (Step.rdAcquire _ rfl rfl)
  exact ⟨_, r2, rfl, rfl, rfl, frame_leaves_full_queue 128 r2 (by decide)⟩

open H2.Client.Queue in
/-- **F83 (before the fix)**: the queue is full, the read loop is in `dispatch` on a DATA frame of a stream
whose upload the write loop has just been woken for: the read loop waits for room in the queue with the
request held, the write loop waits for the request. Nothing can move (the state the harness reproduces
with known/F83.ops: `unstall quiet=0`) -/
theorem F83_deadlock_before_fix (cap : Nat) :
    ∃ s, Reach ⟨cap, true, false⟩ s ∧ s.q = cap ∧ Dead ⟨cap, true, false⟩ s := by
  have r0 := reach_fill ⟨cap, true, false⟩ cap (Nat.le_refl _)
  have r1 := Reach.step r0 (Step.wlWindow _ rfl)
  have r2 := Reach.step r1 (Step.rdAcquire _ rfl rfl)
  have r3 := Reach.step r2 (Step.rdDataOld _ rfl rfl)
  refine ⟨_, r3, rfl, ?_⟩
  intro s' st
  cases st <;> simp_all

open H2.Client.Queue in
/-- **F84 (before the fix)**: the queue is full and the write loop, in `sendPending`, queues the RST_STREAM
for a body whose reader failed: it waits for room in the queue only it can make; the read loop runs
into the full queue with its next frame (known/F84.ops) -/
theorem F84_deadlock_before_fix (cap : Nat) :
    ∃ s, Reach ⟨cap, false, true⟩ s ∧ s.q = cap ∧ Dead ⟨cap, false, true⟩ s := by
  have r0 := reach_fill ⟨cap, false, true⟩ cap (Nat.le_refl _)
  have r1 := Reach.step r0 (Step.wlWindow _ rfl)
  have r2 := Reach.step r1 (Step.wlAcquire _ rfl rfl)
  have r3 := Reach.step r2 (Step.wlReadFailOld _ rfl rfl rfl)
  have r4 := Reach.step r3 (Step.rdAcquire _ rfl rfl)
  have r5 := Reach.step r4 (Step.rdDataNew _ rfl rfl rfl)
  refine ⟨_, r5, rfl, ?_⟩
  intro s' st
  cases st <;> simp_all

open H2.Client.Inter

/-- **at_most_one_delivery**: a caller reads at most one value from its request's `Err` channel -/
theorem at_most_one_delivery {s : S} (h : Reach recheckFixed s) (i : Nat) : (s.r i).reads ≤ 1 := by
  have := (reachB recheckFixed_ne h i).b5
  split at this <;> omega

/-- **every unresolved request is somewhere a goroutine will find it**: past `Write`'s send, a request
on which no resolve has taken effect is still in `in` or in the stream table -/
theorem unresolved_is_held {rv} {s : S} (h : Reach rv s) (i : Nat) (hne : (s.r i).ever = false)
    (hp : (s.r i).pc = .recheck ∨ (s.r i).pc = .waiting) : (s.r i).inQ = true ∨ (s.r i).inTable = true :=
  ((reachA h).r i).i3 hne hp

/-- **no_stranded_request**: once the write loop has exited (which implies `done` is closed: the
connection is over), every request whose caller is past `Write` and still waiting has a result in its
channel -/
theorem no_stranded_request {rv} {s : S} (h : Reach rv s) (hw : s.wl = .exited) (i : Nat)
    (hp : (s.r i).pc = .waiting) : (s.r i).errBuf.isSome = true := by
  obtain ⟨h3, h4, h5, h6, _, _⟩ := (reachA h).r i
  grind

/-- a caller still inside `Write` after the write loop has exited is one step from a result:
`done` is closed, so its re-check resolves the request -/
theorem exited_implies_done {rv} {s : S} (h : Reach rv s) (hw : s.wl = .exited) : s.done = true :=
  (reachA h).i1 (Or.inr (Or.inr hw))

/-- a resolve that took effect is never lost: the value is in the channel until the caller takes it -/
theorem resolution_kept {rv} {s : S} (h : Reach rv s) (i : Nat) (he : (s.r i).ever = true) :
    (s.r i).errBuf.isSome = true ∨ (s.r i).pc = .taking ∨ (s.r i).pc = .got :=
  ((reachA h).r i).i6 he

/-! ## ownership lock: no goroutine asks for a lock it holds (finding F46, fixed) -/

open H2.Client.Locks in
/-- **no_self_lock**: in the repaired code no reachable state has a goroutine asking for the
request lock it already holds -/
theorem no_self_lock {s : H2.Client.Locks.S} (h : H2.Client.Locks.Reach true s) : ¬ SelfLocked true s := by
  have inv := lock_inv h
  rintro ⟨a, hw, hh⟩
  cases a <;> simp [wants] at hw <;> grind [LockInv]

open H2.Client.Locks in
/-- **F46 (before the fix)**: the read loop takes a request in `dispatch`, a response or RST_STREAM ends
the stream while a streamed upload is pending, and `finish` → `deletePending` asks for the same lock:
a reachable self-locked state (the deadlock reproduced by replays/…F46-C12-before.json) -/
theorem F46_prefix_witness : ∃ s, H2.Client.Locks.Reach false s ∧ SelfLocked false s :=
  ⟨_, Reach.step (Reach.step Reach.init (Step.rdAcquire {} rfl rfl)) (Step.rdToFinish _ rfl), .rd, by decide, rfl⟩

/-! ## write failures on the serial model (`cli … failwrite n`) -/

open H2.Client in
/-- **write_failure_resolves_all**: when the octets a step writes exceed what the transport still takes,
the connection is dead after the step and every request that was in the stream table has a result
waiting (or its caller has already taken one) -/
theorem write_failure_resolves_all (c : Conn) (fs : List OutFrame) (b : Nat)
    (hb : (wireBytes c fs).1.wbudget = some b) (ho : b < (wireBytes c fs).2) :
    (afterWrites c fs).1.dead = true ∧ (afterWrites c fs).1.reqQueued = [] ∧
    ∀ r ∈ (wireBytes c fs).1.reqs, ((wireBytes c fs).1.reqQueued.any fun p => p.2 == r.tag) = true →
      ∃ r' ∈ (afterWrites c fs).1.reqs, r'.tag = r.tag ∧ (r'.errBuf.isSome = true ∨ r'.done = true) := by
  obtain ⟨h1, h2⟩ := afterWrites_over c fs b hb ho
  refine ⟨h2, by rw [h1]; rfl, fun r hr hq => ?_⟩
  rw [h1]
  exact dieWith_resolves _ _ r hr hq

open H2.Client in
/-- **write_failure_keeps_results**: the teardown after a failed write never replaces a result that was
already waiting for its caller: a request ends once -/
theorem write_failure_keeps_results (c : Conn) (fs : List OutFrame) (b : Nat)
    (hb : (wireBytes c fs).1.wbudget = some b) (ho : b < (wireBytes c fs).2) (x : Err)
    (r' : H2.Client.Req) (hr : r' ∈ (afterWrites c fs).1.reqs) :
    ∃ r ∈ (wireBytes c fs).1.reqs, r'.tag = r.tag ∧ (r.errBuf = some x → r'.errBuf = some x) := by
  rw [(afterWrites_over c fs b hb ho).1] at hr
  exact dieWith_keeps _ _ x r' hr

open H2.Client in
/-- **write_budget_exact**: within the budget all the step's frames go out and the budget shrinks by
exactly their octets; a transport that never fails leaves the step as it is without the write-failure layer -/
theorem write_budget_exact (c : Conn) (fs : List OutFrame) :
    (∀ b, (wireBytes c fs).1.wbudget = some b → (wireBytes c fs).2 ≤ b →
      (afterWrites c fs).1 = { (wireBytes c fs).1 with wbudget := some (b - (wireBytes c fs).2) }) ∧
    ((wireBytes c fs).1.wbudget = none → (afterWrites c fs).1 = (wireBytes c fs).1) :=
  ⟨fun b hb hw => afterWrites_within c fs b hb hw, afterWrites_never c fs⟩

/-! ## non-vacuity -/

open H2.Client in
/-- the hypotheses of `write_failure_resolves_all` are satisfiable: a RST_STREAM (13 octets) against a
transport that takes 5 more, one request in the table -/
example : ∃ (c : Conn) (fs : List OutFrame) (b : Nat), (wireBytes c fs).1.wbudget = some b ∧ b < (wireBytes c fs).2 ∧
    ∃ r ∈ (wireBytes c fs).1.reqs, ((wireBytes c fs).1.reqQueued.any fun p => p.2 == r.tag) = true :=
  ⟨{ reqs := [{ tag := "a", sid := 1, hasConn := true }], reqQueued := [(1, "a")], wbudget := some 5 }, [.rst 1 8], 5,
    rfl, by decide, { tag := "a", sid := 1, hasConn := true }, by simp [wireBytes], by decide⟩

/-- a DATA write of `writeRequest` fails (`wlBodyFail`), the write loop tears the connection down and
exits: the request's caller, waiting, finds the error — an instance of `no_stranded_request` through the
write-failure actions -/
example : ∃ s, Reach recheckFixed s ∧ s.wl = .exited ∧ (s.r 0).pc = .waiting ∧ (s.r 0).written = true ∧
    (s.r 0).errBuf = some .fatal := by
  have r1 := Reach.step (rv := recheckFixed) Reach.init (Step.enqueue init 0 rfl)
  have r2 := Reach.step r1 (Step.recheckN _ 0 rfl rfl)
  have r3 := Reach.step r2 (Step.wlBodyFail _ 0 rfl rfl)
  have r4 := Reach.step r3 (Step.wlSetErr _ rfl)
  have r5 := Reach.step r4 (Step.wlClose _ rfl)
  have r6 := Reach.step r5 (Step.wlTakeAll _ rfl)
  have r7 := Reach.step r6 (Step.wlDrainEnd _ rfl (by intro j; by_cases hj : j = 0 <;> simp [upd, init, res, hj]))
  exact ⟨_, r7, rfl, by simp [upd, init, res], by simp [upd, init, res], by simp [upd, init, res]⟩

/-- the write loop can exit with a request whose caller is waiting: `no_stranded_request` is not empty -/
example : ∃ s, Reach recheckFixed s ∧ s.wl = .exited ∧ (s.r 0).pc = .waiting := by
  have r1 := Reach.step (rv := recheckFixed) Reach.init (Step.enqueue init 0 rfl)
  have r2 := Reach.step r1 (Step.recheckN _ 0 rfl rfl)
  have r3 := Reach.step r2 (Step.wlTakeWrite _ 0 rfl rfl)
  have r4 := Reach.step r3 (Step.close _)
  have r5 := Reach.step r4 (Step.wlSeeDone _ rfl rfl)
  have r6 := Reach.step r5 (Step.wlSetErr _ rfl)
  have r7 := Reach.step r6 (Step.wlClose _ rfl)
  have r8 := Reach.step r7 (Step.wlTakeAll _ rfl)
  have r9 := Reach.step r8 (Step.wlDrainEnd _ rfl (by intro j; by_cases hj : j = 0 <;> simp [upd, init, res, hj]))
  exact ⟨_, r9, rfl, by simp [upd, init, res]⟩

/-! ## the FULL serial model (`H2.Client.step`, the model the correspondence check compares with `conn.go`): every run

`run c evs` folds `step` over ANY event list
(`req`, `bytes`, `timeout`, `read`, `close`, `cut`, `failwrite`; no bound on length or contents) and collects the
outputs; `Init c` is the connection as the driver creates it (`Drv.handshake`, `handshake_init`). The proofs are in
`H2/Proofs/ClientRun.lean` (runs, `MapLe`), `ClientRunRel.lean` (one lemma per function of the read loop),
`ClientRunStep.lean` (the invariant `Inv`, `step_inv`) and `ClientRunOnce.lean`. -/

section FullModel
open H2.Client

/-- **Full.delivered_at_most_once**: in any run of the full model from a new connection, for every tag, at most one
output hands a result of the request with that tag to its caller (`readRes (some _)`); no hypothesis on the tags -/
theorem Full.delivered_at_most_once (c : Conn) (h : Init c) (evs : List Event) (tag : String) :
    ((run c evs).2.filter (deliveredTo tag)).length ≤ 1 :=
  deliveries_le_one tag evs c (init_inv h)

/-- **Full.read_again_after_delivery**: if the step after `pre` delivers the result of `tag`, that step is the caller's
`read tag`, and in whatever follows nothing more is delivered for the tag and every `read tag` answers `readAgain` -/
theorem Full.read_again_after_delivery (c : Conn) (h : Init c) (pre : List Event) (e : Event) (post : List Event)
    (tag : String) (hd : deliveredTo tag (step (run c pre).1 e).2 = true) :
    e = .read tag ∧
    AllSteps (fun _ ev _ o => deliveredTo tag o = false ∧ (ev = .read tag → o = .readAgain)) (step (run c pre).1 e).1 post := by
  have hi := run_invariant (init_inv h) pre
  obtain ⟨he, hr⟩ := deliveredTo_marks _ e tag hd
  exact ⟨he, H2.Client.read_again_after_delivery tag _ (step_inv _ e hi) hr post⟩

/-- **Full.resolve_never_overwrites**: what `Ctx.resolve` does in the model, exactly: a request that was taken back by
its caller (`done`) or holds a result (`errBuf`) is returned unchanged; only a request with neither gets the result -/
theorem Full.resolve_never_overwrites (r : H2.Client.Req) (e : Err) :
    ((r.done = true ∨ r.errBuf.isSome = true) → r.resolve e = r) ∧
    ((r.done = false ∧ r.errBuf = none) → r.resolve e = { r with errBuf := some e }) := by
  rcases r.resolve_cases e with ⟨c, h⟩ | ⟨hd, he, h⟩
  · refine ⟨fun _ => h, fun ⟨d, b⟩ => ?_⟩
    rw [d, b] at c
    rcases c with c | c <;> cases c
  · refine ⟨fun c => ?_, fun _ => h⟩
    rw [hd, he] at c
    rcases c with c | c <;> cases c

/-- **Full.result_kept**: in any run, once the request `tag` holds the result `e`, it holds exactly `e` after any further
events that are not the caller's own `read tag` (frames, time-outs, write failures, `Close`, loss of the connection,
other requests), and the caller's `read tag` is then handed `e`: the first result is the one delivered -/
theorem Full.result_kept (c : Conn) (h : Init c) (pre evs : List Event) (tag : String) (e : Err)
    (hr : ∃ r, getReq (run c pre).1 tag = some r ∧ r.errBuf = some e) (hno : ∀ ev ∈ evs, isReadOf tag ev = false) :
    (∃ r', getReq (run (run c pre).1 evs).1 tag = some r' ∧ r'.errBuf = some e) ∧
    ∃ r', (step (run (run c pre).1 evs).1 (.read tag)).2 = .readRes (some (e, r')) :=
  ⟨H2.Client.result_kept tag e evs _ (run_invariant (init_inv h) pre) hr hno,
   first_result_is_delivered tag e evs _ (run_invariant (init_inv h) pre) hr hno⟩

/-- **Full.nothing_stranded**: in every state a run reaches with the connection dead, the request found under any tag
has a result waiting or was taken back by its caller -/
theorem Full.nothing_stranded (c : Conn) (h : Init c) (evs : List Event) (hd : (run c evs).1.dead = true) :
    ∀ t r, getReq (run c evs).1 t = some r → r.done = true ∨ r.errBuf.isSome = true :=
  dead_all_settled _ (run_invariant (init_inv h) evs) hd

/-- **Full.tags_are_the_req_events**: the requests of the connection are the `req` events of the run, in order (the
model never marks a connection `stuck`), so distinct tags stay distinct -/
theorem Full.tags_are_the_req_events (c : Conn) (h : Init c) (evs : List Event) :
    (run c evs).1.reqs.map (·.tag) = evs.filterMap reqTag := by
  rw [run_tags evs c (init_inv h), h.reqs]; rfl

/-- **Full.nothing_stranded_unique**: if the tags of the `req` events are distinct, EVERY request of a dead connection
is resolved -/
theorem Full.nothing_stranded_unique (c : Conn) (h : Init c) (evs : List Event) (hn : (evs.filterMap reqTag).Nodup)
    (hd : (run c evs).1.dead = true) : ∀ r ∈ (run c evs).1.reqs, r.done = true ∨ r.errBuf.isSome = true :=
  dead_all_settled_mem _ (run_invariant (init_inv h) evs) hd (by rw [Full.tags_are_the_req_events c h evs]; exact hn)

/-- **Full.req_on_dead_connection**: a request handed to a connection that has ended is answered `dead` and every request
with its tag is resolved in that same step -/
theorem Full.req_on_dead_connection (c : Conn) (h : Init c) (evs : List Event) (r : ReqSpec)
    (hd : (run c evs).1.dead = true) :
    (step (run c evs).1 (.req r)).2 = .dead ∧
    ∀ q ∈ (step (run c evs).1 (.req r)).1.reqs, q.tag = r.tag → q.done = true ∨ q.errBuf.isSome = true :=
  req_on_dead_settled _ r (run_invariant (init_inv h) evs).stuck hd

/-- **Full.table_streams_distinct**: in every reachable state the stream ids of the table of waiting requests are distinct
and below `nextID`, and a dead connection's table is empty -/
theorem Full.table_streams_distinct (c : Conn) (h : Init c) (evs : List Event) :
    ((run c evs).1.reqQueued.map (·.1)).Nodup ∧ (∀ p ∈ (run c evs).1.reqQueued, p.1 < (run c evs).1.nextID) ∧
    ((run c evs).1.dead = true → (run c evs).1.reqQueued = []) :=
  let i := run_invariant (init_inv h) evs
  ⟨i.keys, i.below, i.deadTable⟩

/-! ### non-vacuity: a request, its response, two reads, `Close`, a late request -/

def fullReq (tag : String) : ReqSpec :=
  { tag := tag, method := [71, 69, 84], scheme := [104, 116, 116, 112, 115], host := [104], path := [47], ua := [117],
    hdrs := [], body := .none }

/-- HEADERS on stream 1, END_STREAM | END_HEADERS, `:status 200` -/
def fullResp : List Nat := [0, 0, 1, 1, 5, 0, 0, 0, 1, 0x88]

def fullRun : List Event := [.req (fullReq "a"), .bytes fullResp, .read "a", .read "a", .req (fullReq "b"), .close, .read "b"]

example : Init ({} : Conn) := init_default

/-- the run delivers exactly one result for "a" (the second `read` answers `readAgain`) and one for "b" -/
example : ((run {} fullRun).2.filter (deliveredTo "a")).length = 1 ∧ ((run {} fullRun).2.filter (deliveredTo "b")).length = 1 := by
  decide +kernel

/-- `Full.read_again_after_delivery` is used: the third step delivers -/
example : deliveredTo "a" (step (run {} (fullRun.take 2)).1 (.read "a")).2 = true := by decide +kernel

/-- `Full.result_kept`: after the response "a" holds `ok`; `Close` and another request do not change it -/
example : (getReq (run {} (fullRun.take 2)).1 "a").map (·.errBuf) = some (some .ok) := by decide +kernel

/-- `Full.nothing_stranded`: the connection is dead after `close`, "b" was waiting and got `eof` -/
example : (run {} (fullRun.take 6)).1.dead = true ∧
    ((run {} (fullRun.take 6)).1.reqs.map fun q => (q.tag, q.done, q.errBuf)) = [("a", true, none), ("b", false, some .eof)] := by
  decide +kernel

/-- `Full.req_on_dead_connection` -/
example : (match (step (run {} (fullRun.take 6)).1 (.req (fullReq "c"))).2 with | .dead => true | _ => false) = true := by
  decide +kernel

example : (fullRun.filterMap reqTag).Nodup := by decide

end FullModel

end H2.Props.C12
