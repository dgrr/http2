import H2.Proofs.ServerRecvFull
import H2.Proofs.Recv
/-!
# C14 (server half) — the server hands flow-control credit back

Theorems about the abstract receive-credit model `H2.Server.Abs.Recv` (every sequence of DATA frames, no
bound). An event is what happens to one DATA frame the stream loop takes off the reader: accepted on its
stream (length with padding, END_STREAM or not), counted on the connection only (stream reset by this
side, or dropped by the request-body limit), or answered with a connection error. The driver runs the
model in lockstep with the full server model and compares every WINDOW_UPDATE and `currentWindow`.

The client half of C14 is not covered here.
-/
namespace H2.Props.C14
open H2.Server.Abs.Recv

theorem reachable (evs : List Ev) : Inv (run init evs) := run_inv evs init init_inv

/-- **credit conservation on the connection**: what has been credited plus what is outstanding equals
what was received, apart from the frames that were answered with a connection error; and what is
outstanding never exceeds half the window the server advertised, so a peer that respects the window can
always send (its view of the connection window stays above 65 535 + half of it, less the octets of its own
offending frames). -/
theorem credit_conservation (evs : List Ev) :
    let st := run init evs
    (st.credited : Int) + outstanding st = (st.received : Int) - st.lost ∧
    0 ≤ outstanding st ∧ outstanding st ≤ maxWin / 2 ∧
    peerConnView st ≥ 65535 + maxWin / 2 - st.lost := by
  have h := reachable evs
  have hv := maxWin_val
  have := h.cons; have := h.lo; have := h.hi
  simp only [outstanding, peerConnView]
  refine ⟨by assumption, ?_, ?_, ?_⟩ <;> omega

/-- **stream credit is returned in full**: on every stream, the increments sent add up to all the octets
accepted on it, except the frame that ended it (nothing is owed on a stream the peer has finished). -/
theorem stream_credit_in_full (evs : List Ev) :
    ∀ l ∈ (run init evs).leds, l.credited + l.final = l.received :=
  (reachable evs).leds

/-- … and at once: an accepted non-empty frame that does not end its stream is answered with a
WINDOW_UPDATE for its whole length on that stream, before anything else happens -/
theorem stream_credit_at_once (st : St) (sid len : Nat) (h : 0 < len) :
    ∃ rest, (step st (.accepted sid len false)).trace = st.trace ++ Rec.wu sid len :: rest := by
  have h0 : len ≠ 0 := by omega
  simp only [step, h0, if_false, Bool.false_eq_true, consumeConn]
  split
  · exact ⟨[Rec.wu 0 (maxWin - (st.recvWin - ↑len)).toNat], by simp⟩
  · exact ⟨[], rfl⟩

/-- **never an increment of 0** -/
theorem no_zero_increment (evs : List Ev) :
    ∀ sid inc, Rec.wu sid inc ∈ (run init evs).trace → 0 < inc :=
  (reachable evs).nz

/-- **never above 2^31−1**: neither the connection window nor any stream window, as the peer counts
them, ever exceeds what the server first advertised, which is below 2^31−1 -/
theorem never_above_max (evs : List Ev) :
    peerConnView (run init evs) ≤ 2 ^ 31 - 1 ∧
    ∀ l ∈ (run init evs).leds, peerStreamView l ≤ maxWin ∧ peerStreamView l ≤ 2 ^ 31 - 1 := by
  have h := reachable evs
  have hv := maxWin_val
  constructor
  · have := h.cons; have := h.lo; have := h.hi
    simp only [peerConnView]; omega
  · intro l hl
    have := h.leds l hl
    simp only [peerStreamView]; omega

/-- **padded empty DATA is credited**: a frame whose payload is padding only (length > 0, no data) is
an `accepted` event like any other — the code charges and credits `fr.Len()`, not `len(data)` — so
`stream_credit_at_once` and `credit_conservation` cover it. The frame of length 0 changes nothing and
writes nothing (no increment of 0). -/
theorem empty_frame_silent (st : St) (sid : Nat) (es : Bool) :
    (step st (.accepted sid 0 es)).trace = st.trace ∧ (step st (.accepted sid 0 es)).recvWin = st.recvWin := by
  simp [step]

/-! non-vacuity: half the window arrives in one piece — nothing yet (`currentWindow` is exactly half);
one more octet takes it below half: a single connection increment of 2 097 153, nothing outstanding -/
example : let st := run init [.accepted 1 2097152 false, .accepted 1 1 false]
    st.trace = [.wu 1 2097152, .wu 1 1, .wu 0 2097153] ∧ outstanding st = 0 ∧ st.received = 2097153 := by decide
example : (run init [.accepted 1 10 false, .dropped 3 5, .connErr 5 7, .accepted 1 4 true]).trace = [.wu 1 10] := by decide

end H2.Props.C14


/-! # C14 (server half) on the full server model: credit conservation

Everything below is about `H2/Server/Model.lean` itself, for every configuration and every event list; the abstract model
`H2.Server.Abs.Recv` above is not involved. `dataFwd fwd` = flow-controlled octets (`fr.length`, padding included) of the
DATA frames on a stream among the frames the read loop forwarded; `cred0 outs` = sum of the increments of the
`WINDOW_UPDATE(0, inc)` written (the handshake's own WINDOW_UPDATE is not part of `runOuts`).

Step level: `full_consume_conn`, `full_stream_credit_at_once`, `full_no_credit_on_final_frame`, `full_data_is_charged`.
Run level: `full_recv_ledger`, `full_recv_conservation`, `full_never_overcredits`, `full_no_zero_increment`.
The starvation-freedom reading ("the peer can always send its next octet") is `credit_conservation` on the abstract model
above. -/
namespace H2.Props.C14
open H2.Server

/-- **`consumeConnWindow`** (step level): nothing for an empty frame; otherwise `recvWin` goes down by `n`; when that takes it
below half of 4 MiB exactly one `WINDOW_UPDATE(0, inc)` is written with `inc = 4 MiB − (recvWin − n) > 0` and `recvWin` is
4 MiB again -/
theorem full_consume_conn (r : R) (n : Nat) :
    (n = 0 → consumeConnWindow r n = r) ∧
    (n ≠ 0 → r.s.recvWin - n < (H2.Gen.c_serverMaxWindow : Int) / 2 →
      (consumeConnWindow r n).out = r.out ++ [.wu 0 ((H2.Gen.c_serverMaxWindow : Int) - (r.s.recvWin - n)).toNat] ∧
      (consumeConnWindow r n).s.recvWin = H2.Gen.c_serverMaxWindow ∧
      0 < ((H2.Gen.c_serverMaxWindow : Int) - (r.s.recvWin - n)).toNat) ∧
    (n ≠ 0 → ¬ r.s.recvWin - n < (H2.Gen.c_serverMaxWindow : Int) / 2 →
      (consumeConnWindow r n).out = r.out ∧ (consumeConnWindow r n).s.recvWin = r.s.recvWin - n) :=
  consumeConnWindow_spec r n

/-- **stream credit in full and at once** (step level): a non-empty frame that does not end its stream is answered with
`WINDOW_UPDATE(stream, n)` for its whole length before the connection window is looked at -/
theorem full_stream_credit_at_once (r : R) (st : Strm) (fr : H2.Frame.Frame) (n : Nat) (hn : n ≠ 0)
    (hes : H2.Frame.hasFlag fr.flags H2.Gen.c_FlagEndStream = false) :
    consumeRecvWindow r st fr n = consumeConnWindow (r.emit (.wu st.id n)) n :=
  consumeRecvWindow_stream_credit r st fr n hn hes

/-- … and the frame that ends the stream gets none -/
theorem full_no_credit_on_final_frame (r : R) (st : Strm) (fr : H2.Frame.Frame) (n : Nat)
    (hes : H2.Frame.hasFlag fr.flags H2.Gen.c_FlagEndStream = true) :
    consumeRecvWindow r st fr n = consumeConnWindow r n :=
  consumeRecvWindow_final r st fr n hes

/-- **every DATA frame the model accepts, drops or ignores is charged** (step level). `Charged r r' n`: `r'` is `r` with some
outputs `l` appended, `r'.recvWin + n = r.recvWin + (connection credit written in l)`, no WINDOW_UPDATE of `l` has
increment 0, `l` has no DATA. (1) a DATA frame for a stream that may receive — in the table, headers finished, neither
half-closed nor closed — is charged `fr.length` whether it is accepted or dropped by the request-body limit (then the
error is RST_STREAM(ENHANCE_YOUR_CALM)); (2) a DATA frame for a stream this side has reset is ignored and charged. -/
theorem full_data_is_charged (r : R) (fr : H2.Frame.Frame) (ht : fr.typ = H2.Gen.c_FrameData) :
    (∀ uid st, r.getStrm uid = some st → verifyState st fr = none → st.headersFinished = true →
      ¬ st.state.rank ≥ StState.halfClosed.rank → st.id ≠ 0 →
        Charged r (handleFrame r uid fr).1 fr.length ∧
          ((handleFrame r uid fr).2 = none ∨ (handleFrame r uid fr).2 = some (.reset H2.Gen.c_EnhanceYourCalm))) ∧
    (∀ wc, r.s.resetByUs.contains fr.stream = true →
      unknownStream r fr wc = (consumeConnWindow r fr.length, none) ∧ Charged r (unknownStream r fr wc).1 fr.length) :=
  ⟨fun uid st hg hv hf hr hid => handleFrame_data_charged r uid fr st hg hv ht hf hr hid,
    fun wc hc => ⟨unknownStream_data_ignored r fr wc hc ht, unknownStream_data_charged r fr wc hc ht⟩⟩

/-- **receive ledger** (run level): `recvWin + DATA octets forwarded = 4 MiB + credit written + lost`, where `lost` (the
octets of DATA frames answered with a connection error) is 0 as long as no GOAWAY has been written; and
`4 MiB / 2 ≤ recvWin ≤ 4 MiB` always -/
theorem full_recv_ledger (cfg : Cfg) (evs : List Event) :
    (∃ lost : Nat, (run cfg evs).1.recvWin + (dataFwd (runFwd cfg evs) : Int) =
        (H2.Gen.c_serverMaxWindow : Nat) + (cred0 (runOuts cfg evs) : Int) + (lost : Int) ∧
      (cnt .goAway (runOuts cfg evs) = 0 → lost = 0)) ∧
    ((H2.Gen.c_serverMaxWindow : Nat) : Int) / 2 ≤ (run cfg evs).1.recvWin ∧
    (run cfg evs).1.recvWin ≤ ((H2.Gen.c_serverMaxWindow : Nat) : Int) :=
  recv_ledger cfg evs

/-- **credit conservation** (run level, no connection error so far): `recvWin + (received − credited) = serverMaxWindow`;
what is outstanding is never negative and never more than half the window -/
theorem full_recv_conservation (cfg : Cfg) (evs : List Event) (hga : cnt .goAway (runOuts cfg evs) = 0) :
    (run cfg evs).1.recvWin + ((dataFwd (runFwd cfg evs) : Int) - (cred0 (runOuts cfg evs) : Int)) =
      (H2.Gen.c_serverMaxWindow : Nat) ∧
    0 ≤ (dataFwd (runFwd cfg evs) : Int) - (cred0 (runOuts cfg evs) : Int) ∧
    (dataFwd (runFwd cfg evs) : Int) - (cred0 (runOuts cfg evs) : Int) ≤
      ((H2.Gen.c_serverMaxWindow : Nat) : Int) - ((H2.Gen.c_serverMaxWindow : Nat) : Int) / 2 :=
  recv_conservation cfg evs hga

/-- **never above what was received** (run level, any run): the connection credit written never exceeds the DATA octets
forwarded — the peer's view of the connection window never exceeds what the handshake announced -/
theorem full_never_overcredits (cfg : Cfg) (evs : List Event) : cred0 (runOuts cfg evs) ≤ dataFwd (runFwd cfg evs) :=
  recv_never_overcredits cfg evs

/-- **never an increment of 0** (run level): no WINDOW_UPDATE of any run, on a stream or on the connection, has increment 0 -/
theorem full_no_zero_increment (cfg : Cfg) (evs : List Event) (sid inc : Nat) (h : Out.wu sid inc ∈ runOuts cfg evs) :
    0 < inc :=
  H2.Server.no_zero_increment cfg evs sid inc h

/-! non-vacuity: SETTINGS; HEADERS(1, POST /); DATA(1, 2 octets) — WINDOW_UPDATE(1, 2); DATA(1, 3 octets, END_STREAM) — no
stream credit, the request is dispatched. 5 octets are outstanding on the connection: 4 194 299 + 5 = 4 194 304 + 0. -/
def fullRecvRun : List Event :=
  [.bytes [0, 0, 0, 4, 0, 0, 0, 0, 0],
   .bytes [0, 0, 3, 1, 4, 0, 0, 0, 1, 0x83, 0x86, 0x84],
   .bytes [0, 0, 2, 0, 0, 0, 0, 0, 1, 0x68, 0x69],
   .bytes [0, 0, 3, 0, 1, 0, 0, 0, 1, 0x68, 0x69, 0x6a]]

example : (run {} fullRecvRun).1.recvWin = 4194299 ∧ dataFwd (runFwd {} fullRecvRun) = 5 ∧
    cred0 (runOuts {} fullRecvRun) = 0 ∧ cnt .goAway (runOuts {} fullRecvRun) = 0 ∧
    (runOuts {} fullRecvRun).map Out.toString = ["S(ack)", "WU(1,2)", "dispatch(1,m=504f5354,p=2f,a=-,f=-,b=5:524:106)"] := by
  decide +kernel

end H2.Props.C14
