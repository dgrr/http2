import H2.Proofs.ServerExt
/-!
# C09 — a stream-level error never disturbs other streams or the compression context

Theorems about the full executable server model (`H2.Server`). What is proved: an offence that the
code classifies as stream-scoped is answered on that stream only (one RST_STREAM, no GOAWAY, the loop goes on,
no other stream's entry is touched); every malformed-message verdict of the header field loop is
stream-scoped; frames still in flight for a stream the server has reset are ignored and their DATA is
charged to the connection window; a trailer section that does not end the stream is answered on its stream
alone once its block has been decoded (F67 repaired: `trailer_not_last_*`). What is not: the HPACK context of a
block that is *refused* or *abandoned at a malformed field* (known findings F22, F23 — `ctx_sync` is stated in
full and refuted by a witness; the partial form covers blocks decoded to their end).
-/
namespace H2.Props.C09
open H2 H2.Server

/-- **A stream-scoped error stays on its stream**: the loop's reaction to a `reset`-typed error is exactly
one RST_STREAM and nothing else — no GOAWAY — and the loop is not left. -/
theorem stream_scoped_stays_scoped (r : R) (uid code : Nat) :
    (onFrameError r uid (some (.reset code))).2 = false ∧
    cnt .goAway (onFrameError r uid (some (.reset code))).1.out = cnt .goAway r.out ∧
    cnt .rst (onFrameError r uid (some (.reset code))).1.out ≤ cnt .rst r.out + 1 := by
  refine ⟨by simp [onFrameError], ?_, ?_⟩
  · simp only [onFrameError, writeError]
    split <;> simp [Out.kind]
  · simp only [onFrameError, writeError]
    split <;> simp [Out.kind]

/-- … and it changes no other stream's entry, nor the connection's closing state -/
theorem stream_scoped_leaves_others (r : R) (uid code : Nat) (st : Strm) (h : st ∈ r.s.strms) (hne : st.uid ≠ uid) :
    st ∈ (onFrameError r uid (some (.reset code))).1.s.strms ∧
    (onFrameError r uid (some (.reset code))).1.s.closing = r.s.closing := by
  have hb : (st.uid == uid) = false := by simpa using hne
  simp only [onFrameError, writeError]
  split
  · refine ⟨?_, rfl⟩
    simp only [R.updStrm, List.mem_map]
    exact ⟨st, h, by simp [hb]⟩
  · refine ⟨?_, rfl⟩
    simp only [R.updStrm, writeReset, R.emit, List.mem_map]
    exact ⟨st, ⟨st, h, by simp [hb]⟩, by simp [hb]⟩

/-- **Every malformed-message verdict is stream-scoped**: whatever field is decoded, the loop body accepts it,
or answers with RST_STREAM (PROTOCOL_ERROR, or ENHANCE_YOUR_CALM for a declared body over the limit), or —
the one connection error the design intends here — finds the header list over MaxHeaderListSize. -/
def StreamScopedVerdict (e : Option SErr) : Prop :=
  e = none ∨ e = some (.reset Gen.c_ProtocolError) ∨ e = some (.reset Gen.c_EnhanceYourCalm) ∨
  e = some (.goAway Gen.c_EnhanceYourCalm "header list exceeds the maximum size")

theorem field_verdicts (cfg : Cfg) (st : Strm) (f : Hpack.Field) :
    StreamScopedVerdict (fieldStep cfg st f).2 :=
  fieldVerdict_cases (P := StreamScopedVerdict) cfg st f (fun _ => .inl rfl) (.inr (.inr (.inr rfl))) (.inr (.inl rfl))
    (.inr (.inr (.inl rfl)))

/-- … and so does the loop over a whole fragment: besides the verdicts above only an undecodable block
(COMPRESSION_ERROR) ends it, or a field that is not complete yet and already longer than any field within
MaxHeaderListSize can be (the same connection error as for the list, F68). -/
theorem field_loop_verdicts (fuel : Nat) (s : Srv) (st : Strm) (bs eh : Bool) (fp : Nat) (b : Bytes) :
    (fieldLoop fuel s st bs eh fp b).2.2 = none ∨
    (fieldLoop fuel s st bs eh fp b).2.2 = some (.reset Gen.c_ProtocolError) ∨
    (fieldLoop fuel s st bs eh fp b).2.2 = some (.reset Gen.c_EnhanceYourCalm) ∨
    (fieldLoop fuel s st bs eh fp b).2.2 = some (.goAway Gen.c_CompressionError "compression") ∨
    (fieldLoop fuel s st bs eh fp b).2.2 = some (.goAway Gen.c_EnhanceYourCalm "header list exceeds the maximum size") ∨
    (fieldLoop fuel s st bs eh fp b).2.2 =
      some (.goAway Gen.c_EnhanceYourCalm "header field exceeds the maximum header list size") := by
  induction fuel generalizing s st fp b with
  | zero => simp [fieldLoop]
  | succ n ih =>
    cases b with
    | nil => simp [fieldLoop]
    | cons c cs =>
      simp only [fieldLoop]
      cases Hpack.Dec.next s.dec bs fp (c :: cs) with
      | needMore => simp only []; repeat' split
                    all_goals simp
      | err => simp
      | ok dec fo rest =>
        cases fo with
        | none => simp
        | some f =>
        simp only []
        have hv := field_verdicts s.cfg { st with fieldSeen := true } f
        cases hx : (fieldStep s.cfg { st with fieldSeen := true } f).2 with
        | none => simp only []; exact ih _ _ _ _
        | some e =>
          simp only []
          rw [hx] at hv
          simp only [StreamScopedVerdict] at hv
          rcases hv with h | h | h | h
          · cases h
          · injection h with h; simp [h]
          · injection h with h; simp [h]
          · injection h with h; simp [h]

/-- **Frames in flight for a stream the server has reset are ignored**: no error of any kind, the loop
goes on, no stream is created. -/
theorem frames_for_reset_stream_ignored (r : R) (fr : Frame.Frame) (wc : Bool)
    (h : r.s.resetByUs.contains fr.stream = true) :
    (unknownStream r fr wc).2 = none ∧
    cnt .goAway (unknownStream r fr wc).1.out = cnt .goAway r.out ∧
    cnt .rst (unknownStream r fr wc).1.out = cnt .rst r.out ∧
    (unknownStream r fr wc).1.s.slStopped = r.s.slStopped := by
  have e : unknownStream r fr wc =
      ((if fr.typ == Gen.c_FrameData then consumeConnWindow r fr.length else r), none) := by
    simp only [unknownStream, h, if_true]
  rw [e]
  refine ⟨rfl, ?_⟩
  exact ite_ind (P := fun x : R => cnt .goAway x.out = cnt .goAway r.out ∧ cnt .rst x.out = cnt .rst r.out ∧
      x.s.slStopped = r.s.slStopped)
    (fun _ => ⟨(consumeConnWindow_emits ..).cnt, (consumeConnWindow_emits ..).cnt,
      consumeConnWindow_cases (P := fun x => x.s.slStopped = r.s.slStopped) r _ (fun _ => rfl) fun _ _ => rfl⟩)
    fun _ => ⟨rfl, rfl, rfl⟩

/-- … and their DATA is still charged to, and credited on, the connection window -/
theorem data_for_reset_stream_charged (r : R) (fr : Frame.Frame) (wc : Bool)
    (h : r.s.resetByUs.contains fr.stream = true) (hd : fr.typ = Gen.c_FrameData) :
    (unknownStream r fr wc).1 = consumeConnWindow r fr.length := by
  simp only [unknownStream, h, if_true, hd, beq_self_eq_true]

/-! ### HPACK context (known findings F22, F23)
The decoder state after a header frame equals the state after decoding the *whole* fragment only when the
field loop reaches the end of the fragment. -/

/-- the decoder states along the field loop when nothing stops it: what a decoder that reads the whole
fragment ends with -/
def decOnly : Nat → Hpack.DecState → Bool → Nat → Bytes → Option Hpack.DecState
  | 0, _, _, _, _ => none
  | _, dec, _, _, [] => some dec
  | fuel + 1, dec, bs, fp, b =>
    match Hpack.Dec.next dec bs fp b with
    | .ok d (some _) rest => decOnly fuel d bs (fp + 1) rest
    | .ok d none _ => some d      -- only table size updates were left
    | _ => none

/-- full statement: whatever becomes of the stream, the decoder has consumed the whole fragment -/
def ctx_sync_full : Prop :=
  ∀ (s : Srv) (st : Strm) (b : Bytes) (dec : Hpack.DecState),
    decOnly (b.length + 1) s.dec true 0 b = some dec →
      (fieldLoop (b.length + 1) s st true true 0 b).1.dec = dec

/-- F23 witness: `X: 1` (upper-case name, literal with incremental indexing) followed by `y: 2` (also with
incremental indexing): the loop stops at the first field, so the second never reaches the table -/
theorem ctx_sync_witness : ¬ ctx_sync_full := by
  intro h
  have := h {} { uid := 0, id := 1, window := 0 }
    [0x40, 0x01, 0x58, 0x01, 0x31, 0x40, 0x01, 0x79, 0x01, 0x32] _ rfl
  revert this
  decide +kernel

/-- partial: when the loop reports no error on a complete block (END_HEADERS), the decoder is where a
decoder that read the whole block would be -/
theorem ctx_sync_partial (fuel : Nat) (s : Srv) (st : Strm) (bs : Bool) (fp : Nat) (b : Bytes)
    (hok : (fieldLoop fuel s st bs true fp b).2.2 = none) :
    decOnly fuel s.dec bs fp b = some (fieldLoop fuel s st bs true fp b).1.dec := by
  induction fuel generalizing s st fp b with
  | zero => simp [fieldLoop] at hok
  | succ n ih =>
    cases b with
    | nil => simp [fieldLoop, decOnly]
    | cons c cs =>
      simp only [fieldLoop, decOnly] at hok ⊢
      cases hd : Hpack.Dec.next s.dec bs fp (c :: cs) with
      | needMore => rw [hd] at hok; simp at hok
      | err => rw [hd] at hok; simp at hok
      | ok dec fo rest =>
        cases fo with
        | none => simp
        | some f =>
        rw [hd] at hok
        simp only [] at hok ⊢
        cases hx : (fieldStep s.cfg { st with fieldSeen := true } f).2 with
        | some e => rw [hx] at hok; simp at hok
        | none =>
          rw [hx] at hok
          simp only [] at hok ⊢
          exact ih _ _ _ _ hok

/-! ### a trailer section that does not end the stream (F67, repaired)

A second HEADERS frame without END_STREAM on a stream whose request headers are done makes the request malformed
(RFC 7540 8.1, 8.1.2.6). When the block ends in that frame it is decoded like any block and the answer is a stream
error: the offence is stream-scoped (`stream_scoped_stays_scoped`, `stream_scoped_leaves_others` apply to it) and the
decoder is where a decoder that read the whole block would be. A block that goes on in CONTINUATION frames is still a
connection error (the stream would be gone before the rest of the block arrives: the obstacle of F23). -/

/-- **trailer section without END_STREAM, block complete in the frame**: when the field loop accepts every field
of the block, `handleHeaderFrame` answers RST_STREAM(PROTOCOL_ERROR) and the HPACK decoder has consumed the
whole block (`decOnly`); `st0` is the stream as the loop starts on it -/
theorem trailer_not_last_stream_scoped (s : Srv) (st : Strm) (fr : Frame.Frame) (es : Bool)
    (prio : Option (Nat × Nat)) (frag : Bytes)
    (hp : ∀ d w, prio = some (d, w) → d ≠ st.id)
    (hF : st.headersFinished = true)
    (hS : Frame.hasFlag fr.flags Gen.c_FlagEndStream = false)
    (hH : Frame.hasFlag fr.flags Gen.c_FlagEndHeaders = true)
    (hb : fr.body = .headers es true prio frag) :
    ∃ st0 : Strm,
      (fieldLoop ((st.prevHdr ++ frag).length + 1) s st0 true true 0 (st.prevHdr ++ frag)).2.2 = none →
        (handleHeaderFrame s st fr).2.2 = some (.reset Gen.c_ProtocolError) ∧
        decOnly ((st.prevHdr ++ frag).length + 1) s.dec true 0 (st.prevHdr ++ frag) =
          some (handleHeaderFrame s st fr).1.dec := by
  refine ⟨{ st with regularSeen := true, fieldSeen := false, prevHdr := [] }, ?_⟩
  intro hx
  have hd := ctx_sync_partial _ _ _ _ _ _ hx
  simp only [handleHeaderFrame, hS, hH, hb, hF] at hx hd ⊢
  simp at hx hd ⊢
  cases prio with
  | none => simp [hx, hd]
  | some p =>
    obtain ⟨d, w⟩ := p
    have := hp d w rfl
    simp [hx, hd, this]

/-- … and it is never accepted: whatever the block holds, a trailer section without END_STREAM ends in an error -/
theorem trailer_not_last_refused (s : Srv) (st : Strm) (fr : Frame.Frame)
    (hF : st.headersFinished = true) (hS : Frame.hasFlag fr.flags Gen.c_FlagEndStream = false) :
    (handleHeaderFrame s st fr).2.2 ≠ none := by
  rw [handleHeaderFrame_eq, hF, hS]
  refine ite_ind (P := fun x : Srv × Strm × Option SErr => x.2.2 ≠ none) (fun _ => by simp) fun _ =>
    ite_ind (P := fun x : Srv × Strm × Option SErr => x.2.2 ≠ none) (fun _ => by simp) fun _ => ?_
  dsimp only
  generalize fieldLoop _ _ _ _ _ _ _ = X
  cases h : X.2.2 <;> simp [h]

/-- the part that is left (same obstacle as F23): the block goes on in CONTINUATION frames — connection error -/
theorem trailer_not_last_continued (s : Srv) (st : Strm) (fr : Frame.Frame)
    (hF : st.headersFinished = true)
    (hS : Frame.hasFlag fr.flags Gen.c_FlagEndStream = false)
    (hH : Frame.hasFlag fr.flags Gen.c_FlagEndHeaders = false) :
    handleHeaderFrame s st fr = (s, st, some (.goAway Gen.c_ProtocolError "stream not open")) := by
  simp [handleHeaderFrame, hF, hS, hH]

/-- non-vacuity (the trailer frame of `known/F67.ops`, cut to `x: 1` with incremental indexing): stream error,
and the entry is in the table -/
example :
    (handleHeaderFrame {} { uid := 0, id := 3, window := 0, headersFinished := true }
      { typ := 1, flags := 4, stream := 3, length := 5, body := .headers false true none [0x40, 0x01, 0x78, 0x01, 0x31] }).2.2
      = some (.reset Gen.c_ProtocolError) ∧
    (handleHeaderFrame {} { uid := 0, id := 3, window := 0, headersFinished := true }
      { typ := 1, flags := 4, stream := 3, length := 5, body := .headers false true none [0x40, 0x01, 0x78, 0x01, 0x31] }).1.dec.dyn
      = [([0x78], [0x31])] := by
  decide +kernel

/-! non-vacuity: a well-formed GET block (all indexed) passes the loop without error -/
example : (fieldLoop 4 {} { uid := 0, id := 1, window := 0 } true true 0 [0x82, 0x87, 0x84]).2.2 = none := by
  decide +kernel

end H2.Props.C09
