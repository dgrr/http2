import H2.Proofs.FrameTotal
import H2.Proofs.FrameChecked
import H2.Proofs.HpackTotal
/-!
# C16 — wire parsers are total: any bytes give a result or an error, in bounded work

`H2.Frame.readFrame` mirrors `ReadFrameFromWithSize` (run against the real code on every check, together with the
pool tracker's counts and anomalies predicted by `H2.Pool`). `H2.Frame.Chk.readFrame?` is the same path with Go's
run-time checks explicit. `H2.Frame.Spec.parse` is the RFC 7540 grammar. `H2.Hpack.Dec.next` / `H2.Huffman.decode` are the
HPACK/Huffman decoder models of properties C03/C15.
-/
namespace H2.Props.C16
open H2 H2.Frame

/-- **no_panic**: for every byte string (octets) and every limit, no index, slice, pool-array or `BytesToUint32` check of
the read path can fire; the checked model returns what `readFrame` returns -/
theorem no_panic (max : Nat) (b : Bytes) (hb : WF b) : Chk.readFrame? max b = some (readFrame max b) := by
  apply Chk.readFrame?_eq
  by_cases h : 3 < b.length
  · have : b.getD 3 0 = b[3] := by simp [List.getD, List.getElem?_eq_getElem h]
    rw [this]; exact hb _ (List.getElem_mem h)
  · have : b.getD 3 0 = 0 := by simp [List.getD, List.getElem?_eq_none (by omega : b.length ≤ 3)]
    omega

/-- **total**: every byte string is read the way the RFC grammar classifies it —
a well-formed frame to exactly its fields with `9 + length` consumed and the remainder left in the reader;
an unknown type skipped with the reader at `9 + length`; a malformed frame rejected with a non-I/O error;
input that ends inside the frame answered with an I/O error (or, for an unknown type, skipped to the end) -/
theorem total (max : Nat) (b : Bytes) (hb : WF b) : Refines b (Spec.parse max b) (readFrame max b) :=
  read_refines max b hb

/-- conversely, a frame that is returned is the RFC's reading of exactly the `9 + length` octets consumed -/
theorem ok_is_rfc_reading (max : Nat) (b : Bytes) (hb : WF b) (f : Frame) (c : Nat) (h : readFrame max b = .ok f c) :
    Spec.parse max b = .frame f (b.drop (9 + f.length)) ∧ c = 9 + f.length ∧ c ≤ b.length :=
  ok_is_rfc max b hb f c h

/-- **consumed_le**: whatever the outcome, no more than what is there and no more than header plus announced length is
taken from the reader; after `ok` exactly `9 + length` -/
theorem consumed_le (max : Nat) (b : Bytes) :
    (∀ f c, readFrame max b = .ok f c → c ≤ b.length ∧ c = 9 + be24 b) ∧
    (∀ t c, readFrame max b = .unknownType t c → c ≤ b.length ∧ c ≤ 9 + be24 b) ∧
    (∀ k c, readFrame max b = .err k c → c ≤ b.length ∧ (9 ≤ b.length → c ≤ 9 + be24 b)) :=
  Frame.consumed_le max b

/-- **too_large_rejected**: a length over the limit is refused from the header alone — 9 octets consumed, nothing
allocated, no body acquired -/
theorem too_large_rejected (max : Nat) (b : Bytes) (hm : max ≠ 0) (h9 : 9 ≤ b.length) (hl : be24 b > max) :
    readFrame max b = .err .tooLarge 9 ∧ Pool.alloc max b = 0 ∧ Pool.readEvents max b = [.acquire .fh, .release .fh] := by
  have h9' : ¬ b.length < 9 := by omega
  have hc : (max ≠ 0 && be24 b > max) = true := by simp [hm, hl]
  refine ⟨?_, ?_, ?_⟩
  · simp only [readFrame, h9', if_false, hc, if_true]
  · simp only [Pool.alloc, Pool.path, h9', if_false, hc, if_true]
  · simp only [Pool.readEvents, Pool.path, h9', if_false, hc, if_true, Pool.pathEvents]

/-- the allocation the input can cause is bounded by the limit -/
theorem alloc_le (max : Nat) (b : Bytes) (hm : max ≠ 0) : Pool.alloc max b ≤ max := Frame.alloc_le max b hm

/-- **malformed_rejected**: what the RFC grammar calls malformed is never returned as a frame -/
theorem malformed_rejected (max : Nat) (b : Bytes) (hb : WF b) (c : Nat) (h : Spec.parse max b = .malformed c) :
    ∃ k n, readFrame max b = .err k n ∧ k ≠ .io := by
  have := read_refines max b hb
  rw [h] at this
  exact this

/-- impossible fixed-size or padding structure (per type: PRIORITY ≠ 5, RST_STREAM ≠ 4, SETTINGS not a multiple of 6 or
ACK with payload, PING ≠ 8, GOAWAY < 8, WINDOW_UPDATE ≠ 4, pad length ≥ payload length or missing for DATA/HEADERS/
PUSH_PROMISE) is rejected, whatever the flags and the rest of the payload -/
theorem impossible_structure_rejected (max typ flags stream : Nat) (p rest : Bytes) (hp : WF p) (hr : WF rest)
    (ht : typ < 256) (hf : flags < 256) (hs : stream < 2 ^ 32) (hl : p.length < 2 ^ 24) (hm : max = 0 ∨ p.length ≤ max)
    (himp : Impossible typ flags p) :
    ∃ k n, readFrame max (toBe24 p.length ++ [typ, flags] ++ toBe32 stream ++ p ++ rest) = .err k n ∧ k ≠ .io := by
  obtain ⟨c, hc⟩ := impossible_bad typ flags p himp
  have ht9 : ¬ typ > 9 := by
    rcases himp with ⟨h, _⟩ | ⟨h, _⟩ | ⟨h, _⟩ | ⟨h, _⟩ | ⟨h, _⟩ | ⟨h, _⟩ | ⟨h, _⟩ | ⟨h, _⟩ <;> omega
  refine malformed_rejected max _ ?wf c ?eq
  case wf =>
    have hw1 : WF (toBe24 p.length) := by intro x hx; simp [toBe24] at hx; omega
    have hw2 : WF [typ, flags] := by intro x hx; simp at hx; omega
    have hw3 : WF (toBe32 stream) := by intro x hx; simp [toBe32] at hx; omega
    have app : ∀ a b : Bytes, WF a → WF b → WF (a ++ b) := fun a b ha hb x hx => by
      rcases List.mem_append.mp hx with h | h
      · exact ha x h
      · exact hb x h
    exact app _ _ (app _ _ (app _ _ (app _ _ hw1 hw2) hw3) hp) hr
  case eq =>
    have hmax : ¬ (max ≠ 0 ∧ p.length > max) := by omega
    have h24 : (p.length / 65536 % 256 * 256 + p.length / 256 % 256) * 256 + p.length % 256 = p.length := by omega
    simp [Spec.parse, Spec.parseHdr, toBe24, toBe32, h24, hmax, ht9, hc]

/-- **unknown_skipped**: a frame of unknown type (≥ 0x0a, including ≥ 0x80 where `FrameType` is negative) is skipped
and the reader is left at the next frame -/
theorem unknown_skipped (max : Nat) (b : Bytes) (hb : WF b) (t l : Nat) (rest : Bytes)
    (h : Spec.parse max b = .ignored t l rest) :
    readFrame max b = .unknownType t (9 + l) ∧ rest = b.drop (9 + l) ∧ 9 + l ≤ b.length := by
  have := read_refines max b hb
  rw [h] at this
  exact this

/-- **pool_once**: on every return path of `ReadFrameFromWithSize` followed by the consumer's `ReleaseFrameHeader`,
every acquired object is released at most once (no tracker anomaly, the body never sits in its pool twice); a frame
that is returned still owns its header and body (nothing reachable from it has been released); after an error
nothing stays held -/
theorem pool_once (max : Nat) (b : Bytes) :
    (Pool.check (Pool.readEvents max b ++ Pool.callerRelease (Pool.path max b))).anomalies = [] ∧
    Pool.bodyFreeTwice (Pool.readEvents max b ++ Pool.callerRelease (Pool.path max b)) = false ∧
    (Pool.path max b = .ok →
      Pool.count (Pool.readEvents max b) (.release .fh) = 0 ∧ Pool.count (Pool.readEvents max b) (.release .body) = 0) ∧
    (Pool.path max b ≠ .ok →
      (Pool.check (Pool.readEvents max b)).heldFh = false ∧ (Pool.check (Pool.readEvents max b)).heldBody = false) :=
  pool_paths (Pool.path max b)

/-- the return path the pool model follows is the one the reader's result shows -/
theorem pool_path_matches (max : Nat) (b : Bytes) :
    match Pool.path max b with
    | .noHeader => readFrame max b = .err .io 0
    | .tooLarge => readFrame max b = .err .tooLarge 9
    | .unknownType => ∃ t c, readFrame max b = .unknownType t c
    | .shortPayload => readFrame max b = .err .io b.length
    | .deserErr => ∃ k, readFrame max b = .err k (9 + be24 b)
    | .ok => ∃ f, readFrame max b = .ok f (9 + be24 b) :=
  path_class max b

/-- **hpack_total** (progress): every successful step of the header-field decoder on non-empty input consumes at least
one octet, so decoding a block terminates after at most `|block|` steps -/
theorem hpack_total (st : Hpack.DecState) (blockStart : Bool) (fieldsProcessed : Nat) (b : Bytes) (hne : b ≠ [])
    (st' : Hpack.DecState) (f : Option Hpack.Field) (rest : Bytes)
    (h : Hpack.Dec.next st blockStart fieldsProcessed b = .ok st' f rest) : rest.length < b.length :=
  Hpack.nextFuel_lt _ st blockStart fieldsProcessed b st' f rest hne h

/-- … and every string it decodes from the input is bounded by the input consumed for it (≥ 5 bits per octet, raw or
Huffman), so is the value of every literal field -/
theorem hpack_string_bound (b s r : Bytes) (h : Hpack.readString b = .ok s r) :
    r.length < b.length ∧ 5 * s.length ≤ 8 * (b.length - r.length) :=
  Hpack.readString_bound b s r h

theorem hpack_literal_bound (st : Hpack.DecState) (n : Nat) (b name v r : Bytes)
    (h : Hpack.readLiteral st n b = .inl (some (name, v, r))) :
    r.length < b.length ∧ 5 * v.length ≤ 8 * (b.length - r.length) :=
  Hpack.readLiteral_bound st n b name v r h

/-- **huff_total**: Huffman decoding is a total function (it is one) whose output is bounded by its input -/
theorem huff_total (b s : Bytes) (h : Huffman.decode b = some s) : 5 * s.length ≤ 8 * b.length :=
  Huffman.decode_bound b s h

/-! non-vacuity -/
example : readFrame 16384 [0, 0, 6, 2, 0, 0, 0, 0, 1, 0, 0, 0, 3, 255, 0] = .err (.other 6) 15 := by decide
example : Impossible 2 0 [0, 0, 0, 3, 255, 0] := by unfold Impossible; decide
example : Spec.parse 16384 [0, 0, 1, 0x90, 0, 0, 0, 0, 1, 7, 9] = .ignored 0x90 1 [9] ∧
    readFrame 16384 [0, 0, 1, 0x90, 0, 0, 0, 0, 1, 7, 9] = .unknownType 0x90 10 := by decide
example : readFrame 5 [0, 0, 6, 0, 0, 0, 0, 0, 1, 1, 2, 3, 4, 5, 6] = .err .tooLarge 9 := by decide
example : Pool.path 16384 [0, 0, 5, 0, 0, 0, 0, 0, 1, 1, 2] = .shortPayload := by decide
example : Hpack.Dec.next {} true 0 [0x82] = .ok {} (some ⟨[58, 109, 101, 116, 104, 111, 100], [71, 69, 84], false⟩) [] := by decide

end H2.Props.C16
