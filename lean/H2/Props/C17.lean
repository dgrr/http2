import H2.Proofs.Slots
import H2.Server.Model
/-!
# C17 — the server never recycles a request context a handler is still using; the step function is total

**Ownership** (abstract model `H2.Server.Abs.Slots`, every event sequence). Each stream object carries the
ghost identity `uid` of the `*Stream`/`*fasthttp.RequestCtx` pair it took from the pools. Ghost ledgers,
kept independently of the `handlerRunning` flags the code consults: `handlers` — contexts a handler
goroutine was started with and has not reported back for; `pool` — contexts put back with `ctxPool.Put`;
`trace` — `dispatched`, `returned`, `released u inUse` records in order, where `inUse` is computed from
the ledger at the moment of the `Put`.

**Totality.** `H2.Server.stepR : Srv → Event → R` is a total Lean function and `R`/`Out` have no "panicked"
outcome for the serving code: the model cannot even express a panic of `readLoop`, `handleStreams`,
`writeLoop` or `Serve`. That the Go code does not panic where the model just computes on is therefore an
ASSUMPTION of every theorem about the model, discharged outside Lean: (a) by the correspondence runs
(the harness reports a Go panic as the result `panic`, which the model never prints, and the monitors of
C17 look for "panicked" in the server's log), (b) by the inspection of every expression of `serverConn.go`
that can panic (index, nil dereference, type assertion, channel operation) in the report's table.
The only panic the model knows is the application handler's own (`Out.handlerPanicLogged`), which the
code recovers and answers with a 500.
-/
namespace H2.Props.C17
open H2.Server.Abs.Slots

theorem reachable (max : Nat) (evs : List Ev) : Own (run (init max) evs) := run_own evs _ (init_own max)

/-- **a context is never recycled while in use**: whenever a context goes back to the pool, no handler
has it (at that very moment, by the independent ledger) … -/
theorem ctx_not_recycled_in_use (max : Nat) (evs : List Ev) :
    ∀ u inUse, Rec.released u inUse ∈ (run (init max) evs).trace → inUse = false :=
  (reachable max evs).relOK

/-- … and in every reachable state no running handler holds a context that is in the pool (so neither
"released while the handler runs" nor "a handler started on a released context" ever happens) -/
theorem pool_and_handlers_disjoint (max : Nat) (evs : List Ev) :
    ∀ u ∈ (run (init max) evs).pool, u ∉ (run (init max) evs).handlers := by
  intro u hp hh
  have h := reachable max evs
  obtain ⟨s, hs, e, _⟩ := (h.hand u).mp hh
  exact h.disj s hs (e ▸ hp)

/-- **released at most once**: the contexts put back are pairwise different, and they are exactly the
`released` records of the trace -/
theorem ctx_released_once (max : Nat) (evs : List Ev) :
    (run (init max) evs).pool.Nodup ∧
    (run (init max) evs).pool = (run (init max) evs).trace.filterMap relUid :=
  ⟨(reachable max evs).poolNodup, (reachable max evs).poolTrace⟩

/-- the flags the code consults agree with the ledger: a context is in a handler's hands exactly when its
stream object (in the table or abandoned) has `handlerRunning` set; live stream objects have pairwise
different contexts, none of them in the pool -/
theorem flags_match_ledger (max : Nat) (evs : List Ev) :
    let st := run (init max) evs
    (∀ u, u ∈ st.handlers ↔ ∃ s ∈ st.tbl ++ st.abandoned, s.uid = u ∧ s.running = true) ∧
    ((st.tbl ++ st.abandoned).map (·.uid)).Nodup ∧
    (∀ s ∈ st.tbl ++ st.abandoned, s.uid ∉ st.pool) :=
  let h := reachable max evs
  ⟨h.hand, h.nodup, h.disj⟩

/-- **totality**: every event has an outcome in every state (see the module text for what this does and
does not say about the Go code) -/
theorem stepR_total (s : H2.Server.Srv) (ev : H2.Server.Event) : ∃ r : H2.Server.R, H2.Server.stepR s ev = r :=
  ⟨_, rfl⟩

/-- the outcomes: a list of frames/dispatch records/markers; the only panic marker is the handler's -/
theorem outcomes_enumerated (o : H2.Server.Out) :
    (∃ x, o = .settings x) ∨ o = .settingsAck ∨ (∃ a b, o = .wu a b) ∨ (∃ a b, o = .ping a b) ∨
    (∃ a b c d e f, o = .headers a b c d e f) ∨ (∃ a b c d e, o = .cont a b c d e) ∨ (∃ a b c d, o = .data a b c d) ∨ (∃ a b, o = .rst a b) ∨
    (∃ a b c, o = .goAway a b c) ∨ (∃ a b c d e f, o = .dispatch a b c d e f) ∨
    o = .handlerPanicLogged ∨ o = .returned := by
  cases o <;> simp

/-! non-vacuity: request 1 dispatched, reset by the peer while the handler runs (abandoned, nothing
released), handler returns (released, not in use); request 3 answered normally -/
example : (run (init 2) [.hdrNew 1 false, .dispatch 1, .close 1, .hdrNew 3 false, .dispatch 3,
                         .done 1 false, .done 3 true]).trace =
    [.dispatched 1 0, .dispatched 3 1, .returned 0, .released 0 false, .returned 1, .released 1 false] := by decide

end H2.Props.C17
