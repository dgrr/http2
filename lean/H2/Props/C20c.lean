import H2.Proofs.ClientSerial
/-!
# C20 (client half) — a response is delivered iff its header list is well-formed

After fix F38. `delivered` is the acceptance decision of `readHeader` + `dispatch` on a complete block
(field list already decoded), `WFResponse` the RFC 7540 §8.1.2 predicate of the property text.
-/
namespace H2.Props.C20c

open H2.Client

/-- **delivered_iff_wf**: the client hands a response to the caller exactly when its header list is
well-formed (single valid `:status` first, lower-case regular fields, none connection-specific,
numeric `content-length`) -/
theorem delivered_iff_wf (hs : List (Bytes × Bytes)) : delivered hs = WFResponse hs := by
  match hs with
  | [] => rfl
  | (k, v) :: rest =>
    have hi := fieldStep_isSome { tag := "" } false false k v
    -- `:status` is a pseudo-header name
    have hst : isPseudo k = false → (k == Gen.s_StringStatus) = false := fun hp =>
      Bool.eq_false_iff.mpr fun hk => by rw [eq_of_beq hk] at hp; cases hp
    rw [delivered, fieldLoop, WFResponse]
    cases hfs : fieldStep { tag := "" } false false k v with
    | none =>
      -- the first field is refused: it is not a valid `:status`
      rw [hfs] at hi
      cases hp : isPseudo k with
      | false => rw [hst hp]; rfl
      | true =>
        rw [hp, if_pos rfl] at hi
        rw [show (k == Gen.s_StringStatus && validStatus v) = false from hi.symm]
        rfl
    | some y =>
      obtain ⟨r', rs, ss⟩ := y
      rw [hfs] at hi
      rcases fieldStep_some hfs with ⟨hp, _, _, rfl, rfl, _⟩ | ⟨hp, rfl, rfl, _⟩
      · -- a valid `:status`: the rest decides
        rw [hp, if_pos rfl] at hi
        rw [show (k == Gen.s_StringStatus && validStatus v) = true from hi.symm, Bool.true_and,
          ← (loop_after_status rest r' false).1]
        dsimp only
        cases hl : fieldLoop r' false true rest with
        | none => rfl
        | some x => exact (loop_after_status rest r' false).2 x hl
      · -- a regular field first: whatever follows, no status is ever recorded
        rw [hst hp]
        dsimp only
        cases hl : fieldLoop r' true false rest with
        | none => rfl
        | some x => exact loop_no_status rest r' x hl

/-! non-vacuity and the shapes of finding F38 (fixed) -/
example : delivered [(Gen.s_StringStatus, [50, 48, 48]), ([120, 45, 97], [49])] = true := by decide
example : delivered [([120, 45, 97], [49])] = false := by decide                         -- no :status
example : delivered [(Gen.s_StringStatus, [50, 48, 48]), (Gen.s_StringStatus, [52, 48, 52])] = false := by decide
example : delivered [(Gen.s_StringStatus, List.replicate 20 57)] = false := by decide   -- overflows int

end H2.Props.C20c
