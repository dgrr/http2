import H2.Proofs.ClientInter
import H2.Proofs.ClientGoAway
import H2.Proofs.ClientRunGoAway
/-!
# C11 — the client honours GOAWAY; only a never-processed request is called retryable

* `retry_sound` (all interleavings of `Write`, `Close`, the write loop and its teardown, the read loop with
  `finish` and `afterGoAway`, timers — model `H2.Client.Inter`): a request whose caller reads an error that
  `retryable` accepts either never had its HEADERS written or was disclaimed by the server's GOAWAY (its
  stream is above last-stream-id). Proved for the code after fix F42; `F42_prefix_witness` shows the code
  before it reaches "written, not disclaimed and reported retryable".
* `no_stream_after_goaway` (serial model `H2.Client.step`, the one compared with the real `Conn`): once a
  GOAWAY has been processed, `writeRequest` writes nothing and turns the request away with the retryable
  `ErrNotAvailableStreams`.
* `C11_full`, the rest of the property text: requests above last-stream-id end promptly, with an error, those at
  or below it are kept and the read loop goes on for them. Refuted before the repair of F37, now the theorem
  `goaway_honoured`; the inputs that refuted it are the regression examples `F37_regression_*`.
-/
namespace H2.Props.C11

open H2.Client

/-! ## retry soundness -/

open H2.Client.Inter in
/-- **retry_sound**: whatever the interleaving, a caller that reads a retryable error has a request whose
HEADERS were never written, or one the server disclaimed in its GOAWAY (so re-sending it cannot make a server
process it twice) -/
theorem retry_sound {s : Inter.S} (h : Inter.Reach recheckFixed s) (i : Nat)
    (hr : (s.r i).result = some .retryable) : (s.r i).written = false ∨ (s.r i).disclaimed = true :=
  ((reachB recheckFixed_ne h i).b4 hr).1

open H2.Client.Inter in
/-- the same for a value still waiting in the channel -/
theorem retry_sound_pending {s : Inter.S} (h : Inter.Reach recheckFixed s) (i : Nat)
    (hr : (s.r i).errBuf = some .retryable) : (s.r i).written = false ∨ (s.r i).disclaimed = true :=
  ((reachB recheckFixed_ne h i).b3 hr).1

open H2.Client.Inter in
/-- only a request whose HEADERS went out is ever marked as disclaimed: the second alternative of `retry_sound` is
"written and disclaimed" -/
theorem disclaimed_was_written {s : Inter.S} (h : Inter.Reach recheckFixed s) (i : Nat)
    (hd : (s.r i).disclaimed = true) : (s.r i).written = true :=
  (reachB recheckFixed_ne h i).b6 (.inl hd)

open H2.Client.Inter in
/-- **headers_at_most_once** on a connection: a request comes off the queue at most once -/
theorem taken_once {s : Inter.S} (h : Inter.Reach recheckFixed s) (i : Nat) (hq : (s.r i).inQ = true) :
    (s.r i).written = false :=
  (reachB recheckFixed_ne h i).b2 hq

open H2.Client.Inter in
/-- **F42 (before the fix)**: `Write` enqueues, the write loop writes the request, `Close` closes `done`
with no reason recorded yet, `Write`'s second select resolves with `ErrConnectionClosed`, the caller
reads it: written and reported retryable. Replayed on the real code through the yield points
(findings/F42-C11-before.json). -/
theorem F42_prefix_witness : ∃ s, Inter.Reach recheckOld s ∧ (s.r 0).written = true ∧ (s.r 0).disclaimed = false ∧
    (s.r 0).result = some .retryable := by
  have r1 := Reach.step (rv := recheckOld) Reach.init (Step.enqueue init 0 rfl)
  have r2 := Reach.step r1 (Step.wlTakeWrite _ 0 rfl rfl)
  have r3 := Reach.step r2 (Step.close _)
  have r4 := Reach.step r3 (Step.recheckD _ 0 rfl rfl)
  have r5 := Reach.step r4 (Step.read _ 0 .retryable rfl rfl)
  exact ⟨_, r5, rfl, rfl, rfl⟩

open H2.Client.Inter in
/-- non-vacuity of `retry_sound`: a retryable result is reachable (a request turned away by
`CanOpenStream`) -/
example : ∃ s, Inter.Reach recheckFixed s ∧ (s.r 0).result = some .retryable := by
  have r1 := Reach.step (rv := recheckFixed) Reach.init (Step.enqueue init 0 rfl)
  have r2 := Reach.step r1 (Step.recheckN _ 0 rfl rfl)
  have r3 := Reach.step r2 (Step.wlTakeReject _ 0 rfl rfl)
  have r4 := Reach.step r3 (Step.read _ 0 .retryable rfl rfl)
  exact ⟨_, r4, rfl⟩


open H2.Client.Inter in
/-- non-vacuity of the second alternative: a written request the server disclaims is reported retryable -/
example : ∃ s, Inter.Reach recheckFixed s ∧ (s.r 0).written = true ∧ (s.r 0).disclaimed = true ∧
    (s.r 0).result = some .retryable := by
  have r1 := Reach.step (rv := recheckFixed) Reach.init (Step.enqueue init 0 rfl)
  have r2 := Reach.step r1 (Step.recheckN _ 0 rfl rfl)
  have r3 := Reach.step r2 (Step.wlTakeWrite _ 0 rfl rfl)
  have r4 := Reach.step r3 (Step.refuse _ 0 .retryable rfl (by decide))
  have r5 := Reach.step r4 (Step.read _ 0 .retryable rfl rfl)
  exact ⟨_, r5, rfl, rfl, rfl⟩

/-! ## GOAWAY on the serial model -/

/-- processing a GOAWAY frame sets the flag `CanOpenStream` reads -/
theorem goaway_sets_flag (c : Conn) (f : Frame.Frame) (last code : Nat) (d : Bytes)
    (hs : f.stream = 0) (hb : f.body = .goAway last code d) : (rdFrame c f).1.goAway = true := by
  rw [rdFrame_goAway c f last code d hs hb]
  split
  · obtain ⟨_, h⟩ := setLastErr_shape { c with goAway := true } .goaway
    rw [h]
  · obtain ⟨_, _, _, _, h⟩ := refuseAbove_eq c.reqQueued { c with goAway := true, closeRef := last, stateClosed := true }
    rw [afterGoAway, h]

/-- **no_stream_after_goaway**: with the flag set, `writeRequest` writes no frame, allocates no stream
id and leaves the request with `ErrNotAvailableStreams` -/
theorem no_stream_after_goaway (c : Conn) (r : ReqSpec) (hg : c.goAway = true) :
    (writeRequest c r).2 = [] ∧ (writeRequest c r).1.nextID = c.nextID ∧
    (writeRequest c r).1 = resolve c r.tag .noStreams := by
  simp [writeRequest, canOpenStream, hg, resolve, updReq]

/-- and that error is one a caller may retry on another connection -/
theorem turned_away_is_retryable : Err.noStreams.retryable = true := by decide

/-- nothing else the connection reports is retryable except the two "never sent" sentinels and the error of a
request the server's GOAWAY disclaimed (`goAwayErr`, which wraps `ErrConnectionClosed`) -/
theorem retryable_iff (e : Err) : e.retryable = true ↔ (e = .connClosed ∨ e = .noStreams ∨ e = .noIds) := by
  cases e <;> simp [Err.retryable] <;> decide

/-- a disclaimed request is never reported as successful … -/
theorem goAwayErr_ne_ok (r : Req) : goAwayErr r ≠ .ok := by
  simp only [goAwayErr]; split <;> simp

/-- … and is called retryable exactly when its body did not come from a reader (one that did has been consumed and
cannot be sent a second time) -/
theorem goAwayErr_retryable (r : Req) : (goAwayErr r).retryable = !r.streamed := by
  cases h : r.streamed <;> simp [goAwayErr, h, Err.retryable] <;> decide

/-! ## the rest of the property: prompt failure above last-stream-id, the accepted streams are kept -/

/-- full statement for the serial model.
(1) When a GOAWAY with last-stream-id `last > 0` is processed, no request on a stream above `last` stays in the
table, and every request that was waiting there has a result (`refuse_resolves`: the error `goAwayErr`) unless its
caller has taken it back already.
(2) From then on the read loop stops after a stream frame only if `dispatch` says so (a flow-control error) or no
request at all is left waiting; and what it removes from the table are streams above `last` only. -/
def C11_full : Prop :=
  (∀ (c : Conn) (f : Frame.Frame) (last code : Nat) (d : Bytes), f.stream = 0 → f.body = .goAway last code d → last > 0 →
      (∀ p ∈ (rdFrame c f).1.reqQueued, p.1 ≤ last) ∧
      (∀ p ∈ c.reqQueued, p.1 > last → Settled (rdFrame c f).1 p.2)) ∧
  (∀ (c : Conn) (f : Frame.Frame),
      ((dispatchLoop c f).2 = true → (dispatch c f).2 = true ∨ (dispatchLoop c f).1.reqQueued = []) ∧
      (∀ p ∈ (dispatch c f).1.reqQueued, p.1 ≤ (dispatch c f).1.closeRef → p ∈ (dispatchLoop c f).1.reqQueued))

theorem goaway_honoured : C11_full := by
  constructor
  · intro c f last code d hs hb hl
    rw [rdFrame_goAway c f last code d hs hb, if_neg (by simpa using Nat.ne_of_gt hl), afterGoAway]
    refine ⟨fun p hp => ?_, fun p hp hgt => (refuseAbove_settles c.reqQueued _).2 p hp hgt⟩
    -- a stream still in the table was there before, and `afterGoAway` went through all of those above `last`
    obtain ⟨hm, hne⟩ := (refuseAbove_table c.reqQueued _).1 p hp
    exact Nat.le_of_not_gt fun hgt => hne p hm hgt rfl
  · intro c f
    simp only [dispatchLoop, afterGoAway]
    rcases hd : dispatch c f with ⟨c1, stop⟩
    simp only
    split
    · obtain ⟨t4, t5⟩ := refuseAbove_table c1.reqQueued c1
      refine ⟨fun h => (Bool.or_eq_true_iff.mp h).imp_right fun h => ?_, fun p hp hle => t5 p hp hle⟩
      -- every stream is above `closeRef`: none survives
      rw [List.eq_nil_iff_forall_not_mem]
      intro p hp
      obtain ⟨hm, hne⟩ := t4 p hp
      exact hne p hm (by simpa using List.all_eq_true.mp h p hm) rfl
    · exact ⟨fun h => .inl h, fun p hp _ => hp⟩

/-! ## the inputs of finding F37 as regression examples -/

def cW : Conn := { reqs := [{ tag := "a", sid := 1, hasConn := true }, { tag := "b", sid := 3, hasConn := true }],
                   reqQueued := [(1, "a"), (3, "b")], nextID := 5, openStreams := 2 }

def goAwayFrame : Frame.Frame := ⟨Gen.c_FrameGoAway, 0, 0, 8, .goAway 1 0 []⟩

/-- GOAWAY(last = 1) used to leave the request on stream 3 waiting: it now has the retryable error at once, the
request on stream 1 is left alone (non-vacuity of the first half of `goaway_honoured`) -/
theorem F37_regression_above :
    (rdFrame cW goAwayFrame).1.reqs.map (fun q => (q.sid, q.errBuf)) = [(1, none), (3, some .connClosed)] ∧
    (rdFrame cW goAwayFrame).1.reqQueued = [(1, "a")] ∧ (rdFrame cW goAwayFrame).2 = false := by
  decide

/-- after that GOAWAY a DATA frame without END_STREAM on stream 1 used to stop the read loop: it goes on … -/
theorem F37_regression_last :
    (rdFrame (rdFrame cW goAwayFrame).1 ⟨Gen.c_FrameData, 0, 1, 1, .data false [120]⟩).2 = false := by
  decide

/-- … until the response on stream 1 is complete -/
example :
    (rdFrame (rdFrame (rdFrame cW goAwayFrame).1 ⟨Gen.c_FrameHeaders, 4, 1, 1, .headers false true none [0x88]⟩).1
      ⟨Gen.c_FrameData, 1, 1, 1, .data true [120]⟩).2 = true := by
  decide

/-! ## the FULL serial model, every run (`H2.Client.run`, any event list)

`goaway_honoured` above is about ONE frame; here the
same for whole runs of `H2.Client.step` from the connection the driver creates (`Init`, see `Props/C12.lean`).
Proofs: `H2/Proofs/ClientRunHdr.lean` (`step_frames_spec`: which steps write HEADERS) and `ClientRunGoAway.lean`. -/

section FullModel
open H2.Client

/-- **Full.no_new_stream_after_goaway**: in any run, once the connection has processed a GOAWAY frame (`goAway`, or
`stateClosed` which implies it), no later step writes a frame of a header block (`writesHeaders`: HEADERS with or without END_HEADERS, CONTINUATION),
whatever the events are: no new stream is opened.
(Requests that arrive afterwards are turned away with `ErrNotAvailableStreams`: `no_stream_after_goaway`.) -/
theorem Full.no_new_stream_after_goaway (c : Conn) (h : Init c) (pre post : List Event)
    (hg : (run c pre).1.goAway = true ∨ (run c pre).1.stateClosed = true) :
    AllSteps (fun _ _ c' o => c'.goAway = true ∧ writesHeaders o = false) (run c pre).1 post := by
  have hi := run_hinv (init_hinv h) pre
  exact no_headers_after_goaway _ hi (hg.elim id hi.closed) post

/-- … in particular no frame that opens a stream (`.headers`, or `.hfrag`: a HEADERS frame without END_HEADERS) -/
theorem Full.no_stream_opening_frame_after_goaway (c : Conn) (h : Init c) (pre post : List Event)
    (hg : (run c pre).1.goAway = true ∨ (run c pre).1.stateClosed = true) :
    AllSteps (fun _ _ c' o => c'.goAway = true ∧ opensStream o = false) (run c pre).1 post := by
  have := Full.no_new_stream_after_goaway c h pre post hg
  revert this
  generalize (run c pre).1 = c0
  induction post generalizing c0 with
  | nil => intro _; trivial
  | cons e es ih => intro hh; exact ⟨⟨hh.1.1, not_writes_not_opens hh.1.2⟩, ih _ hh.2⟩

/-- **Full.goaway_frame_sets_flag**: in every reachable state, a GOAWAY frame handed to the read loop sets the flag,
whatever its last-stream-id -/
theorem Full.goaway_frame_sets_flag (c : Conn) (h : Init c) (evs : List Event) (f : Frame.Frame) (last code : Nat) (d : Bytes)
    (hs : f.stream = 0) (hb : f.body = .goAway last code d) : (rdFrame (run c evs).1 f).1.goAway = true :=
  goaway_sets_flag _ f last code d hs hb

/-- **Full.goaway_disclaims**: what GOAWAY(last > 0) does in ANY state, request by request.
(1) A request waiting (no result, not taken back) on a stream above `last` holds exactly `goAwayErr` afterwards:
`ErrConnectionClosed` (retryable) unless its body came from a reader (`goAwayErr_retryable`).
(2) A request none of whose streams is above `last` is not touched at all (no error from the GOAWAY) and its streams stay
in the table: its response is still awaited. -/
theorem Full.goaway_disclaims (c : Conn) (f : Frame.Frame) (last code : Nat) (d : Bytes)
    (hs : f.stream = 0) (hb : f.body = .goAway last code d) (hl : 0 < last) :
    (∀ sid tag r, (sid, tag) ∈ c.reqQueued → sid > last → getReq c tag = some r → r.done = false → r.errBuf = none →
      getReq (rdFrame c f).1 tag = some { r with errBuf := some (goAwayErr r) }) ∧
    (∀ tag, (∀ sid, (sid, tag) ∈ c.reqQueued → sid ≤ last) →
      getReq (rdFrame c f).1 tag = getReq c tag ∧
      ∀ sid, (sid, tag) ∈ c.reqQueued → (sid, tag) ∈ (rdFrame c f).1.reqQueued) :=
  H2.Client.goaway_disclaims c f last code d hs hb hl

/-! ### non-vacuity: two requests, GOAWAY(last = 1), a third request -/

def fullReq (tag : String) : ReqSpec :=
  { tag := tag, method := [71, 69, 84], scheme := [104, 116, 116, 112, 115], host := [104], path := [47], ua := [117],
    hdrs := [], body := .none }

/-- GOAWAY, last-stream-id 1, NO_ERROR -/
def fullGoAway : List Nat := [0, 0, 8, 7, 0, 0, 0, 0, 0, 0, 0, 0, 1, 0, 0, 0, 0]

def fullRun : List Event := [.req (fullReq "a"), .req (fullReq "b"), .bytes fullGoAway, .req (fullReq "c"), .read "b", .read "c"]

/-- the two requests open streams, the flag is set by the GOAWAY, the third request writes nothing -/
example : (run {} fullRun).2.map writesHeaders = [true, true, false, false, false, false] ∧
    (run {} (fullRun.take 3)).1.goAway = true ∧ (run {} (fullRun.take 3)).1.stateClosed = true := by decide +kernel

/-- "b" (stream 3 > 1) is disclaimed with the retryable error, "a" (stream 1) is left waiting without an error, "c" is
turned away with the other retryable error -/
example : ((run {} fullRun).1.reqs.map fun q => (q.tag, q.sid, q.errBuf, q.done)) =
    [("a", 1, none, false), ("b", 3, none, true), ("c", 0, none, true)] ∧
    (getReq (run {} (fullRun.take 4)).1 "b").map (·.errBuf) = some (some .connClosed) ∧
    (getReq (run {} (fullRun.take 4)).1 "c").map (·.errBuf) = some (some .noStreams) ∧
    (run {} (fullRun.take 4)).1.reqQueued = [(1, "a")] := by decide +kernel

end FullModel

end H2.Props.C11
